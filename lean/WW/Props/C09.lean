/-
  C09 — Fee distributor: epoch ledgers balance and no epoch is paid twice.

  Theorems about `WW.Model.Distributor` with MULTI-ASSET epoch ledgers: the distribution asset is part of
  the state and the owner may switch it in mid-history (op `setDist` = `UpdateConfig { distribution_asset }`),
  so an epoch created after a switch receives its inflow in the new asset AND the unclaimed remainder of
  the expiring epoch in the old one; `total / available / claimed` are the `Vec<Asset>` of the Rust
  (association lists in vector order), every statement below is PER ASSET (`amtOf a`, `sumAvail a`, …).
  The collector's inflow per new epoch (in whatever the distribution asset is at that moment), the lair's
  weight share per (address, epoch) and the lair's `first_bonded_epoch_id` are arbitrary parameters of the
  operations: every theorem below holds for all of them.  Histories are arbitrary lists of operations
  (`NewEpoch` / `Claim` by anybody / `UpdateConfig{grace_period}` / `UpdateConfig{distribution_asset}` /
  token gifts in any asset), failed operations leave the state unchanged; bonding and unbonding act on
  the lair only and do not touch the ledger.
  `joint_histories` restates the history invariants over the joint machine of the `feeflow` engine, whose
  alphabet contains every entry point the engine sends (also direct `CollectFees` / `AggregateFees`).

  LEDGER CLAUSE AT FULL STRENGTH (`epoch_ledger`, `epoch_ledger_per_asset`).  For every asset of every epoch,
  also of an epoch that holds several assets, `claimed + available = total` until the epoch expires:
  `claim` records every reward with `asset::aggregate_assets(epoch.claimed, [reward])`, which adds to the
  entry of that asset or creates it.  (Up to the fix recorded in known_findings.json under `fixed:
  property=C09 … claim recorded rewards in epoch.claimed only for the first asset paid` the code created
  `claimed` from the first asset paid and never added an entry for another one; the equation was then
  refuted for multi-asset epochs and only `≤` was provable.)  After expiry (`available` emptied, the
  remainder moved to the new epoch) `claimed ≤ total` remains.
-/
import WW.Proofs.Distributor
import WW.Proofs.Feeflow
import WW.Proofs.LairEpoch
namespace WW.C09
open WW WW.Distributor

/-- a record of `s'` that is not a record of `s`: an epoch the operation modified -/
def Changed (s s' : St) (e : Epoch) : Prop := e ∈ s'.epochs ∧ e ∉ s.epochs

/-- the ledger clause of the property, for one epoch and one asset: `claimed + available = total` -/
def LedgerClause (e : Epoch) (a : Nat) : Prop :=
  amtOf a e.claimed + amtOf a e.avail = amtOf a e.total

theorem ledgerClause_of_ok {e : Epoch} (h : LedgerOk e) (hne : e.avail ≠ []) (a : Nat) : LedgerClause e a :=
  (h.2 hne).2.2.2 a

/-- **epoch_ledger** — over ALL histories from instantiation (any grace period ≥ 1 with increases, any
    initial distribution asset with switches in mid-history), for EVERY epoch on record (inside or outside
    the grace window) and EVERY asset `a`: `claimed_a + available_a ≤ total_a`, and as long as the epoch's
    `available` has not been emptied by expiry, `claimed_a + available_a = total_a` — also when the epoch
    holds several assets.  Moreover every asset is listed at most once in `available` and in `claimed`, and
    `claimed` only lists assets of `total`. -/
theorem epoch_ledger (cfg : Cfg) (g d : Nat) (hg : 1 ≤ g) (ops : List Op) :
    ∀ e ∈ (reach cfg (St.init g d) ops).epochs,
      (∀ a, amtOf a e.claimed + amtOf a e.avail ≤ amtOf a e.total) ∧
      (e.avail ≠ [] →
        (keys e.avail).Nodup ∧ (keys e.claimed).Nodup ∧ (∀ k ∈ keys e.claimed, k ∈ keys e.total) ∧
        ∀ a, LedgerClause e a) :=
  fun e he =>
    have h := (reach_inv cfg ops _ (inv_init g d hg)).ledger e he
    ⟨h.1, fun hne => ⟨(h.2 hne).1, (h.2 hne).2.1, (h.2 hne).2.2.1, ledgerClause_of_ok h hne⟩⟩

/-- the same from any state that satisfies the invariant (e.g. a migrated deployment) -/
theorem epoch_ledger_from (cfg : Cfg) (s : St) (hI : Inv s) (ops : List Op) :
    ∀ e ∈ (reach cfg s ops).epochs, e.avail ≠ [] → ∀ a, LedgerClause e a :=
  fun e he hne => ledgerClause_of_ok ((reach_inv cfg ops s hI).ledger e he) hne

/-- an EXPIRED epoch (`available` emptied when it left the grace window; every epoch outside the window is
    one, `expired_stay_empty`): what remains of the clause is `claimed_a ≤ total_a` for every asset — the
    difference is what was moved to the epoch created at that moment (`expire_once`). -/
theorem epoch_ledger_expired (cfg : Cfg) (g d : Nat) (hg : 1 ≤ g) (ops : List Op) :
    ∀ e ∈ (reach cfg (St.init g d) ops).epochs, e.avail = [] → ∀ a, amtOf a e.claimed ≤ amtOf a e.total :=
  fun e he h0 a => by
    have := (epoch_ledger cfg g d hg ops e he).1 a
    rw [h0] at this
    simpa [amtOf] using this

/-- **epoch_ledger, single-asset epochs** — the special case of `epoch_ledger` for a live epoch that holds at
    most one asset (= every epoch of a history without a switch of the distribution asset). -/
theorem epoch_ledger_single_asset (cfg : Cfg) (g d : Nat) (hg : 1 ≤ g) (ops : List Op) :
    ∀ e ∈ (reach cfg (St.init g d) ops).epochs, e.avail ≠ [] → e.total.length ≤ 1 →
      ∀ a, amtOf a e.claimed + amtOf a e.avail = amtOf a e.total :=
  fun e he hne _ a => ((epoch_ledger cfg g d hg ops e he).2 hne).2.2.2 a

/-- the clause of the property as stated, at full strength for every asset of every live epoch -/
def EpochLedgerPerAsset : Prop :=
  ∀ (cfg : Cfg) (g d : Nat), 1 ≤ g → ∀ (ops : List Op), ∀ e ∈ (reach cfg (St.init g d) ops).epochs,
    e.avail ≠ [] → ∀ a, amtOf a e.claimed + amtOf a e.avail = amtOf a e.total

/-- **epoch_ledger_per_asset** — the clause as stated HOLDS: every asset of every live epoch, multi-asset
    epochs included (before the fix of `claim` it was refuted by the two-asset epoch of `hist1` below). -/
theorem epoch_ledger_per_asset : EpochLedgerPerAsset :=
  fun cfg g d hg ops e he hne a => ((epoch_ledger cfg g d hg ops e he).2 hne).2.2.2 a

/-- **expire_once** (the step) — when a new epoch is created: the epoch that leaves the grace window
    (position `grace-1` of the newest-first list, if there are that many) hands over exactly its
    `available` — in EVERY asset, whatever the distribution asset is now — to the new epoch, which in
    addition receives the inflow in the current distribution asset; the expiring epoch's `available`
    becomes empty, it keeps id / start / total / claimed, no other epoch is touched, and per asset the sum
    of all `available` and the balance grow by exactly the inflow (nothing is lost, nothing counted twice). -/
theorem expire_once (cfg : Cfg) (s s' : St) (now : Nat) (inflow : Option Nat)
    (h : newEpoch cfg s now inflow = .ok s') :
    ∃ new rest, s'.epochs = new :: rest ∧
      (∀ a, amtOf a new.total = sel s.dist a (amt inflow) + amtOf a (availAt s.epochs (s.grace - 1))) ∧
      new.avail = new.total ∧ new.claimed = [] ∧
      availAt rest (s.grace - 1) = [] ∧
      (∀ j, j ≠ s.grace - 1 → rest[j]? = s.epochs[j]?) ∧
      rest.map (fun e => (e.id, e.start, e.total, e.claimed)) =
        s.epochs.map (fun e => (e.id, e.start, e.total, e.claimed)) ∧
      (∀ a, sumAvail a s'.epochs = sumAvail a s.epochs + sel s.dist a (amt inflow)) ∧
      (∀ a, s'.bal a = s.bal a + sel s.dist a (amt inflow)) ∧
      s'.dist = s.dist ∧ s'.grace = s.grace := by
  obtain ⟨id, start, _, hr⟩ := newEpoch_ok h
  obtain ⟨_, tot, hagg, rfl⟩ := receiveEpoch_ok hr
  exact ⟨_, _, rfl, fun a => (rolled_total hagg a).1, rfl, rfl, takeOut_at _ _, takeOut_others _ _,
    takeOut_keeps _ _, fun a => (rolled_total hagg a).2, addAt_apply _ _ _, rfl, rfl⟩

/-- **expire_once** (the invariant) — in every reachable state every epoch outside the grace window
    has an empty `available` (no asset left): what an expired epoch held has been moved, and (being
    empty) can never be moved or claimed again — also after the grace period was increased or the
    distribution asset switched. -/
theorem expired_stay_empty (cfg : Cfg) (g d : Nat) (hg : 1 ≤ g) (ops : List Op) :
    let s := reach cfg (St.init g d) ops
    ∀ e ∈ s.epochs.drop s.grace, e.avail = [] :=
  (reach_inv cfg ops _ (inv_init g d hg)).outside

/-- **holds_available** — over all histories, for every asset, the distributor's balance covers the sum
    of all epochs' `available` amounts in that asset. -/
theorem holds_available (cfg : Cfg) (g d : Nat) (hg : 1 ≤ g) (ops : List Op) (a : Nat) :
    sumAvail a (reach cfg (St.init g d) ops).epochs ≤ (reach cfg (St.init g d) ops).bal a :=
  (reach_inv cfg ops _ (inv_init g d hg)).holds a

/-- **switching the distribution asset** is the owner's, and touches no ledger, no balance, no claim
    cursor and not the grace period: every epoch keeps what it holds, in the asset it holds it in. -/
theorem dist_switch_touches_no_ledger (cfg : Cfg) (s s' : St) (sender a : Nat)
    (h : setDist cfg s sender a = .ok s') :
    sender = cfg.owner ∧ s'.dist = a ∧ s'.epochs = s.epochs ∧ s'.bal = s.bal ∧ s'.last = s.last ∧
    s'.grace = s.grace := by
  obtain ⟨hs', ho⟩ := setDist_ok h
  subst hs'
  exact ⟨ho, rfl, rfl, rfl, rfl, rfl⟩

/-- what the invariant gives for a distributor state reached from `d` by a history of the distributor's own machine -/
theorem ledgers_of_DR {cfg : Feeflow.Cfg} {d d' : St} (hI : Inv d) (h : Feeflow.DR cfg d d') :
    (∀ e ∈ d'.epochs, e.avail ≠ [] → ∀ a, LedgerClause e a) ∧
    (∀ e ∈ d'.epochs.drop d'.grace, e.avail = []) ∧
    (∀ a, sumAvail a d'.epochs ≤ d'.bal a) := by
  obtain ⟨dops, rfl⟩ := h
  have hI' := reach_inv cfg.d dops d hI
  exact ⟨fun e he hne => ledgerClause_of_ok (hI'.ledger e he) hne, hI'.outside, hI'.holds⟩

/-- **all entry points** — the three history invariants above, over ALL histories of the JOINT machine
    (`WW.Model.Feeflow`): besides the distributor's own operations (including the switch of the
    distribution asset) these contain everything the other contracts of the fee pipeline accept in
    mid-history — `CollectFees` / `AggregateFees` sent to the collector directly by anybody, `ForwardFees`
    attempts, collector configuration, trades, flash loans, route and pair administration, bonding — and every
    one of these messages WITH NATIVE COINS ATTACHED (`Feeflow.Op.coins`, any asset, any amount, nested = several
    coins): the distributor ignores `info.funds`, so coins attached to `NewEpoch` / `Claim` / `UpdateConfig` are
    a gift to its balance followed by the operation, coins attached to a message for another contract do not
    touch it.  Each operation acts on the ledger as a (possibly empty) history of distributor operations
    (`Feeflow.step_projects`). -/
theorem joint_histories (cfg : Feeflow.Cfg) (s : Feeflow.St) (hI : Inv s.d) (ops : List Feeflow.Op) :
    let s' := Feeflow.reach cfg s ops
    (∀ e ∈ s'.d.epochs, e.avail ≠ [] → ∀ a, LedgerClause e a) ∧
    (∀ e ∈ s'.d.epochs.drop s'.d.grace, e.avail = []) ∧
    (∀ a, sumAvail a s'.d.epochs ≤ s'.d.bal a) :=
  ledgers_of_DR hI (Feeflow.reach_projects cfg ops s)

/-! ### re-entrancy: a hostile registered pair / vault nests a message into the fee pipeline

  `Feeflow.Op.reenter trig caught hacc inner outer` (see `WW/Model/Feeflow.lean`): the hostile contract, called by the
  collector (`CollectProtocolFees`) or by the router on the collector's behalf (`Swap`), sends ANY operation `inner`
  of the joint machine once — `NewEpoch`, `Claim`, `ForwardFees`, `CollectFees`, `AggregateFees`, bonding, an
  owner-only message — plainly or as a caught sub-message.  `joint_histories` above quantifies over these
  operations too (they are part of `Feeflow.Op`); the theorems below say what the guard is. -/

/-- **reentrant_transaction_keeps_ledgers** — ONE transaction with a nested message, from any state whose ledgers
    balance: every epoch ledger still balances per asset, epochs outside the grace window stay empty, the balance
    covers what is available (the transaction acts on the ledger as a history of the distributor's own operations:
    `Feeflow.step_projects`). -/
theorem reentrant_transaction_keeps_ledgers (cfg : Feeflow.Cfg) (s s' : Feeflow.St) (hI : Inv s.d)
    (trig : Feeflow.Trig) (caught : Bool) (hacc : Nat → Nat → Nat → List (Nat × Nat × Nat)) (inner outer : Feeflow.Op)
    (h : Feeflow.step cfg s (.reenter trig caught hacc inner outer) = .ok s') :
    (∀ e ∈ s'.d.epochs, e.avail ≠ [] → ∀ a, LedgerClause e a) ∧
    (∀ e ∈ s'.d.epochs.drop s'.d.grace, e.avail = []) ∧
    (∀ a, sumAvail a s'.d.epochs ≤ s'.d.bal a) :=
  ledgers_of_DR hI (Feeflow.step_projects h)

/-- **nested_new_epoch_refused** — a `NewEpoch` entered again from inside the fee pipeline of a `NewEpoch` in flight
    never goes through: if the hostile contract's message contains a `NewEpoch` (`clears`) and the outer `NewEpoch`
    succeeds, then that message did NOT succeed (`fired ≠ 1`: the hostile contract was not reached, or its message
    was refused and caught).  The guard is the collector's `TMP_EPOCH`: the nested run's reply consumes it, the
    outer reply then fails with `CannotReadEpoch` and the whole transaction — the nested epoch included — reverts. -/
theorem nested_new_epoch_refused (cfg : Feeflow.Cfg) (hk : Feeflow.Hook) (s : Feeflow.St) (now : Nat)
    (router : Nat → Nat → Nat → Nat) (h : Feeflow.HS) (hc : hk.clears = true)
    (e : Feeflow.newEpochH cfg hk s now router = .ok h) : h.fired ≠ 1 := by
  -- `fired`: 0 = the hostile contract has not been called, 1 = its message went through, 2 = it was refused and caught
  have hfp : Feeflow.FirePres hk (fun _ t f => f = 1 → t = none) := by
    refine Feeflow.fire_pres_of_run (fun s1 s2 t f _ _ _ => ?_) (fun _ _ _ _ h2 => by cases h2)
    rw [if_pos hc]
  obtain ⟨id, start, h4, _, hq, hr⟩ := Feeflow.pipelineH_pres hfp e
  have q4 := hq (fun h0 => by cases h0)
  obtain ⟨id', start', _, htmp, _, _, _, _, hf, _⟩ := Feeflow.replyH_ok hr
  intro h1
  rw [hf] at h1
  rw [q4 h1] at htmp
  cases htmp

/-- the same on the joint machine: whatever the trigger and the mode, the transaction `NewEpoch ⟵ NewEpoch` either
    fails or is one in which the nested `NewEpoch` did not go through -/
theorem nested_new_epoch_refused_joint (cfg : Feeflow.Cfg) (s : Feeflow.St) (trig : Feeflow.Trig) (caught : Bool)
    (hacc : Nat → Nat → Nat → List (Nat × Nat × Nat)) (inner : Feeflow.Op) (hin : Feeflow.hasNewEpoch inner = true)
    (now : Nat) (router : Nat → Nat → Nat → Nat) (acc : Nat → Nat → Nat) (h : Feeflow.HS)
    (e : Feeflow.stepH cfg { trig := trig, caught := caught, clears := Feeflow.hasNewEpoch inner, run := (fun s1 => Feeflow.step cfg s1 inner), hacc := hacc } s (.newEpoch now router acc) = some (.ok h)) :
    h.fired ≠ 1 := by
  simp only [Feeflow.stepH, Option.some.injEq] at e
  exact nested_new_epoch_refused cfg _ s now router h hin e

/-- **refused_nested_call_leaves_no_trace** — a nested message that the real code refuses (`run` = `Err`): caught by
    the hostile contract, the joint state, `TMP_EPOCH` and the outer operation's swaps are exactly what they were
    (only the flags say that the attempt was made); not caught, the whole transaction fails. -/
theorem refused_nested_call_leaves_no_trace (hk : Feeflow.Hook) (h : Feeflow.HS) (ha : h.armed = true)
    (hr : hk.run h.s = .err) :
    (hk.caught = true → Feeflow.fire hk h = .ok { h with armed := false, fired := 2 }) ∧
    (hk.caught = false → Feeflow.fire hk h = .err) := by
  constructor
  · intro hc; unfold Feeflow.fire; rw [if_pos ha, hr]; simp only; rw [if_pos hc]
  · intro hc; unfold Feeflow.fire; rw [if_pos ha, hr]; simp only; rw [if_neg (by rw [hc]; decide)]

/-- the hostile contract sends its message ONCE: afterwards the hook is the identity -/
theorem hostile_fires_once (hk : Feeflow.Hook) (h : Feeflow.HS) (ha : h.armed = false) : Feeflow.fire hk h = .ok h := by
  unfold Feeflow.fire; rw [if_neg (by rw [ha]; decide)]

/-- **payout_eq_ledger_delta** — a successful claim pays, in EVERY asset, exactly what the ledgers move: the
    sum of `available` falls by the payout, the sum of `claimed` rises by the payout (multi-asset epochs
    included), the contract balance falls by it, each asset is paid with one message, and no epoch is added,
    removed or re-funded. -/
theorem payout_eq_ledger_delta (s s' : St) (hL : AllLedger s.epochs) (u : Nat) (view : Option Nat)
    (ans : Nat → LairAns) (paid : Ledger) (h : claim s u view ans = .ok (s', paid)) :
    (∀ a, amtOf a paid + sumAvail a s'.epochs = sumAvail a s.epochs) ∧
    (∀ a, sumClaimed a s'.epochs = sumClaimed a s.epochs + amtOf a paid) ∧
    (∀ a, s'.bal a + amtOf a paid = s.bal a) ∧
    (keys paid).Nodup ∧
    s'.epochs.map (·.id) = s.epochs.map (·.id) ∧ s'.epochs.map (·.total) = s.epochs.map (·.total) ∧
    s'.grace = s.grace ∧ s'.dist = s.dist := by
  obtain ⟨f1, _, f3, f4⟩ := claim_frame h
  obtain ⟨_, l2, l3, l4, l5⟩ := claim_ledger hL h
  exact ⟨l3, l4, l5, l2, map_comp_of_map_eq (·.1) f1, map_comp_of_map_eq (·.2.2) f1, f3, f4⟩

/-- the same over all histories from instantiation (where the hypothesis on the ledgers always holds):
    per asset, payout = decrease of `available` = decrease of the balance = increase of `claimed` -/
theorem payout_eq_ledger_delta_hist (cfg : Cfg) (g d : Nat) (hg : 1 ≤ g) (ops : List Op) (u : Nat)
    (view : Option Nat) (ans : Nat → LairAns) (s' : St) (paid : Ledger)
    (h : claim (reach cfg (St.init g d) ops) u view ans = .ok (s', paid)) (a : Nat) :
    amtOf a paid + sumAvail a s'.epochs = sumAvail a (reach cfg (St.init g d) ops).epochs ∧
    s'.bal a + amtOf a paid = (reach cfg (St.init g d) ops).bal a ∧
    sumClaimed a s'.epochs = sumClaimed a (reach cfg (St.init g d) ops).epochs + amtOf a paid := by
  have hp := payout_eq_ledger_delta _ s' (reach_inv cfg ops _ (inv_init g d hg)).ledger u view ans paid h
  exact ⟨hp.1 a, hp.2.2.1 a, hp.2.1 a⟩

/-- every epoch a claim modifies lies strictly above the address's bound (its last claimed epoch, else
    the epoch it first bonded in) and at or below its new last-claimed epoch -/
theorem claim_changes_above_bound (s s' : St) (hI : Inv s) (u : Nat) (view : Option Nat)
    (ans : Nat → LairAns) (paid : Ledger) (h : claim s u view ans = .ok (s', paid)) :
    ∃ b top, claimBound s u view = some b ∧ lookup u s'.last = some top ∧
      ∀ e, Changed s s' e → b < e.id ∧ e.id ≤ top := by
  obtain ⟨b, top, rest, es', bal', hb, hcl, hw, _, rfl⟩ := claim_ok h
  refine ⟨b, top, hb, lookup_setLast_same _ _ _, fun e he => ?_⟩
  cases (claimWalk_frame hw).2.2 e he.1 with
  | inl hin => exact absurd hin he.2
  | inr hr => exact ⟨lt_of_mem_claimableIds hr, claimableIds_le_head hI.desc hcl e.id hr⟩

/-- **once_per_epoch** — an address is paid at most once per epoch (in any asset): if a claim by `u`
    modified (paid from) epoch `e₁`, then after ANY further history — including switches of the
    distribution asset — a later successful claim by `u` only modifies epochs with a strictly larger id. -/
theorem once_per_epoch (cfg : Cfg) (s s₁ : St) (hI : Inv s) (u : Nat)
    (view₁ : Option Nat) (ans₁ : Nat → LairAns) (paid₁ : Ledger) (h₁ : claim s u view₁ ans₁ = .ok (s₁, paid₁))
    (ops : List Op)
    (view₂ : Option Nat) (ans₂ : Nat → LairAns) (s₃ : St) (paid₂ : Ledger)
    (h₂ : claim (reach cfg s₁ ops) u view₂ ans₂ = .ok (s₃, paid₂)) :
    ∀ e₁, Changed s s₁ e₁ → ∀ e₃, Changed (reach cfg s₁ ops) s₃ e₃ → e₁.id < e₃.id := by
  intro e₁ he₁ e₃ he₃
  obtain ⟨b₁, top₁, _, hl₁, hc₁⟩ := claim_changes_above_bound s s₁ hI u view₁ ans₁ paid₁ h₁
  have hI₁ : Inv s₁ := claim_inv hI h₁
  have hI₂ : Inv (reach cfg s₁ ops) := reach_inv cfg ops s₁ hI₁
  obtain ⟨lc, hlc, hge⟩ := reach_lastGe cfg ops s₁ (⟨top₁, hl₁, Nat.le_refl _⟩ : LastGe s₁ u top₁)
  obtain ⟨b₂, top₂, hb₂, _, hc₂⟩ := claim_changes_above_bound _ s₃ hI₂ u view₂ ans₂ paid₂ h₂
  rw [claimBound_of_last view₂ hlc] at hb₂
  cases hb₂
  exact Nat.lt_of_le_of_lt (Nat.le_trans (hc₁ e₁ he₁).2 hge) (hc₂ e₃ he₃).1

/-- **not_before_bonding** (ids) — an address that has never claimed is only paid for epochs after the
    one the lair reports as its first bonded epoch; an address that has neither claimed nor bonded gets
    nothing. -/
theorem not_before_bonding (s s' : St) (hI : Inv s) (u fb : Nat) (ans : Nat → LairAns) (paid : Ledger)
    (hnever : lookup u s.last = none) (h : claim s u (some fb) ans = .ok (s', paid)) :
    ∀ e, Changed s s' e → fb < e.id := by
  obtain ⟨b, top, hb, _, hc⟩ := claim_changes_above_bound s s' hI u (some fb) ans paid h
  rw [claimBound_of_never _ hnever] at hb
  cases hb
  exact fun e he => (hc e he).1

theorem never_bonded_gets_nothing (s : St) (u : Nat) (ans : Nat → LairAns)
    (hnever : lookup u s.last = none) : claim s u none ans = .err := by
  unfold claim claimBound
  rw [hnever]

/-- **not_before_bonding** (times) — with the lair's definition of the first bonded epoch
    (`calculate_epoch`: the bond time lies before `genesis + fb·duration`), over all histories from
    instantiation every epoch paid to a never-claimed address started strictly after it bonded. -/
theorem not_before_bonding_time (cfg : Cfg) (g d : Nat) (hg : 1 ≤ g) (ops : List Op) (u fb bondTime : Nat)
    (hlair : bondTime < cfg.genesis + fb * cfg.duration)
    (ans : Nat → LairAns) (s' : St) (paid : Ledger)
    (hnever : lookup u (reach cfg (St.init g d) ops).last = none)
    (h : claim (reach cfg (St.init g d) ops) u (some fb) ans = .ok (s', paid)) :
    ∀ e, Changed (reach cfg (St.init g d) ops) s' e → bondTime < e.start := by
  intro e he
  have hid := not_before_bonding _ s' (reach_inv cfg ops _ (inv_init g d hg)) u fb ans paid hnever h e he
  have hN : Nominal cfg (reach cfg (St.init g d) ops).epochs :=
    reach_nominal cfg ops _ (fun _ hx => nomatch hx)
  rw [(claim_nominal hN h e he.1).2]
  exact Nat.lt_of_lt_of_le hlair (Nat.add_le_add_left (Nat.mul_le_mul_right _ (Nat.le_sub_one_of_lt hid)) _)

/-- **not_before_bonding** (end to end) — the same with the hypothesis on the lair discharged from the
    lair's own `calculate_epoch` (model `WW.Lair.calcEpoch`, tied to `whale_lair/src/helpers.rs` by the
    lair engine): when the lair is configured with the distributor's genesis and epoch duration and
    answers `first_bonded_epoch_id = fb` for an address that bonded at `bondTime`, every epoch a
    never-claimed address is paid for started strictly after `bondTime`. -/
theorem not_before_bonding_time_lair (cfg : Cfg) (lc : Lair.Cfg) (g d : Nat) (hg : 1 ≤ g) (ops : List Op)
    (u fb bondTime : Nat)
    (hgen : lc.genesis = cfg.genesis) (hdur : lc.epochDur = cfg.duration)
    (hfb : Lair.calcEpoch lc bondTime = .ok fb)
    (ans : Nat → LairAns) (s' : St) (paid : Ledger)
    (hnever : lookup u (reach cfg (St.init g d) ops).last = none)
    (h : claim (reach cfg (St.init g d) ops) u (some fb) ans = .ok (s', paid)) :
    ∀ e, Changed (reach cfg (St.init g d) ops) s' e → bondTime < e.start := by
  have hl := Lair.calcEpoch_lt hfb
  rw [hgen, hdur] at hl
  exact not_before_bonding_time cfg g d hg ops u fb bondTime hl ans s' paid hnever h

/-- grace periods: an `UpdateConfig` that is accepted is the owner's, sets a period within 1 … 30 (documented
    maximum, regenerated from the sources on every run) and is no decrease; `updateGrace_eq_ok` has the converse -/
theorem grace_bounds (cfg : Cfg) (s s' : St) (sender g : Nat) (h : updateGrace cfg s sender g = .ok s') :
    s'.grace = g ∧ s.grace ≤ g ∧ 1 ≤ g ∧ g ≤ 30 ∧ sender = cfg.owner := by
  obtain ⟨ho, h1, hmax, hle, rfl⟩ := updateGrace_eq_ok.mp h
  exact ⟨rfl, hle, h1, hmax, ho⟩

def cfg0 : Cfg := { genesis := 1000, duration := 100, owner := 7 }
def half : Nat → LairAns := fun _ => .share 500000000000000000
def third : Nat → LairAns := fun _ => .share 333333333333333333

/-- ONE asset (2) throughout. grace 2: epoch 1 receives 1000, user 1 (first bonded epoch 0) claims half of
    it; epoch 2 receives 301; user 2 claims a third of both; epoch 3 is created with inflow 50: epoch 1
    leaves the window and its remainder 167 is added to epoch 3 exactly once (total 217) and its own
    `available` is emptied; the grace period is raised to 3 and epoch 4 created: epoch 1 is inside the window
    again but empty, so nothing is rolled a second time (total 9). -/
def hist0 : List Op :=
  [ .newEpoch 1000 (some 1000), .claim 1 (some 0) half, .newEpoch 1100 (some 301), .claim 2 (some 0) third,
    .newEpoch 1200 (some 50), .grace 7 3, .newEpoch 1300 (some 9), .claim 1 (some 0) half ]

example : (reach cfg0 (St.init 2 2) hist0).epochs =
    [ { id := 4, start := 1300, total := [(2, 9)], avail := [(2, 5)], claimed := [(2, 4)] },
      { id := 3, start := 1200, total := [(2, 217)], avail := [(2, 109)], claimed := [(2, 108)] },
      { id := 2, start := 1100, total := [(2, 301)], avail := [(2, 51)], claimed := [(2, 250)] },
      { id := 1, start := 1000, total := [(2, 1000)], avail := [], claimed := [(2, 833)] } ] := by decide +kernel

example : (reach cfg0 (St.init 2 2) hist0).bal 2 = 165 ∧ sumAvail 2 (reach cfg0 (St.init 2 2) hist0).epochs = 165 := by
  decide +kernel

/-- the hypotheses of `once_per_epoch` are satisfiable: two successful claims by the same address -/
example : ∃ s₁ p₁ s₃ p₃, claim (reach cfg0 (St.init 2 2) (hist0.take 1)) 1 (some 0) half = .ok (s₁, p₁) ∧ p₁ = [(2, 500)] ∧
    claim (reach cfg0 s₁ [.newEpoch 1100 (some 301)]) 1 (some 0) half = .ok (s₃, p₃) ∧ p₃ = [(2, 150)] := by
  exact ⟨_, _, _, _, rfl, by decide +kernel, rfl, by decide +kernel⟩

/-- A SWITCH of the distribution asset while an epoch funded in the old asset is inside the grace window.
    grace 2, asset 2 first: epoch 1 receives 1000 of asset 2, user 1 claims half.  The owner (7) switches to
    asset 1 (a stranger, 9, is refused).  Epoch 2 receives 300 of asset 1.  Epoch 3 (inflow 40 of asset 1):
    epoch 1 leaves the window and its 500 of asset 2 are rolled into epoch 3 next to the 40 of asset 1 —
    nothing drops out of the ledgers.  User 2 then claims half of epochs 3 and 2: paid 170 of asset 1 and
    250 of asset 2, and epoch 3 — a TWO-ASSET epoch — records BOTH rewards as claimed. -/
def hist1 : List Op :=
  [ .newEpoch 1000 (some 1000), .claim 1 (some 0) half, .setDist 9 1, .setDist 7 1, .newEpoch 1100 (some 300),
    .newEpoch 1200 (some 40), .claim 2 (some 0) half ]

example : (reach cfg0 (St.init 2 2) hist1).epochs =
    [ { id := 3, start := 1200, total := [(1, 40), (2, 500)], avail := [(1, 20), (2, 250)],
        claimed := [(1, 20), (2, 250)] },
      { id := 2, start := 1100, total := [(1, 300)], avail := [(1, 150)], claimed := [(1, 150)] },
      { id := 1, start := 1000, total := [(2, 1000)], avail := [], claimed := [(2, 500)] } ] := by decide +kernel

example : (reach cfg0 (St.init 2 2) hist1).dist = 1 ∧
    (reach cfg0 (St.init 2 2) hist1).bal 1 = 170 ∧ sumAvail 1 (reach cfg0 (St.init 2 2) hist1).epochs = 170 ∧
    (reach cfg0 (St.init 2 2) hist1).bal 2 = 250 ∧ sumAvail 2 (reach cfg0 (St.init 2 2) hist1).epochs = 250 := by
  decide +kernel

example : ((claim (reach cfg0 (St.init 2 2) (hist1.take 6)) 2 (some 0) half).toOption.map (·.2)) =
    some [(1, 170), (2, 250)] := by decide +kernel

/-- the two-asset epoch of `hist1` is a live multi-asset instance of `epoch_ledger`: for both assets
    `claimed + available = total` (20 + 20 = 40 and 250 + 250 = 500) — this is the state that refuted the
    clause before `claim` recorded every asset. -/
example : ∃ e ∈ (reach cfg0 (St.init 2 2) hist1).epochs, e.total.length = 2 ∧ e.avail ≠ [] ∧
    amtOf 1 e.claimed = 20 ∧ amtOf 2 e.claimed = 250 ∧
    amtOf 1 e.claimed + amtOf 1 e.avail = amtOf 1 e.total ∧
    amtOf 2 e.claimed + amtOf 2 e.avail = amtOf 2 e.total :=
  ⟨{ id := 3, start := 1200, total := [(1, 40), (2, 500)], avail := [(1, 20), (2, 250)],
     claimed := [(1, 20), (2, 250)] }, by decide +kernel, by decide +kernel⟩

/-- `payout_eq_ledger_delta` on that claim: per asset the payout (170 / 250) is the increase of the sum of
    `claimed` and the decrease of the sum of `available`. -/
example : ∃ s' paid, claim (reach cfg0 (St.init 2 2) (hist1.take 6)) 2 (some 0) half = .ok (s', paid) ∧
    paid = [(1, 170), (2, 250)] ∧
    sumClaimed 1 s'.epochs = sumClaimed 1 (reach cfg0 (St.init 2 2) (hist1.take 6)).epochs + 170 ∧
    sumClaimed 2 s'.epochs = sumClaimed 2 (reach cfg0 (St.init 2 2) (hist1.take 6)).epochs + 250 ∧
    sumAvail 2 s'.epochs + 250 = sumAvail 2 (reach cfg0 (St.init 2 2) (hist1.take 6)).epochs :=
  ⟨_, _, rfl, by decide +kernel⟩

/-- ORDER of `claimed`: the assets appear in the order in which they were first PAID, which need not be the
    order of `total`.  After `hist1.take 6` user 3 has a share of 2 % : of epoch 3 (`[(1, 40), (2, 500)]`) it
    gets floor(0.8) = 0 of asset 1 (skipped) and 10 of asset 2, so `claimed` starts with asset 2; user 2's
    half then appends asset 1 behind it. -/
def tiny : Nat → LairAns := fun _ => .share 20000000000000000

example : ((reach cfg0 (St.init 2 2) (hist1.take 6 ++ [.claim 3 (some 1) tiny, .claim 2 (some 1) half])).epochs.head?.map
    (fun e => (e.total, e.avail, e.claimed))) =
    some ([(1, 40), (2, 500)], [(1, 20), (2, 240)], [(2, 260), (1, 20)]) := by decide +kernel

end WW.C09
