/-
  C13 — Incentive rewards: weights add up; claims are bounded, single and as quoted.
  Property theorems only; helpers in WW/Proofs (see the imports). The models are
  `calcWeight` (replica of `incentive/src/weight.rs::calculate_weight`, engine `weight`) and the
  incentive state machine `WW.Inc.step` (engine `incentive`), both tied to the Rust by the
  correspondence run. The model follows the repaired code (fix commits F6, F11, F12, the share
  query repair, and the repair of the claim / rewards loops, which now read the weight history also
  for the epochs they skip before a flow's start).
-/
import WW.Proofs.Snapshot
import WW.Proofs.ClaimQuery
import WW.Proofs.ClaimWeights
import WW.Proofs.ShareQuery
namespace WW.C13
open WW WW.Gen WW.Inc

/-- The pure clauses' quantifier: a duration `calculate_weight` accepts and a `Uint128` amount. -/
structure Dom (d amt : Nat) : Prop where
  dur : DurOk d
  amt128 : amt ≤ U128MAX

/-- the accepted durations are the documented ones: 1 day … 1 (sidereal) year, in seconds -/
theorem duration_range : INCENTIVE_WEIGHT_MIN_DURATION = 86400 ∧ INCENTIVE_WEIGHT_MAX_DURATION = 31556926 := by
  decide

/-- On the domain the weight computation never panics, and it fails (with an error) only when the
    result does not fit 128 bits. -/
theorem weight_total {d amt : Nat} (h : Dom d amt) :
    calcWeight d amt = if wRaw d amt ≤ U128MAX then .ok (max (wRaw d amt) amt) else .err :=
  calcWeight_closed h.dur h.amt128

/-- A position's weight is at least its amount. -/
theorem weight_ge_amount {d amt w : Nat} (h : Dom d amt) (hw : calcWeight d amt = .ok w) : amt ≤ w := by
  obtain ⟨he, _⟩ := calcWeight_ok_eq h.dur h.amt128 hw
  rw [he]; exact Nat.le_max_right _ _

/-- The weight is non-decreasing in the amount (same duration), for ALL amounts below 2^128. -/
theorem weight_mono_amount {d a1 a2 w1 w2 : Nat} (h1 : Dom d a1) (h2 : Dom d a2) (hle : a1 ≤ a2)
    (hw1 : calcWeight d a1 = .ok w1) (hw2 : calcWeight d a2 = .ok w2) : w1 ≤ w2 := by
  obtain ⟨e1, _⟩ := calcWeight_ok_eq h1.dur h1.amt128 hw1
  obtain ⟨e2, _⟩ := calcWeight_ok_eq h2.dur h2.amt128 hw2
  have := wRaw_mono_amount (d := d) hle
  rw [e1, e2]; omega

/-- The weight is non-decreasing in the unbonding duration (same amount), for every allowed duration. -/
theorem weight_mono_duration {d1 d2 a w1 w2 : Nat} (h1 : Dom d1 a) (h2 : Dom d2 a) (hle : d1 ≤ d2)
    (hw1 : calcWeight d1 a = .ok w1) (hw2 : calcWeight d2 a = .ok w2) : w1 ≤ w2 := by
  obtain ⟨e1, _⟩ := calcWeight_ok_eq h1.dur h1.amt128 hw1
  obtain ⟨e2, _⟩ := calcWeight_ok_eq h2.dur h2.amt128 hw2
  have := wRaw_mono_duration (a := a) hle
  rw [e1, e2]; omega

/-- If the weight of the larger amount can be computed, so can the weight of the smaller one
    (so `expand_position`'s `weight(old+a) − weight(old)` never fails on the second term first). -/
theorem weight_ok_downward {d a1 a2 w2 : Nat} (h1 : Dom d a1) (h2 : Dom d a2) (hle : a1 ≤ a2)
    (hw2 : calcWeight d a2 = .ok w2) : ∃ w1, calcWeight d a1 = .ok w1 := by
  obtain ⟨_, hb⟩ := calcWeight_ok_eq h2.dur h2.amt128 hw2
  rw [calcWeight_closed h1.dur h1.amt128]
  have := wRaw_mono_amount (d := d) hle
  exact ⟨_, if_pos (le_trans this hb)⟩

/-- **global weight = Σ address weights**, over ALL histories: whatever sequence of operations
    (open / expand / close for oneself or a receiver, through the helper, claims, snapshots, flow
    operations, failed operations, any senders, any epochs and times) is applied to a freshly
    instantiated contract, `GLOBAL_WEIGHT` equals the sum of the `ADDRESS_WEIGHT` entries. -/
theorem global_eq_sum (c : Cfg) (e0 : Nat) (bal : Bal) (ops : List (Env × Op)) :
    (reach c (init e0 bal) ops).global = sumVals (reach c (init e0 bal) ops).addrW :=
  (reach_WInv (init_WInv e0 bal) ops).global_sum

/-- … and every address weight is exactly the sum of the weights of that address's open positions
    (this is what makes `close_position`'s saturating subtraction exact). -/
theorem address_weight_eq_positions (c : Cfg) (e0 : Nat) (bal : Bal) (ops : List (Env × Op)) (u : Addr) :
    aget (reach c (init e0 bal) ops).addrW u = posSum (openOf (reach c (init e0 bal) ops) u) :=
  (reach_WInv (init_WInv e0 bal) ops).addr u

/-- the same invariant as a one-step statement from any state that satisfies it -/
theorem global_eq_sum_step {c : Cfg} {s s' : St} {e : Env} {op : Op} (hI : WInv s)
    (h : step c s e op = .ok s') : s'.global = sumVals s'.addrW :=
  (step_WInv hI h).global_sum

/-- **second claim pays nothing**: once an address has claimed in epoch `E`, every further claim by
    that address in epoch `E` is rejected (so it pays nothing and changes nothing), whatever anybody
    did in between (`others`: arbitrary operations by arbitrary senders, including further claim
    attempts of the same address in epoch `E`; `hep` only says the epoch has not moved on for that
    address's own claims). -/
theorem second_claim_nothing (c : Cfg) (s : St) (e : Env) (s1 : St)
    (h1 : step c s e .claim = .ok s1)
    (others : List (Env × Op))
    (hep : ∀ p ∈ others, p.2 = .claim → p.1.sender = e.sender → p.1.epoch = e.epoch)
    (e2 : Env) (hs : e2.sender = e.sender) (he : e2.epoch = e.epoch) :
    step c (reach c s1 others) e2 .claim = .err :=
  claim_twice_err c s e s1 h1 others hep e2 hs he

/-- **no claim pays more for an epoch than that epoch's emission**: in one iteration of the claim
    loop (one flow, one epoch) the amount added to the flow's `claimed_amount` — which is exactly the
    amount of the transfer message produced — is at most the emission computed for that epoch,
    `(funded as of the epoch − emitted before) / (epochs left)`. -/
theorem claim_le_emission {s : St} {u expAmt expEnd ep : Nat} {st st' : ClaimLoop}
    (h : claimEpoch s u expAmt expEnd st ep = .ok (.next st')) :
    st'.flow.claimed - st.flow.claimed ≤ emissionOf st.flow ep
    ∧ st'.msgs = st.msgs ++ (if st'.flow.claimed = st.flow.claimed then []
        else [Msg.send INC u st.flow.asset (st'.flow.claimed - st.flow.claimed)]) :=
  ⟨(claimEpoch_spec h).2.1, (claimEpoch_spec h).2.2.2.2⟩

/-- a claim never lets a flow's claimed amount exceed the flow's (expanded) funded amount -/
theorem claim_keeps_claimed_le_funded {s : St} {u expAmt expEnd ep : Nat} {st st' : ClaimLoop}
    (hle : st.flow.claimed ≤ expAmt)
    (h : claimEpoch s u expAmt expEnd st ep = .ok (.next st')) : st'.flow.claimed ≤ expAmt :=
  (claimEpoch_spec h).2.2.1 hle

/-- **claim = quote (per flow)**: `claim.rs` and `queries/get_rewards.rs` are modelled as two separate
    loops (`claimFlow` with the 100-epoch cap, the running `claimed_amount` in its sanity check and the
    flow's own emitted-tokens ledger; `rewardsFlow` without cap, with the stored `claimed_amount` and a
    copy of the ledger). Whenever the claim has at most 100 epochs to go through for a flow and succeeds,
    the query on the same state succeeds too and reports exactly what the claim pays for that flow: the
    sum of the claim's transfer messages = the increase of `claimed_amount` = the query's total. -/
theorem claim_eq_rewards_query {s : St} {u epoch : Nat} {f f' : Flow} {msgs : List Msg}
    (hcap : epoch + 1 - (claimStart s u f).1 ≤ INCENTIVE_EPOCH_CLAIM_CAP)
    (h : claimFlow s u epoch f = .ok (f', msgs)) :
    ∃ r, rewardsFlow s u epoch f = .ok r ∧ f'.claimed = f.claimed + r.getD 0 ∧ msgSum msgs = r.getD 0 :=
  claimFlow_eq_rewardsFlow hcap h

/-- … and over all flows of the contract: the transfers of a successful claim add up to the sum of the
    query's per-flow entries (the query's answer before zero entries are dropped). -/
theorem claim_eq_rewards_query_total {s : St} {u epoch : Nat} (fl fl' : List Flow) (msgs : List Msg)
    (hcap : ∀ f ∈ fl, epoch + 1 - (claimStart s u f).1 ≤ INCENTIVE_EPOCH_CLAIM_CAP)
    (h : claimFlows s u epoch fl = .ok (fl', msgs)) :
    ∃ l, rewardsFlows s u epoch fl = .ok l ∧ msgSum msgs = pairSum l :=
  claimFlows_eq_rewardsFlows fl fl' msgs hcap h

/-- the cap in question is the documented 100 epochs -/
theorem claim_cap : INCENTIVE_EPOCH_CLAIM_CAP = 100 := by decide

/-- The shares clause: in epoch `E` the weights `effW` of the (distinct) addresses `us` add up to at most
    the epoch's global-weight snapshot. Proved for every epoch-monotone history, every epoch and every set
    of addresses by `shares_le_one` below with `effW := fun u => Inc.effW s.whist u E`, the weight the
    claim loop, the rewards query and the share query read for `E` (the `ADDRESS_WEIGHT_HISTORY` entry
    with the largest epoch `≤ E`, `0` if there is none; see `weight_used_is_effW`). Also checked on the
    real contracts by the monitors `C13:shares_le_one`. -/
def SharesLeOne (s : St) (E : Nat) (us : List Addr) (effW : Addr → Nat) : Prop :=
  ∀ g, alook s.snap E = some g → (us.map effW).sum ≤ g

/-- **shares_le_one**, over ALL histories whose epochs never go back, for EVERY placement of the snapshot
    call (explicit, lazy, never): whatever sequence of operations (any senders, receivers, amounts,
    durations, times, funds; opens, expansions, closes, claims in any order, snapshots anywhere, flow
    operations, helper deposits, failed operations) is applied to a freshly instantiated contract, for
    every epoch `E` that has a global-weight snapshot and every list `us` of distinct addresses, the
    weights in effect for `E` add up to at most `snapshot(E)`. -/
theorem shares_le_one (c : Cfg) (e0 : Nat) (bal : Bal) (ops : List (Env × Op)) (he : EpochsFrom e0 ops)
    (E : Nat) (us : List Addr) (hus : us.Nodup) :
    SharesLeOne (reach c (init e0 bal) ops) E us (fun u => Inc.effW (reach c (init e0 bal) ops).whist u E) := by
  obtain ⟨ep', h⟩ := reach_SInv (c := c) ops (init e0 bal) e0 (init_WInv e0 bal) (init_SInv e0 bal) he
  intro g hg
  exact h.W E g hg us hus

/-- … hence the shares (`Decimal256::from_ratio(weight, snapshot)`, floor at 18 decimals — what
    `rewardOf` and the share query compute) of any distinct addresses add up to at most 100 %, and the
    payouts `emission × share` (floor) of one flow for one epoch add up to at most that epoch's emission,
    whoever claims, whenever, in whatever order. -/
theorem shares_sum_le_one (c : Cfg) (e0 : Nat) (bal : Bal) (ops : List (Env × Op)) (he : EpochsFrom e0 ops)
    (E g : Nat) (us : List Addr) (hus : us.Nodup)
    (hg : alook (reach c (init e0 bal) ops).snap E = some g) (hpos : 0 < g) :
    (us.map (fun u => Inc.effW (reach c (init e0 bal) ops).whist u E * E18 / g)).sum ≤ E18
    ∧ ∀ emission,
        (us.map (fun u => emission * (Inc.effW (reach c (init e0 bal) ops).whist u E * E18 / g) / E18)).sum
          ≤ emission :=
  shares_of_weights us _ g hpos (shares_le_one c e0 bal ops he E us hus g hg)

/-- the invariant behind it as a one-transaction statement: `SInv s cur` (no history entry beyond
    `cur + 1`, no future snapshot, no next-epoch entry before the current snapshot exists, the latest entry
    of an address is its live weight, global = Σ address weights, and the shares clause for every
    snapshotted epoch) survives any successful transaction at any epoch `≥ cur`. -/
theorem shares_le_one_step {c : Cfg} {s s' : St} {e : Env} {op : Op} {cur : Nat} (hW : WInv s)
    (hI : SInv s cur) (hle : cur ≤ e.epoch) (h : step c s e op = .ok s') : SInv s' e.epoch :=
  step_SInv hW (SI.adv hI hle) h

/-- **the weight the loops use is `effW`** (one iteration): one iteration of the epoch loop of `claim.rs` /
    `get_rewards.rs` (both go through `weightAt`) at epoch `ep ≥ 1`, carrying a correct
    `(last_epoch_user_weight_update, last_user_weight_seen)` pair (`Carry`), uses exactly
    `effW whist u ep` as the address weight (`none` = the epoch is skipped = weight 0) and hands a correct
    pair to the next iteration. -/
theorem weight_used_is_effW {s : St} {u ep lu ls : Nat} (hep : 1 ≤ ep) (hC : Carry s.whist u ep lu ls) :
    (weightAt s u ep lu ls).2.2.getD 0 = Inc.effW s.whist u ep
    ∧ Carry s.whist u (ep + 1) (weightAt s u ep lu ls).1 (weightAt s u ep lu ls).2.1 :=
  weightAt_effW hep hC

/-- **every claim reads `effW`**, over ALL epoch-monotone histories: in any state reached from a fresh
    contract, for any address `u` and any flow `f`, the loop `claim` runs for `f` — started as `claim.rs`
    starts it (`claimStart`: first claimable epoch = last claimed epoch + 1, or the earlier of the flow's
    start and the address's earliest history entry; carried pair = that earliest entry) — uses
    `effW whist u ep` as `u`'s weight in EVERY iteration it reaches (`LoopReadsEffW`, `n` iterations for
    any `n`), including after the epochs it skips before the flow's start. Together with `shares_le_one`
    (`Σ_u effW u E ≤ snapshot(E)`) and `shares_sum_le_one` this is the shares clause for what is actually
    paid. -/
theorem claim_reads_effW (c : Cfg) (e0 : Nat) (bal : Bal) (ops : List (Env × Op)) (he : EpochsFrom e0 ops)
    (u : Addr) (f : Flow) (n : Nat) :
    LoopReadsEffW (reach c (init e0 bal) ops) u f.expanded.1 f.expanded.2 n
      (claimStart (reach c (init e0 bal) ops) u f).1
      { flow := f, lastUpd := (claimStart (reach c (init e0 bal) ops) u f).2.1,
        lastSeen := (claimStart (reach c (init e0 bal) ops) u f).2.2, count := 0, msgs := [] } := by
  obtain ⟨ep', hL⟩ := reach_LCI (c := c) ops (init e0 bal) e0 (init_LCI e0 bal) he
  exact loop_reads_effW (hL.zero u) n _ _ (claimStart_carry hL u f)

/-- … and so does the separately modelled rewards query (`get_rewards.rs`) -/
theorem rewards_query_reads_effW (c : Cfg) (e0 : Nat) (bal : Bal) (ops : List (Env × Op))
    (he : EpochsFrom e0 ops) (u : Addr) (f : Flow) (n : Nat) :
    QueryReadsEffW (reach c (init e0 bal) ops) u f f.expanded.1 f.expanded.2 n
      (claimStart (reach c (init e0 bal) ops) u f).1
      { emitted := f.emitted, lastUpd := (claimStart (reach c (init e0 bal) ops) u f).2.1,
        lastSeen := (claimStart (reach c (init e0 bal) ops) u f).2.2, total := 0 } := by
  obtain ⟨ep', hL⟩ := reach_LCI (c := c) ops (init e0 bal) e0 (init_LCI e0 bal) he
  exact query_reads_effW (hL.zero u) n _ _ (claimStart_carry hL u f)

/-- **the share query reads `effW` too**, over ALL histories (no assumption on epochs): in any state
    reached from a fresh contract, a successful `CurrentEpochRewardsShare` query for address `u` in epoch
    `E` answers with `u`'s weight in effect for `E` — `effW`, exactly what the claim loop and the rewards
    query use (`claim_reads_effW`, `rewards_query_reads_effW`): the query's own lookup, "entry with the
    largest epoch `≤ E` of the address's filtered history map", is the same function because the history
    never holds two entries for one (address, epoch) (`reach_wkeys`) —, with the epoch's global-weight
    snapshot and with the floor share `weight · 10^18 / snapshot` (0 when the snapshot is 0). -/
theorem share_query_reads_effW (c : Cfg) (e0 : Nat) (bal : Bal) (ops : List (Env × Op))
    (u : Addr) (E w g sh : Nat) (h : qShare (reach c (init e0 bal) ops) u E = .ok (w, g, sh)) :
    w = Inc.effW (reach c (init e0 bal) ops).whist u E
    ∧ g = aget (reach c (init e0 bal) ops).snap E
    ∧ sh = w * E18 / g :=
  qShare_spec (reach_wkeys ops (init e0 bal) (init_wkeys e0 bal)) h

/-- **the shares the query reports add up to at most 100 %**, over ALL epoch-monotone histories, for every
    epoch `E` and every list of distinct addresses: whatever the share query answers for them in the
    reached state (`ans u`, each a successful answer), the reported shares sum to at most `10^18`
    (= 100 % as a `Decimal256`) — the clause "the reward shares of all addresses, as reported by the
    share query, add up to at most 100 %" stated on the query's own output. -/
theorem share_query_sums_le_one (c : Cfg) (e0 : Nat) (bal : Bal) (ops : List (Env × Op))
    (he : EpochsFrom e0 ops) (E : Nat) (us : List Addr) (hus : us.Nodup)
    (ans : Addr → Nat × Nat × Nat)
    (h : ∀ u ∈ us, qShare (reach c (init e0 bal) ops) u E = .ok (ans u)) :
    (us.map (fun u => (ans u).2.2)).sum ≤ E18 := by
  have hspec : ∀ u ∈ us, (ans u).2.2
      = Inc.effW (reach c (init e0 bal) ops).whist u E * E18 / aget (reach c (init e0 bal) ops).snap E := by
    intro u hu
    obtain ⟨h1, h2, h3⟩ := share_query_reads_effW c e0 bal ops u E (ans u).1 (ans u).2.1 (ans u).2.2 (h u hu)
    rw [h3, h1, h2]
  rw [List.map_congr_left hspec]
  cases hg : alook (reach c (init e0 bal) ops).snap E with
  | none =>
    have : aget (reach c (init e0 bal) ops).snap E = 0 := by unfold aget; rw [hg]; rfl
    rw [this]
    simp
  | some g =>
    have hag : aget (reach c (init e0 bal) ops).snap E = g := by unfold aget; rw [hg]; rfl
    rw [hag]
    by_cases hz : g = 0
    · subst hz; simp
    · exact (shares_sum_le_one c e0 bal ops he E g us hus hg (Nat.pos_of_ne_zero hz)).1

/-- the F11 mechanism on its own (subsumed by `shares_le_one`): in any
    state reachable from a fresh contract and for any further successful operation in epoch `E`
    (a) a snapshot that already exists — for any epoch — is never changed;
    (b) if the snapshot of an epoch appears in this operation, it is the operation's own epoch and its
        value is the global weight *before* the operation, which is the sum of all address weights
        before the operation (so a position change can never slip in front of its epoch's snapshot,
        whether the snapshot is taken by the permissionless call or lazily);
    (c) if the operation changed any weight, its epoch has a snapshot afterwards. -/
theorem shares_le_one_partial (c : Cfg) (e0 : Nat) (bal : Bal) (ops : List (Env × Op))
    (e : Env) (op : Op) (s' : St) (h : step c (reach c (init e0 bal) ops) e op = .ok s') :
    (∀ E g, alook (reach c (init e0 bal) ops).snap E = some g → alook s'.snap E = some g)
    ∧ (∀ E g, alook (reach c (init e0 bal) ops).snap E = none → alook s'.snap E = some g →
        E = e.epoch ∧ g = (reach c (init e0 bal) ops).global
        ∧ g = sumVals (reach c (init e0 bal) ops).addrW)
    ∧ (wcore s' ≠ wcore (reach c (init e0 bal) ops) → alook s'.snap e.epoch ≠ none) := by
  obtain ⟨hs, hc⟩ := step_snap h
  refine ⟨fun E g hg => hs.keeps hg, ?_, hc⟩
  intro E g hn hg
  obtain ⟨h1, h2⟩ := hs.new_value hn hg
  exact ⟨h1, h2, by rw [h2]; exact (reach_WInv (init_WInv e0 bal) ops).global_sum⟩

/-- non-vacuity: two holders, a flow of 1 000 000 over epochs 2..12; in epoch 2 alice closes BEFORE
    anybody calls the snapshot (the F11 scenario): the lazy snapshot is 2000, both are quoted and paid
    50 000 = half of the epoch's emission of 100 000, a second claim by bob is rejected. -/
example :
    let c : Cfg := { lpNative := false, feeAsset := 1, feeAmt := 1, maxFlows := 3, buffer := 10, minDur := 86400, maxDur := 31556926 }
    let s0 := init 1 [((1, 0), 5000), ((2, 0), 5000), ((4, 1), 10), ((4, 2), 2000000)]
    let s := reach c s0 [({ epoch := 1, time := 1000, sender := 1, offers := [(0, 1000)] }, .openPos 1000 86400 none),
                         ({ epoch := 1, time := 1000, sender := 2, offers := [(0, 1000)] }, .openPos 1000 86400 none),
                         ({ epoch := 1, time := 1000, sender := 4, offers := [(1, 1), (2, 1000000)] }, .openFlow 2 1000000 (some 2) (some 12)),
                         ({ epoch := 2, time := 1000, sender := 1, offers := [] }, .closePos 86400)]
    let s2 := reach c s [({ epoch := 2, time := 1000, sender := 1, offers := [] }, .claim),
                         ({ epoch := 2, time := 1000, sender := 2, offers := [] }, .claim)]
    (alook s.snap 2, getRewards s 1 2, getRewards s 2 2) = (some 2000, .ok [(2, 50000)], .ok [(2, 50000)])
    ∧ (balOf s2 1 2, balOf s2 2 2, s2.global, sumVals s2.addrW) = (50000, 50000, 1000, 1000)
    ∧ (step c s2 { epoch := 2, time := 1000, sender := 2, offers := [] } .claim).isOk = false := by decide +kernel

/-- regression (the defect repaired by the last incentive fix): alice opens in epoch 1 and closes in epoch 3
    without ever claiming, a flow starts in epoch 5. Before the repair the loops carried alice's earliest
    history entry (1000) past the later one (0) because the epochs before the flow's start were skipped
    unread, and alice and bob were each paid the whole emission of epoch 5. Now: `effW` of alice for epoch 5
    is 0, she is quoted and paid nothing, bob gets the 100 000. -/
example :
    let c : Cfg := { lpNative := false, feeAsset := 1, feeAmt := 1, maxFlows := 3, buffer := 10, minDur := 86400, maxDur := 31556926 }
    let s0 := init 1 [((1, 0), 5000), ((2, 0), 5000), ((4, 1), 10), ((4, 2), 2000000)]
    let s := reach c s0 [({ epoch := 1, time := 1000, sender := 1, offers := [(0, 1000)] }, .openPos 1000 86400 none),
                         ({ epoch := 1, time := 1000, sender := 2, offers := [(0, 1000)] }, .openPos 1000 86400 none),
                         ({ epoch := 3, time := 1000, sender := 1, offers := [] }, .closePos 86400),
                         ({ epoch := 3, time := 1000, sender := 4, offers := [(1, 1), (2, 1000000)] }, .openFlow 2 1000000 (some 5) (some 15)),
                         ({ epoch := 5, time := 1000, sender := 3, offers := [] }, .snapshot)]
    let s2 := reach c s [({ epoch := 5, time := 1000, sender := 1, offers := [] }, .claim),
                         ({ epoch := 5, time := 1000, sender := 2, offers := [] }, .claim)]
    (Inc.effW s.whist 1 5, Inc.effW s.whist 2 5, alook s.snap 5) = (0, 1000, some 1000)
    ∧ (getRewards s 1 5, getRewards s 2 5) = (.ok [], .ok [(2, 100000)])
    ∧ (balOf s2 1 2, balOf s2 2 2, s2.flows.map (·.claimed)) = (0, 100000, [100000]) := by decide +kernel

/-- non-vacuity / exact values: the five documented points of the weight curve. -/
example : calcWeight 86400 10000 = .ok 10000 ∧ calcWeight 31556926 10000 = .ok 159999
    ∧ calcWeight 15778463 10000 = .ok 49999 ∧ calcWeight 100 64 = .err
    ∧ calcWeight 1000000 1 = .ok 1 ∧ calcWeight 1000000 24 = .ok 25 := by decide +kernel

/-- non-vacuity of `share_query_reads_effW` / `share_query_sums_le_one`: the F11 scenario above (alice
    closes in epoch 2 before any snapshot call) — the query reports weight 1000 of 2000 = 50 % for each. -/
example :
    let c : Cfg := { lpNative := false, feeAsset := 1, feeAmt := 1, maxFlows := 3, buffer := 10, minDur := 86400, maxDur := 31556926 }
    let s0 := init 1 [((1, 0), 5000), ((2, 0), 5000), ((4, 1), 10), ((4, 2), 2000000)]
    let s := reach c s0 [({ epoch := 1, time := 1000, sender := 1, offers := [(0, 1000)] }, .openPos 1000 86400 none),
                         ({ epoch := 1, time := 1000, sender := 2, offers := [(0, 1000)] }, .openPos 1000 86400 none),
                         ({ epoch := 2, time := 1000, sender := 1, offers := [] }, .closePos 86400)]
    (qShare s 1 2, qShare s 2 2, qShare s 3 2)
      = (.ok (1000, 2000, 500000000000000000), .ok (1000, 2000, 500000000000000000), .ok (0, 2000, 0))
    ∧ (Inc.effW s.whist 1 2, Inc.effW s.whist 1 3) = (1000, 0) := by decide +kernel

end WW.C13
