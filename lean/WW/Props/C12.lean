/-
  C12 — Incentive flows are fully funded and fully returned.
  Property theorems only; helpers in WW/Proofs (see the imports). Model: `WW.Inc.step` (engine
  `incentive`), following the repaired code (F4, F5, expand_flow TransferFrom dispatched, reset default).
  Asset ids: 0 … 4 the LP asset, two native denoms, two cw20 tokens; 5 … 9 the same names in the WRONG KIND
  (`a + 5` = look-alike of `a`). Every theorem below that speaks of "an asset `a`" holds for all ten (for
  every `a : Nat`): in particular `flow_backed` keeps a cw20 token and the native denom that spells its
  address apart — each balance covers the flows denominated in exactly that asset.
-/
import WW.Proofs.AssetKinds
import WW.Proofs.FlowExact
import WW.Proofs.CustodyHist
namespace WW.C12
open WW WW.Gen WW.Inc

/-- Backing statement (per reward asset `a`): what the contract holds covers the flows'
    funded − claimed (plus the staked LP when `a` is the LP asset). Proved for every history by
    `flow_backed` below; also evaluated after every operation of every generated history on the real
    contracts by the monitor `C12:flow_backed`. -/
def FlowBacked (s : St) (a : Nat) (staked : Nat) : Prop :=
  ((s.flows.filter (fun f => f.asset = a)).map (fun f => f.funded - f.claimed)).sum
    + (if a = 0 then staked else 0) ≤ balOf s INC a

/-- **flow_backed**, over ALL histories: whatever sequence of operations (by any senders other than the
    contract itself, at any epochs and times, with any funds / allowances attached, failed operations
    included) is applied to a freshly instantiated contract, for EVERY asset `a` the contract's balance
    covers the unclaimed funds `funded − claimed` of all flows denominated in `a` — plus, when `a` is the
    LP asset, everything staked (all open and closed positions of all addresses). -/
theorem flow_backed (c : Cfg) (e0 : Nat) (bal : Bal) (ops : List (Env × Op)) (hs : SendersOk ops) (a : Nat) :
    FlowBacked (reach c (init e0 bal) ops) a (staked (reach c (init e0 bal) ops)) := by
  have h := (reach_backed (c := c) (init_WInv e0 bal) (init_FInv e0 bal) (init_backed e0 bal) ops hs).2 a
  unfold owed at h
  rw [ffSum_eq] at h
  exact h

/-- the same as a one-step statement from any state satisfying the invariants -/
theorem flow_backed_step {c : Cfg} {s s' : St} {e : Env} {op : Op} (hW : WInv s) (hF : FInv s)
    (hB : ∀ a, FlowBacked s a (staked s)) (hs : e.sender ≠ INC) (h : step c s e op = .ok s') (a : Nat) :
    FlowBacked s' a (staked s') := by
  have hB' : Backed s := by
    intro a; have := hB a; unfold FlowBacked at this; unfold owed; rw [ffSum_eq]; exact this
  have h := (step_backed hW hF hB' hs h).2 a
  unfold owed at h
  rw [ffSum_eq] at h
  exact h

/-- **claims_le_funded**, over ALL histories (no assumption at all on senders, epochs or funds): no
    flow's claimed amount ever exceeds its funded amount (the latest expanded amount, or the original one);
    in particular `expand_flow` (including its reset branch) never drops funded below claimed. Flow ids are
    distinct and never reused. -/
theorem claims_le_funded (c : Cfg) (e0 : Nat) (bal : Bal) (ops : List (Env × Op)) :
    (∀ f ∈ (reach c (init e0 bal) ops).flows, f.claimed ≤ f.funded)
    ∧ (flowIds (reach c (init e0 bal) ops).flows).Nodup
    ∧ (∀ f ∈ (reach c (init e0 bal) ops).flows, f.id ≤ (reach c (init e0 bal) ops).flowCounter) := by
  have h := reach_FInv (c := c) (init_WInv e0 bal) (init_FInv e0 bal) ops
  exact ⟨h.claimed_le, h.ids_nodup, h.ids_le⟩

/-- … and a whole claim pays, per asset, exactly the total increase of the claimed amounts of the flows
    in that asset, and pulls nothing: `Σ_flows(funded − claimed)` after + paid out = before. -/
theorem claim_pays_exactly_increase {s : St} {u epoch : Nat} {fl' : List Flow} {msgs : List Msg} (hu : u ≠ INC)
    (hle : ∀ f ∈ s.flows, f.claimed ≤ f.funded) (h : claimFlows s u epoch s.flows = .ok (fl', msgs)) (a : Nat) :
    ffSum a fl' + outsOf INC a msgs = ffSum a s.flows ∧ insOf INC a msgs = 0
    ∧ (∀ x ∈ msgs, ∃ asset amt, x = Msg.send INC u asset amt) := by
  obtain ⟨_, c2, c3, c4⟩ := claimFlows_ledger _ _ _ h
  exact ⟨(c2 hle).2 hu a, c3 hu a, c4⟩

/-- **close_auth**: only the flow's creator or the factory owner can close a flow. -/
theorem close_auth {c : Cfg} {s s' : St} {e : Env} {id : Nat} (hoff : e.offers = [])
    (h : step c s e (.closeFlow id) = .ok s') :
    ∃ f, findFlow s.flows id = some f ∧ (f.creator = e.sender ∨ e.sender = OWNER) := by
  obtain ⟨f, hf, ha, _, _⟩ := step_closeFlow hoff h
  exact ⟨f, hf, ha⟩

/-- **close_returns_exact**: closing a flow pays exactly `funded − claimed` (funded = the latest
    expanded amount, or the original one) of the flow's asset to the flow's *creator* — whoever the
    sender is — out of the contract's balance, and removes the flow. -/
theorem close_returns_exact {c : Cfg} {s s' : St} {e : Env} {id : Nat} (hoff : e.offers = [])
    (h : step c s e (.closeFlow id) = .ok s') :
    ∃ f, findFlow s.flows id = some f ∧ findFlow s'.flows id = none
      ∧ (f.creator ≠ INC →
          balOf s' f.creator f.asset = balOf s f.creator f.asset + (f.funded - f.claimed)
          ∧ balOf s' INC f.asset + (f.funded - f.claimed) = balOf s INC f.asset) := by
  obtain ⟨f, hf, _, hn, hb⟩ := step_closeFlow hoff h
  exact ⟨f, hf, hn, hb⟩

/-- **claims_le_funded** (claim side): one iteration of the claim loop never lets the flow's claimed
    amount exceed the flow's expanded funded amount, and pays out exactly the increase.
    (The per-iteration form; the whole-history statement is `claims_le_funded`.) -/
theorem claims_le_funded_partial {s : St} {u expAmt expEnd ep : Nat} {st st' : ClaimLoop}
    (hle : st.flow.claimed ≤ expAmt)
    (h : claimEpoch s u expAmt expEnd st ep = .ok (.next st')) :
    st'.flow.claimed ≤ expAmt
    ∧ st'.msgs = st.msgs ++ (if st'.flow.claimed = st.flow.claimed then []
        else [Msg.send INC u st.flow.asset (st'.flow.claimed - st.flow.claimed)]) :=
  ⟨(claimEpoch_spec h).2.2.1 hle, (claimEpoch_spec h).2.2.2.2⟩

/-- **open_expand_exact** (expansion, funds side): an accepted expansion of a
    cw20 flow carries exactly one `TransferFrom` of the stated amount from the sender to the contract; an
    accepted expansion of a native flow has exactly the stated amount of the flow's denom — and no other
    coin — attached. -/
theorem open_expand_exact_partial {c : Cfg} {e : Env} {a amount : Nat} {m : List Msg}
    (h : expandFlowFunds c e a amount = .ok m) :
    (c.native a = true ∧ fundsOf c e.offers = [(a, amount)] ∧ amount ≠ 0 ∧ m = [])
    ∨ (c.native a = false ∧ amount ≤ aget (allowOf c e.offers) a ∧ m = [.pull e.sender INC a amount]) :=
  expandFlowFunds_spec h

/-- **open_expand_exact** (expand), over ALL epoch-monotone histories: after any history from a fresh
    contract whose epochs never go back, an accepted `expand_flow` (by a sender other than the contract) of
    `amt` of flow `id` raises that flow's unclaimed funds `funded − claimed` by exactly `amt` (also through
    the reset branch, where the unclaimed rest becomes a fresh flow), keeps asset and creator, and raises
    the contract's balance of the flow asset by exactly `amt`. -/
theorem open_expand_exact_expand (c : Cfg) (e0 : Nat) (bal : Bal) (ops : List (Env × Op)) (e : Env)
    (id a amt : Nat) (en : Option Nat) (s' : St)
    (hep : EpochsFrom e0 (ops ++ [(e, .expandFlow id a amt en)])) (hs : e.sender ≠ INC)
    (h : step c (reach c (init e0 bal) ops) e (.expandFlow id a amt en) = .ok s') :
    ∃ f f2, findFlow (reach c (init e0 bal) ops).flows id = some f ∧ findFlow s'.flows id = some f2
      ∧ f.asset = a ∧ f2.asset = a ∧ f2.creator = f.creator
      ∧ f2.claimed ≤ f2.funded ∧ f2.funded - f2.claimed = f.funded - f.claimed + amt
      ∧ balOf s' INC a = balOf (reach c (init e0 bal) ops) INC a + amt := by
  have hF := reach_FInv (c := c) (init_WInv e0 bal) (init_FInv e0 bal) ops
  have hH : HistLe (init e0 bal) e0 := fun f hf => by cases hf
  have hH' := reach_HistLe (c := c) e (.expandFlow id a amt en) ops (init e0 bal) e0 (init_WInv e0 bal)
    (init_FInv e0 bal) hH hep
  exact step_expandFlow_exact hF hH' hs h

/-- **open_expand_exact** (open), over ALL histories: after any history from a fresh contract, an accepted
    `open_flow` (sender neither the contract nor the fee collector, coins with distinct denoms) records a
    flow with a fresh id for the sender, with nothing claimed, funded with the declared amount (less the
    fee when the fee is charged in the flow asset itself); the contract's balance of the flow asset grows
    by exactly the funded amount and the collector's balance of the fee asset by exactly the fee. -/
theorem open_expand_exact_open (c : Cfg) (e0 : Nat) (bal : Bal) (ops : List (Env × Op)) (e : Env)
    (a amt : Nat) (st en : Option Nat) (s' : St)
    (hs : e.sender ≠ INC) (hsc : e.sender ≠ COLLECTOR) (hn : (keysOf e.offers).Nodup)
    (h : step c (reach c (init e0 bal) ops) e (.openFlow a amt st en) = .ok s') :
    ∃ f, findFlow s'.flows ((reach c (init e0 bal) ops).flowCounter + 1) = some f
      ∧ findFlow (reach c (init e0 bal) ops).flows ((reach c (init e0 bal) ops).flowCounter + 1) = none
      ∧ f.creator = e.sender ∧ f.asset = a ∧ f.claimed = 0
      ∧ f.funded = (if c.feeAsset = a then amt - c.feeAmt else amt)
      ∧ balOf s' INC a = balOf (reach c (init e0 bal) ops) INC a + f.funded
      ∧ balOf s' COLLECTOR c.feeAsset = balOf (reach c (init e0 bal) ops) COLLECTOR c.feeAsset + c.feeAmt :=
  step_openFlow_exact (reach_FInv (c := c) (init_WInv e0 bal) (init_FInv e0 bal) ops) hs hsc hn h

/-- **wrong kind, expansion**: `expand_flow` is accepted only when the asset it names is exactly the flow's
    own asset — same kind AND same name (asset ids are `AssetInfo` values). So a flow in a cw20 token cannot
    be expanded by naming (and paying in) the native denom that spells the token's address, nor the other
    way round; together with `open_expand_exact_expand` an accepted expansion brings in exactly `amt` of the
    flow's own asset. Any state, any sender, any funds. -/
theorem expand_names_flow_asset {c : Cfg} {s s' : St} {e : Env} {id a amt : Nat} {en : Option Nat} {f : Flow}
    (hf : findFlow s.flows id = some f) (h : step c s e (.expandFlow id a amt en) = .ok s') : f.asset = a :=
  step_expandFlow_names_asset hf h

/-- the look-alike form of it: a flow in one of the five assets `x` is never expanded by a message naming
    `x + 5`, and a flow in a look-alike `x + 5` never by a message naming `x` -/
theorem expand_lookalike_refused {c : Cfg} {s s' : St} {e : Env} {id x amt : Nat} {en : Option Nat} {f : Flow}
    (hf : findFlow s.flows id = some f) :
    (f.asset = x → step c s e (.expandFlow id (x + 5) amt en) ≠ .ok s')
    ∧ (f.asset = x + 5 → step c s e (.expandFlow id x amt en) ≠ .ok s') := by
  refine ⟨fun hx h => ?_, fun hx h => ?_⟩
  · have := step_expandFlow_names_asset hf h; omega
  · have := step_expandFlow_names_asset hf h; omega

/-- **wrong kind, kinds**: the look-alike `a + 5` of each of the five assets has the other kind; it is a
    token without a contract exactly when `a` is native -/
theorem lookalike_kind (c : Cfg) {a : Nat} (h : a < 5) :
    c.native (a + 5) = !c.native a ∧ c.dead (a + 5) = c.native a ∧ c.dead a = false :=
  ⟨native_lookalike c h, dead_lookalike c h, base_not_dead c h⟩

/-- **wrong kind, token that does not exist**: `open_flow` and `expand_flow` naming the cw20 `Token` that
    spells a native denom are refused in every state, whatever is attached (the coins of the denom itself
    included) — a refused operation changes nothing (`stepOrStay`). -/
theorem dead_token_flow_refused {c : Cfg} {s s' : St} {e : Env} {a amt : Nat} (hd : c.dead a = true) :
    (∀ st en, step c s e (.openFlow a amt st en) ≠ .ok s')
    ∧ (∀ id en, step c s e (.expandFlow id a amt en) ≠ .ok s') :=
  ⟨fun _ _ h => step_openFlow_dead hd h, fun _ _ h => step_expandFlow_dead hd h⟩

/-- non-vacuity of the look-alike clauses: cw20 A (asset 3) and the native denom spelling its address
    (asset 8). Dave opens a flow of 5000 in the token; expanding it with 700 look-alike COINS is refused
    (nothing moves); he opens a flow of 6000 in the look-alike denom (accepted: it is just another denom),
    expanding THAT with the token's allowance is refused, with the coins accepted. The contract then holds
    5000 of the token and 6700 of the denom — each flow backed in its own asset — and `uwhale` named as a
    token is refused although the coins are attached. -/
example :
    let c : Cfg := { lpNative := false, feeAsset := 1, feeAmt := 10, maxFlows := 3, buffer := 5, minDur := 86400, maxDur := 31556926 }
    let s0 := init 1 [((4, 1), 100), ((4, 2), 9000), ((4, 3), 9000), ((4, 8), 9000)]
    let s := reach c s0 [({ epoch := 1, time := 100, sender := 4, offers := [(1, 10), (3, 5000)] }, .openFlow 3 5000 none (some 10)),
                         ({ epoch := 1, time := 101, sender := 4, offers := [(8, 700)] }, .expandFlow 1 8 700 none),
                         ({ epoch := 1, time := 102, sender := 4, offers := [(1, 10), (8, 6000)] }, .openFlow 8 6000 none (some 10)),
                         ({ epoch := 1, time := 103, sender := 4, offers := [(3, 700)] }, .expandFlow 2 3 700 none),
                         ({ epoch := 1, time := 104, sender := 4, offers := [(8, 700)] }, .expandFlow 2 8 700 none),
                         ({ epoch := 1, time := 105, sender := 4, offers := [(1, 10), (2, 5000)] }, .openFlow 7 5000 none (some 10))]
    (balOf s INC 3, balOf s INC 8, balOf s 4 3, balOf s 4 8, balOf s 4 2) = (5000, 6700, 4000, 2300, 9000)
    ∧ s.flows.map (fun f => f.asset) = [3, 8] ∧ s.flows.map (fun f => f.funded) = [5000, 6700] := by decide +kernel

/-- non-vacuity: dave opens a native flow of 1 000 000 `ureward` (fee 1000 `uwhale`), expands it by
    500 000, the owner closes it: dave gets 1 500 000 back, the collector keeps the fee, the contract 0 -/
example :
    let c : Cfg := { lpNative := false, feeAsset := 1, feeAmt := 1000, maxFlows := 3, buffer := 5, minDur := 86400, maxDur := 31556926 }
    let s0 := init 1 [((4, 1), 5000), ((4, 2), 2000000)]
    let s := reach c s0 [({ epoch := 1, time := 100, sender := 4, offers := [(1, 1000), (2, 1000000)] }, .openFlow 2 1000000 none (some 10)),
                         ({ epoch := 2, time := 200, sender := 4, offers := [(2, 500000)] }, .expandFlow 1 2 500000 none),
                         ({ epoch := 3, time := 300, sender := 5, offers := [] }, .closeFlow 1)]
    (balOf s 4 2, balOf s 4 1, balOf s COLLECTOR 1, balOf s INC 2, s.flows.length) = (2000000, 4000, 1000, 0, 0) := by decide +kernel

end WW.C12
