/-
  C04 — Three-asset stableswap pool: solvent, LP value monotone, amp ramps bounded.
  Property theorems only (lemmas in WW/Proofs/Trio.lean). The model `WW.Trio.*` is the replica
  of `stableswap_3pool` (curve.rs, helpers.rs, commands.rs, queries.rs, contract.rs); it is tied to the
  Rust by the `trio` correspondence engine (pure calls through the hook + contract histories).

  Histories: `run s ops` folds `step` over a list of `(block height, sender, operation)`; a failed
  operation leaves the state untouched. `Inv` is established by `mkInit` (`inv_init`) and preserved by
  every step, so every theorem taking `Inv s` speaks about every reachable state.

  FULL: amp clauses, ramp acceptance rule, stored-amp range over all histories, pool selection,
  solvency over all histories, fee split, LP mint bound for deposits, withdrawal bound.
  VIOLATED ON THE CURRENT CODE (witness below, reproduced on the real contract by the harness):
  "a swap there-and-back never yields a profit" — by rounding dust of the Newton solvers.
  PARTIAL: D-per-LP across swaps / there-and-back need the solvers' accuracy; what the solver's
  termination test alone gives (`y_solver_residual_partial`) and the exact per-asset withdrawal
  bound are proved; the rest is covered by the harness' exact-solver oracle (a test).
-/
import WW.Proofs.Trio
namespace WW.C04
open WW WW.Trio

/-- **amp_between**: whatever `compute_amp_factor` returns, at every block height and for every
    stored configuration, lies between the ramp's start and target values. -/
theorem amp_between {init target cur start stop a : Nat}
    (h : ampFactor init target cur start stop = .ok a) :
    min init target ≤ a ∧ a ≤ max init target := by
  obtain ⟨he, hw⟩ := ampFactor_ok_eq h
  rw [he]
  exact ampClosed_between hw

/-- **amp_linear**: on a well-formed clock (`u64` values, height not before the ramp's start) the
    effective amplification is defined and equals the closed form: linear in the block height with
    floor, `init ± ⌊|target − init|·(h − start)/(stop − start)⌋` before `stop`, `target` from `stop` on. -/
theorem amp_linear {init target h start stop : Nat} (hi : init ≤ U64MAX) (ht : target ≤ U64MAX)
    (hh : h ≤ U64MAX) (hw : h < stop → start ≤ h) :
    ampFactor init target h start stop = .ok
      (if h < stop then
        (if target ≥ init then init + (target - init) * (h - start) / (stop - start)
         else init - (init - target) * (h - start) / (stop - start))
       else target) :=
  ampFactor_closed hi ht hh hw

/-- … in particular it equals the target at and after the stop block. -/
theorem amp_at_stop {init target h start stop : Nat} (hs : stop ≤ h) :
    ampFactor init target h start stop = .ok target := by
  unfold ampFactor
  rw [if_neg (by omega)]

/-- **amp_monotone_in_h**: during a ramp the effective amplification moves monotonically from the
    start value to the target as the block height grows (up-ramps never fall, down-ramps never rise). -/
theorem amp_monotone_in_h {init target start stop h1 h2 a1 a2 : Nat}
    (hs : start ≤ h1) (h12 : h1 ≤ h2) (hse : start < stop)
    (e1 : ampFactor init target h1 start stop = .ok a1)
    (e2 : ampFactor init target h2 start stop = .ok a2) :
    (init ≤ target → a1 ≤ a2) ∧ (target ≤ init → a2 ≤ a1) := by
  rw [(ampFactor_ok_eq e1).1, (ampFactor_ok_eq e2).1]
  exact ampClosed_mono hs h12 hse

/-- **ramp_accept_iff**: in a reachable state, a pure ramp request `RampAmp{future_a, future_block}`
    at block `h` is accepted iff the sender is the owner and
    `1 ≤ A' ≤ 10⁶ ∧ A' ≤ 10·A ∧ A ≤ 10·A' ∧ future_block ≥ h + 10000`, where `A` ("current") is the
    amplification *in effect at block `h`* — the interpolated value while a ramp is running.
    On acceptance the new ramp starts from that value at block `h`. -/
theorem ramp_accept_iff {s : St} {h u fa fb : Nat} (hi : Inv s) (hh : h + 10000 ≤ U64MAX)
    (hclock : h < s.amp.stop → s.amp.start ≤ h) :
    let cur := ampClosed s.amp.init s.amp.target h s.amp.start s.amp.stop
    (∃ s', updateConfig s h u none none none none (some (fa, fb)) = .ok s') ↔
      (u = s.owner ∧ 1 ≤ fa ∧ fa ≤ 1000000 ∧ fa ≤ 10 * cur ∧ cur ≤ 10 * fa ∧ h + 10000 ≤ fb) := by
  intro cur
  have h64 : (1000000 : Nat) ≤ U64MAX := by decide
  have hat : s.amp.at h = .ok cur :=
    ampFactor_closed (by have := hi.ampHi; omega) (by have := hi.ampHi; omega) (by omega) hclock
  have hcur : cur ≤ 1000000 := (amp_at_range hi.ampLo hi.ampHi hat).2
  have hclosed := rampAmp_closed (A := s.amp) (fa := fa) (fb := fb) hat hcur hh
  constructor
  · rintro ⟨s', hs'⟩
    obtain ⟨hown, _, hr, _⟩ := updateConfig_spec hs'
    have hr := hr fa fb rfl
    rw [hclosed] at hr
    by_cases hrule : rampRule cur h fa fb
    · exact ⟨hown, hrule⟩
    · rw [if_neg hrule] at hr; cases hr
  · rintro ⟨hown, hrule⟩
    have hrule : rampRule cur h fa fb := hrule
    unfold updateConfig
    subst hown
    simp only [guardErr, decide_true, if_true, Res.bind_ok, hclosed, if_pos hrule]
    exact ⟨_, rfl⟩

/-- an accepted ramp stores (current amp, requested target, this block, requested stop block) -/
theorem ramp_stored {s s' : St} {h u fa fb : Nat} {o c : Option Nat} {f : Option Fees}
    {t : Option (Bool × Bool × Bool)}
    (hs : updateConfig s h u o c f t (some (fa, fb)) = .ok s') :
    ∃ cur, s.amp.at h = .ok cur ∧ s'.amp = { init := cur, target := fa, start := h, stop := fb } := by
  obtain ⟨_, _, hr, _⟩ := updateConfig_spec hs
  obtain ⟨cur, hc, hA, _⟩ := rampAmp_ok_bounds (hr fa fb rfl)
  exact ⟨cur, hc, hA⟩

/-- instantiation establishes the invariant (fees valid, amp within `[1, 10⁶]` or it is rejected) -/
theorem inv_init {kind : Nat → Bool} {fees : Fees} {amp h0 : Nat} {fund : Nat → Nat → Nat}
    {sup : Nat → Nat} {s : St} (h : mkInit kind fees amp h0 fund sup = .ok s) : Inv s :=
  init_inv h

/-- **amp_inv_reach**: over ALL histories (any senders, any block heights, any interleaving, failed
    operations included) the stored initial and target amplification stay in `[1, 10⁶]`, and hence
    so does the amplification in effect at any height at which it is defined. -/
theorem amp_inv_reach {s : St} (hi : Inv s) (ops : List (Nat × Nat × Op)) :
    let s' := run s ops
    (1 ≤ s'.amp.init ∧ s'.amp.init ≤ 1000000 ∧ 1 ≤ s'.amp.target ∧ s'.amp.target ≤ 1000000) ∧
    ∀ h a, s'.amp.at h = .ok a → 1 ≤ a ∧ a ≤ 1000000 := by
  intro s'
  have hr := run_inv hi ops
  exact ⟨⟨hr.ampLo.1, hr.ampHi.1, hr.ampLo.2, hr.ampHi.2⟩, fun h a ha => amp_at_range hr.ampLo hr.ampHi ha⟩

/-- **select_correct**: for each of the six directions the pools are assigned
    (offer, ask, unswapped) as named; every other pair of asset indices — same asset twice or an
    asset that is not in the pool — is `AssetMismatch` (an error). -/
theorem select_correct (offer ask : Nat) :
    select offer ask =
      if offer < 3 ∧ ask < 3 ∧ offer ≠ ask then .ok (offer, ask, 3 - offer - ask) else .err :=
  select_eq offer ask

/-- **trio_solvent**: over ALL histories the pool's balance of every asset covers the pending
    protocol fees, i.e. balance = reported reserve (`balance − pending`, what `Pool` answers) + owed
    protocol fees, with no truncation. -/
theorem trio_solvent {s : St} (hi : Inv s) (ops : List (Nat × Nat × Op)) (i : Nat) :
    (run s ops).pend i ≤ (run s ops).bal i ∧
    (run s ops).bal i = ((run s ops).bal i - (run s ops).pend i) + (run s ops).pend i := by
  have := (run_inv hi ops).solvent i
  omega

/-- **trio_fee_split**: whenever `compute_swap` returns, proceeds + swap fee + protocol fee + burn fee
    equal the curve output `swap_to(..).amount_swapped` exactly, each fee is `⌊share · output⌋`, and the
    curve output is strictly below the ask pool. -/
theorem trio_fee_split {A : AmpCfg} {cur op ap un off : Nat} {f : Fees} {c : SwapComp}
    (h : computeSwap A cur op ap un off f = .ok c) :
    ∃ r, swapTo A cur off op ap un = .ok r ∧
      c.ret + c.swapFee + c.protFee + c.burnFee = r.swapped ∧
      c.swapFee = r.swapped * f.swap / E18 ∧ c.protFee = r.swapped * f.prot / E18 ∧
      c.burnFee = r.swapped * f.burn / E18 ∧ r.swapped < ap := by
  obtain ⟨r, hr, h1, h2, h3, h4, _⟩ := computeSwap_ok h
  have := computeSwap_lt_pool h
  exact ⟨r, hr, h4, h1, h2, h3, by omega⟩

/-- **mint_le** (D per LP never decreases across deposits, for the code's own `D` — the same `D`
    the swaps use): the LP minted for a deposit satisfies `mint · D₀ ≤ S · (D₁ − D₀)`,
    i.e. `(S + mint) · D₀ ≤ S · D₁`. -/
theorem mint_le {A : AmpCfg} {cur da db dc sa sb sc S m : Nat}
    (h : mintAmount A cur da db dc sa sb sc S = .ok m) :
    ∃ d0 d1, computeD A cur sa sb sc = .ok d0 ∧ computeD A cur (sa + da) (sb + db) (sc + dc) = .ok d1 ∧
      m * d0 ≤ S * (d1 - d0) ∧ (S + m) * d0 ≤ S * d1 := by
  obtain ⟨d0, d1, h0, h1, hlt, hne, hm⟩ := mintAmount_ok h
  have hle : m * d0 ≤ S * (d1 - d0) := by rw [hm]; exact Nat.div_mul_le_self _ _
  refine ⟨d0, d1, h0, h1, hle, ?_⟩
  have hd : S * d1 = S * d0 + S * (d1 - d0) := by
    rw [← Nat.mul_add, Nat.add_sub_cancel' (Nat.le_of_lt hlt)]
  rw [Nat.add_mul, hd]
  exact Nat.add_le_add_left hle _

/-- withdrawals (exact, no solver involved): of every pool asset a withdrawal of `amt` LP takes at
    most the proportional part of the reserve, `taken_j · S ≤ reserve_j · amt`, and burns exactly `amt`
    LP — so no reserve per LP token, and hence no homogeneous monotone invariant per LP token, falls. -/
theorem withdraw_reserve_per_lp {s s' : St} {u amt j : Nat} (h : withdraw s u amt = .ok s') (hj : j < 3) :
    (s.bal j - s'.bal j) * s.lpSup ≤ (s.bal j - s.pend j) * amt ∧
    s'.lpSup = s.lpSup - amt ∧ amt ≤ s.lpSup ∧ s'.pend j = s.pend j := by
  obtain ⟨b, _, _, _, hl, ha, hb⟩ := withdraw_spec h
  exact ⟨hb j hj, hl, ha, by rw [b.pend]⟩

/-! ### there-and-back, D per LP across swaps: violated by dust / partial -/

/-- full statement: swapping there and straight back (pool in between as the contract reports it:
    offer joins the offer pool; proceeds, protocol fee and burn fee leave the ask pool) never returns
    more than was put in -/
def RoundTripNoProfit : Prop :=
  ∀ (A : AmpCfg) (cur op ap un off : Nat) (f : Fees) (c c2 : SwapComp), f.valid = true →
    computeSwap A cur op ap un off f = .ok c →
    computeSwap A cur (ap - c.ret - c.protFee - c.burnFee) (op + off) un c.ret f = .ok c2 →
    c2.ret ≤ off

/-- **negation witness** (kernel-checked; the same input is replayed on the real contract by the
    harness, `replays/known/C04-round-trip-dust.json`): amp 1, no ramp, zero fees, reserves
    (1101, 1318, 1200): 1047 of asset 0 buy 769 of asset 1, and those 769 buy back 1048 of asset 0. -/
theorem round_trip_fails_on_current : ¬ RoundTripNoProfit := by
  intro h
  have h1 : computeSwap ⟨1, 1, 0, 0⟩ 0 1101 1318 1200 1047 ⟨0, 0, 0⟩ = .ok ⟨769, 278, 0, 0, 0⟩ := by decide +kernel
  have h2 : computeSwap ⟨1, 1, 0, 0⟩ 0 (1318 - 769 - 0 - 0) (1101 + 1047) 1200 769 ⟨0, 0, 0⟩
      = .ok ⟨1048, 279, 0, 0, 0⟩ := by decide +kernel
  have := h ⟨1, 1, 0, 0⟩ 0 1101 1318 1200 1047 ⟨0, 0, 0⟩ _ _ (by decide) h1 h2
  exact absurd this (by decide)

/-- **partial** (what the solver's own termination test gives): a `y` that `compute_y_raw` returns
    through its convergence exit is the integer root of `F(t) = t² + (b − d)·t − c` up to one unit,
    `−(2·y_prev + b − d) < F(y) ≤ 1`; the alternative is that the 1000-iteration budget ran out
    (`yExhausted`; never observed by the harness). Missing for the full there-and-back / D-per-LP
    statements across swaps: the same accuracy for `compute_d` (whose `d_prod` is a chain of three
    floor divisions) — the harness' exact bisection oracle covers that part as a test. -/
theorem y_solver_residual_partial {b c d fuel y0 y : Nat} (h : yLoop b c d fuel y0 = .ok y) :
    (∃ yp, YConverged b c d yp y ∧
      y * y + b * y ≤ c + d * y + 1 ∧ c + d * y < y * y + b * y + (2 * yp + b - d)) ∨
    yExhausted b c d fuel y0 = true := by
  rcases yLoop_ok_cases fuel y0 y h with ⟨yp, hc⟩ | hex
  · left; exact ⟨yp, hc, y_residual_nat hc⟩
  · right; exact hex

/-- **partial** (swaps): a swap pays out of the ask pool strictly less than the pool's own part
    (`balance − pending`), charges the fee ledgers exactly the computed fees and touches no other pool
    than the two named; the accuracy of the two Newton solvers is what is missing for D per LP. -/
theorem swap_effect_partial {s s' : St} {h u offer ask amt : Nat} {bp ms rc : Option Nat}
    (hs : Trio.swap s h u offer ask amt bp ms rc = .ok s') :
    ∃ c : SwapComp, offer < 3 ∧ ask < 3 ∧ offer ≠ ask ∧
      c.ret + c.swapFee + c.protFee + c.burnFee < s.bal ask - s.pend ask ∧
      s'.bal offer = s.bal offer + amt ∧ s'.bal ask = s.bal ask - c.ret - c.burnFee ∧
      s'.bal (3 - offer - ask) = s.bal (3 - offer - ask) ∧
      s'.pend ask = s.pend ask + c.protFee ∧ s'.lpSup = s.lpSup := by
  obtain ⟨c, e, _⟩ := swap_spec hs
  have h1 := e.offer3
  have h2 := e.ask3
  have h3 := e.ne
  refine ⟨c, h1, h2, h3, e.lt, ?_, ?_, ?_, ?_, e.rest.lpSup⟩
  · rw [e.bal, if_pos rfl]
  · rw [e.bal, if_neg (Ne.symm h3), if_pos rfl]
  · rw [e.bal, if_neg (by omega), if_neg (by omega)]
  · rw [e.pend, if_pos rfl]

/-- a concrete pool: instantiate (amp 100, fees 0.1 % / 0.3 % / 0.1 %), first deposit, a swap 0 → 1,
    a ramp request by the owner — all succeed and give exactly these observables -/
def demoInit : Res St :=
  mkInit (fun i => i != 1) ⟨1000000000000000, 3000000000000000, 1000000000000000⟩ 100 10
    (fun a i => if a < 6 ∧ i < 3 then 1000000000 else 0) (fun _ => 6000000000)

def demoOps : List (Nat × Nat × Op) :=
  [(11, 0, .provide 1000000 1000000 1000000 none none),
   (12, 1, .swap 0 1 10000 none none none),
   (12, 5, .updateConfig none none none none (some (1000, 10012))),
   (5012, 2, .collect)]

def demoObs (s : St) : List Nat :=
  let s' := run s demoOps
  [s'.bal 0, s'.bal 1, s'.pend 1, s'.allTime 1, s'.burned 1, s'.lpSup, s'.amp.init, s'.amp.target,
    ((s'.amp.at 5012).toOption).getD 0]

example : demoInit.toOption.map demoObs =
    some [1010000, 990039, 9, 9, 9, 3000000, 100, 1000, 550] := by decide +kernel

/-- the model's exact outputs on a concrete curve input (amp 85 ramping to 850, mid-ramp) -/
example : ampFactor 85 850 5000 0 10000 = .ok 467 := by decide +kernel

end WW.C04
