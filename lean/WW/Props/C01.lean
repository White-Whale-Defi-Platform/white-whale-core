/-
  C01 — Constant-product pool: solvent, and an LP share never loses value.
  Property theorems only (helpers: WW/Proofs/Pair.lean; model: WW/Model/Pair.lean, engine `pair`).

  The model is the constant-product `terraswap_pair` with a cw20 LP token, both assets native or cw20,
  any number of users; operations: ProvideLiquidity (any receiver, any slippage tolerance), Swap
  (native message or cw20 `Send` hook, any `max_spread`, any receiver), WithdrawLiquidity (LP `Send`
  hook), CollectProtocolFees, UpdateConfig{pool_fees} by the owner or by anybody else, plain
  transfers of either asset or of LP tokens to the pair, malformed swaps.  A history is a list of
  such operations by any mix of users; a failed operation leaves the state untouched (`Res`).
  All amounts are unbounded naturals; the `u128` / `u256` limits appear exactly where the Rust
  errs or panics.
-/
import WW.Proofs.Pair
namespace WW.C01
open WW WW.Pair

/-- **solvency + LP bookkeeping, over all histories**: from any state satisfying the invariant (in
    particular a freshly instantiated pair, `init_inv`) every history of operations by any mix of
    users keeps: pending protocol fees ≤ balance on both assets (so balance = reported reserve + fees
    owed), LP supply = pair's own LP + Σ users' LP, and the pair's own LP is ≥ 1000 once there is
    supply.  The pair's own LP balance never decreases. -/
theorem solvent_reach (s : St) (hI : Inv s) (ops : List Op) :
    Inv (reach cpCurve s ops) ∧ s.lpPair ≤ (reach cpCurve s ops).lpPair := reach_inv s hI ops

/-- the invariant holds right after instantiation, for any asset kinds, fees and user balances -/
theorem solvent_init (n0 n1 : Bool) (f : Fees) (us : List User) (h : ∀ u ∈ us, u.lp = 0) :
    Inv (init n0 n1 f us) := init_inv n0 n1 f us h

/-- in an invariant state the `Pool` query answers, and what the pair holds is exactly the reported
    reserve plus the protocol fees it owes, on both assets -/
theorem holds_reserves_plus_fees {s : St} (hI : Inv s) :
    queryPool s = .ok (s.x0.res, s.x1.res, s.sup) ∧
    s.x0.bal = s.x0.res + s.x0.pend ∧ s.x1.bal = s.x1.res + s.x1.pend := by
  have h0 := hI.solv0; have h1 := hI.solv1
  refine ⟨?_, by simp only [Side.res]; omega, by simp only [Side.res]; omega⟩
  unfold queryPool
  rw [psub_ok h0, Res.bind_ok, psub_ok h1, Res.bind_ok]
  rfl

/-- **the value backing one LP token never falls across one operation**: for every successful
    operation on a pool with supply, `r0·r1·S'² ≤ r0'·r1'·S²` (⇔ `√(r0 r1)/S ≤ √(r0' r1')/S'`) -/
theorem lp_value_step {s s' : St} {op : Op} (h : step cpCurve s op = .ok s') (hS : s.sup ≠ 0) :
    s.x0.res * s.x1.res * s'.sup ^ 2 ≤ s'.x0.res * s'.x1.res * s.sup ^ 2 := step_value h hS

/-- **… nor across any history** (by induction over the operation list; the supply stays positive
    because the locked minimum liquidity is part of it) -/
theorem lp_value_reach (s : St) (hI : Inv s) (hS : s.sup ≠ 0) (ops : List Op) :
    s.x0.res * s.x1.res * (reach cpCurve s ops).sup ^ 2 ≤
      (reach cpCurve s ops).x0.res * (reach cpCurve s ops).x1.res * s.sup ^ 2 := reach_value s hI hS ops

/-- a later deposit mints at most the pro-rata share on BOTH assets: `share·r_i ≤ d_i·S` -/
theorem mint_le_pro_rata {s s' : St} {u rcv d0 d1 : Nat} {tol : Option Nat}
    (h : provide cpCurve s u rcv d0 d1 tol = .ok s') (hS : s.sup ≠ 0) :
    (s'.sup - s.sup) * s.x0.res ≤ d0 * s.sup ∧ (s'.sup - s.sup) * s.x1.res ≤ d1 * s.sup ∧
    s'.lpPair = s.lpPair := by
  obtain ⟨share, lock, -, -, es, -, -, -, -, -, -, eS, eP, -⟩ := provide_ok h
  obtain ⟨rfl, m0, m1⟩ := provideShares_le es hS
  rw [eS, Nat.add_zero, Nat.add_sub_cancel_left]
  exact ⟨m0, m1, eP⟩

/-- **a withdrawal never pays out more than the pro-rata share** of the reported reserves (two nested
    floors), burns exactly the LP sent, and leaves the pair's own LP alone -/
theorem withdraw_le_pro_rata {s s' : St} {u amt : Nat} (h : withdraw s u amt = .ok s') :
    (s.x0.bal - s'.x0.bal) * s.sup ≤ s.x0.res * amt ∧ (s.x1.bal - s'.x1.bal) * s.sup ≤ s.x1.res * amt ∧
    s'.sup = s.sup - amt ∧ s'.lpPair = s.lpPair ∧ amt ≤ (s.user u).lp := by
  obtain ⟨r0, r1, er, -, ha, hr0, hr1, e0, e1, eS, eP, -⟩ := withdraw_ok h
  obtain ⟨-, p0, p1⟩ := refunds_le er
  rw [e0, e1]
  dsimp only
  rw [Nat.sub_sub_self hr0, Nat.sub_sub_self hr1]
  exact ⟨p0, p1, eS, eP, ha⟩

/-- **depositing and immediately withdrawing never pays out more than was deposited** (for any part
    of the minted shares; an empty pool is assumed to hold nothing — a plain transfer into a pool
    without supply is a gift to the first depositor and outside the property's operation set) -/
theorem deposit_then_withdraw_le {s s1 s2 : St} {u d0 d1 amt : Nat} {tol : Option Nat}
    (hp : provide cpCurve s u u d0 d1 tol = .ok s1)
    (hamt : amt + (s.user u).lp ≤ (s1.user u).lp)
    (hw : withdraw s1 u amt = .ok s2)
    (hempty : s.sup = 0 → s.x0.bal = s.x0.pend ∧ s.x1.bal = s.x1.pend) :
    (s2.user u).a ≤ (s.user u).a ∧ (s2.user u).b ≤ (s.user u).b :=
  Pair.deposit_then_withdraw_le hp hamt hw hempty

/-- **the first deposit locks exactly `MINIMUM_LIQUIDITY_AMOUNT` = 1000 LP in the pair** and mints
    `⌊√(d0·d1)⌋ − 1000 > 0` to the receiver, so the whole supply after it is `⌊√(d0·d1)⌋` (the `+ 0` in
    the second clause is the supply before, which is zero); the literal 1000 makes a changed constant in
    the source break this theorem -/
theorem first_deposit_locks {s s' : St} {u rcv d0 d1 : Nat} {tol : Option Nat}
    (h : provide cpCurve s u rcv d0 d1 tol = .ok s') (hS : s.sup = 0) :
    s'.lpPair = s.lpPair + 1000 ∧ s'.sup + 0 = isqrt (d0 * d1) ∧ 1000 < s'.sup := by
  obtain ⟨share, lock, -, -, es, -, -, -, -, -, -, eS, eP, -⟩ := provide_ok h
  obtain ⟨hk, hne, hsq⟩ := provideShares_first es hS
  have hm : Gen.MINIMUM_LIQUIDITY_AMOUNT = 1000 := rfl
  rw [hm] at hk hsq
  omega

/-- **the minimum-liquidity stake stays locked forever**: from an invariant state with supply, after
    ANY history the pair still holds at least 1000 LP that no user owns (supply − Σ users' LP), so
    users withdrawing everything leave at least 1000 LP outstanding -/
theorem locked_forever (s : St) (hI : Inv s) (hS : s.sup ≠ 0) (ops : List Op) :
    1000 ≤ (reach cpCurve s ops).lpPair ∧
    (reach cpCurve s ops).sup = (reach cpCurve s ops).lpPair + sumF (·.lp) (reach cpCurve s ops).users := by
  obtain ⟨hI', hl⟩ := reach_inv s hI ops
  have hm : Gen.MINIMUM_LIQUIDITY_AMOUNT = 1000 := rfl
  refine ⟨?_, hI'.lpSum⟩
  rcases hI.locked with h0 | h0
  · exact absurd h0 hS
  · omega

/-- **a swap is priced on the reported reserves** — balance minus pending protocol fees, the offer
    that has just arrived excluded — by the constant-product computation of C02 (`cpSwap`, whose exact
    price / fee split / no-free-money theorems are in WW/Props/C02.lean); the swap fee stays in the
    reserves, the burn fee leaves, the protocol fee moves to the fee ledger; LP supply is untouched -/
theorem swap_priced_on_reported_reserves {s s' : St} {u dir off rcv : Nat} {ms : Option Nat}
    (h : swap cpCurve s u dir off ms rcv = .ok s') :
    s'.sup = s.sup ∧ s'.lpPair = s.lpPair ∧
    ((dir = 0 ∧ ∃ c, cpSwap s.x0.res s.x1.res off s.fees = .ok c ∧
        s'.x0.bal = s.x0.bal + off ∧ s'.x0.pend = s.x0.pend ∧
        s'.x1.bal = s.x1.bal - c.ret - c.burnFee ∧ s'.x1.pend = s.x1.pend + c.protFee ∧
        s'.x1.res + c.ret + c.protFee + c.burnFee = s.x1.res) ∨
     (dir ≠ 0 ∧ ∃ c, cpSwap s.x1.res s.x0.res off s.fees = .ok c ∧
        s'.x1.bal = s.x1.bal + off ∧ s'.x1.pend = s.x1.pend ∧
        s'.x0.bal = s.x0.bal - c.ret - c.burnFee ∧ s'.x0.pend = s.x0.pend + c.protFee ∧
        s'.x0.res + c.ret + c.protFee + c.burnFee = s.x0.res)) := by
  obtain ⟨eS, eP, -, -, hcase⟩ := swap_ok h
  refine ⟨eS, eP, ?_⟩
  rcases hcase with ⟨hd, c, fx, e0, -, -⟩ | ⟨hd, c, fx, e1, -, -⟩
  · exact .inl ⟨hd, c, fx.cp.priced, by rw [e0], by rw [e0], fx.bal, fx.pend, fx.cp.paid⟩
  · exact .inr ⟨hd, c, fx.cp.priced, by rw [e1], by rw [e1], fx.bal, fx.pend, fx.cp.paid⟩

/-- fee-setting: only the owner, only valid fee triples; nothing else changes -/
theorem set_fees_guarded {s s' : St} {o : Bool} {f : Fees} (h : setFees s o f = .ok s') :
    o = true ∧ f.valid = true ∧ s' = { s with fees := f } := setFees_ok h

/- non-vacuity: a concrete history on a native / cw20 pair with fees 0.1 % / 0.2 % / 0.1 % -/

def exInit : St :=
  init true false { prot := 1000000000000000, swap := 2000000000000000, burn := 1000000000000000 }
    [{ a := 1000000000, b := 1000000000, lp := 0 }, { a := 1000000000, b := 1000000000, lp := 0 },
     { a := 1000000000, b := 1000000000, lp := 0 }]

def exOps : List Op :=
  [.provide 0 0 1000000 4000000 none, .swap 1 0 400000 (some 500000000000000000) 2, .collect,
   .provide 2 2 50000 190000 none, .withdraw 0 1999000, .swap 2 1 100000 (some 500000000000000000) 2]

/-- the hypotheses of the history theorems are met by a reachable state with supply, and the model's
    exact output on this history -/
example :
    (reach cpCurve exInit exOps).x0.bal = 26236 ∧ (reach cpCurve exInit exOps).x1.bal = 206625 ∧
    (reach cpCurve exInit exOps).x0.pend = 24 ∧ (reach cpCurve exInit exOps).x1.pend = 0 ∧
    (reach cpCurve exInit exOps).sup = 72428 ∧ (reach cpCurve exInit exOps).lpPair = 1000 ∧
    (reach cpCurve exInit exOps).x1.col = 1142 ∧ (reach cpCurve exInit exOps).x1.brn = 1142 := by decide +kernel

example : (reach cpCurve exInit (exOps.take 1)).sup ≠ 0 ∧
    (∀ u ∈ exInit.users, u.lp = 0) := by decide +kernel

end WW.C01
