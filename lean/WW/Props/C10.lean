/-
  C10 — Fee pipeline: owed protocol fees reach the epoch, minus only the take rate.

  Theorems about `WW.Model.Collector.forwardFees` (collect → aggregate → take rate → transfer) and
  its composition with the distributor's reply (`WW.Model.Feeflow.newEpoch`).  The distribution asset is a
  parameter (`cfg.dist`) of every collector theorem; on the joint machine it is STATE: the collector asks
  the distributor for its current `distribution_asset` on every run (`Feeflow.ccfg` / `cview`), the owner
  may switch it in mid-history (`Feeflow.Op.setDist`), and `epoch_total_eq` is stated per asset (the
  rollover from the expiring epoch keeps the assets it was held in).  The router's output for
  every swap and the protocol fee that the aggregation swaps leave behind in the pairs are arbitrary
  parameters: the theorems hold for all of them, for any number of pools / vaults / assets, any pending
  amounts, any registry state.

  `CollectFees` / `AggregateFees` can also be sent to the collector directly by anybody (no sender check
  in the code); `direct_*` below say what that does: collection moves exactly the collectable pending
  fees of the named contracts, aggregation only converts collector balances, nothing reaches the DAO or
  the distributor.

  PAGES.  `ForwardFees` asks each factory for ONE page of its listing (`start_after: None,
  limit: Some(30)`; a factory returns the first `min(limit or 10, 30)` entries in storage-key order).
  The model collects / aggregates exactly that page (`fwdVaults`, `fwdPools`); `collected` below is what
  the page yields.  `every_registered_collected` says that with at most 30 registered pairs and at most
  30 vaults the page is everything; `page_limits_documented` pins the numbers (regenerated from the
  sources on every run), `default_page_misses_the_eleventh` shows what a shorter page loses.

  PARTIAL (by design, see DESIGN §5/C10): "a failed step leaves every balance unchanged" is CosmWasm's
  transaction atomicity.  In the model it holds by construction (`Res`: `.err`/`.panic` carry no state,
  `Feeflow.step` returns the old state's observation), so there is nothing to prove; on the real stack
  the `feeflow` engine injects failing routes (a pair with swaps disabled on the route), early / repeated
  `NewEpoch`, unauthorised callers, and the monitor `failed_step_changes_nothing` compares every balance
  and ledger before and after.
-/
import WW.Proofs.Collector
import WW.Proofs.Feeflow
namespace WW.C10
open WW WW.Collector

/-- what the collection phase moves into the collector for asset `i`: all pending fees of the vaults on
    the vault factory's page, and every pending entry above the pair's collectable minimum of the
    registered pairs on the pool factory's page -/
def collected (s : St) (i : Nat) : Nat :=
  vaultsCollected (fwdVaults s) i s.vaults + poolsCollected (fwdPools s) i s.pools

/-- **forward_auth** — only the fee distributor can trigger forwarding. -/
theorem forward_auth (cfg : Cfg) (s : St) (sender epochId : Nat) (router : Nat → Nat → Nat → Nat)
    (acc : Nat → Nat → Nat) (o : Out) (h : forwardFees cfg s sender epochId router acc = .ok o) :
    sender = cfg.distributor :=
  (forwardFees_spec h).1

theorem forward_auth_rejects (cfg : Cfg) (s : St) (sender epochId : Nat) (router : Nat → Nat → Nat → Nat)
    (acc : Nat → Nat → Nat) (hne : sender ≠ cfg.distributor) :
    forwardFees cfg s sender epochId router acc = .err := by
  unfold forwardFees; rw [if_pos hne]

/-- **take_exact** — the DAO receives exactly `⌊take_rate · B⌋` (B = the collector's distribution-asset
    balance after aggregation) when the take rate is active, non-zero and a DAO address is set, and
    nothing otherwise; a non-zero cut is recorded under the epoch id, a zero cut leaves the history
    untouched.  (`take_rate < 1` is what `UpdateConfig` enforces, see `take_rate_stays_below_one`.) -/
theorem take_exact (cfg : Cfg) (s : St) (sender epochId : Nat) (router : Nat → Nat → Nat → Nat)
    (acc : Nat → Nat → Nat) (o : Out) (hrate : s.rate < E18) (hbase : o.base ≤ U128MAX)
    (h : forwardFees cfg s sender epochId router acc = .ok o) :
    o.st.dao = s.dao + o.take ∧
    (s.active = true ∧ s.rate ≠ 0 ∧ s.daoSet = true → o.take = o.base * s.rate / E18) ∧
    (¬(s.active = true ∧ s.rate ≠ 0 ∧ s.daoSet = true) → o.take = 0) ∧
    (o.take ≠ 0 → o.st.trh = s.trh ++ [(epochId, o.take)]) ∧
    (o.take = 0 → o.st.trh = s.trh) := by
  obtain ⟨_, b3, in0, sw0, in1, sw1, _, _, rfl⟩ := forwardFees_spec h
  exact ⟨rfl, takeOf_active hrate hbase, fun hact => if_neg hact, fun hne => if_neg hne, fun he => if_pos he⟩

/-- `UpdateConfig` keeps the take rate strictly below one -/
theorem take_rate_stays_below_one (cfg : Cfg) (s s' : St) (sender : Nat) (rate : Option Nat) (setDao : Bool)
    (active : Option Bool) (hr : s.rate < E18) (h : updateConfig cfg s sender rate setDao active = .ok s') :
    s'.rate < E18 := by
  revert h
  fun_cases updateConfig cfg s sender rate setDao active with
  | case2 _ r hlt => intro h; cases h; exact hlt
  | case4 => intro h; cases h; exact hr
  | _ => nofun

/-- **pipeline_conservation** — what the collector held of the distribution asset, plus what was
    collected from pools and vaults, plus what the router paid for the swapped assets, equals what went
    to the DAO plus what went to the distributor; nothing of the distribution asset is left behind. -/
theorem pipeline_conservation (cfg : Cfg) (s : St) (sender epochId : Nat) (router : Nat → Nat → Nat → Nat)
    (acc : Nat → Nat → Nat) (o : Out) (h : forwardFees cfg s sender epochId router acc = .ok o) :
    s.bal cfg.dist + collected s cfg.dist + o.swappedIn = o.take + Distributor.amt o.inflow ∧
    o.base = o.take + Distributor.amt o.inflow ∧
    o.st.bal cfg.dist = 0 := by
  obtain ⟨_, b3, in0, sw0, in1, sw1, ⟨e, _⟩, hle, rfl⟩ := forwardFees_spec h
  rw [collectPools_apply, collectVaults_apply] at e
  clear h
  simp only [collected, amt_inflow]
  exact ⟨by omega, by omega, if_pos rfl⟩

/-- **untouched_or_swapped** — every non-distribution asset in the collector is either left exactly as
    it was after collection, or swapped in full (balance 0); it is swapped only if it exceeds the
    aggregation minimum and its registered route simulates. -/
theorem untouched_or_swapped (cfg : Cfg) (s : St) (sender epochId : Nat) (router : Nat → Nat → Nat → Nat)
    (acc : Nat → Nat → Nat) (o : Out) (h : forwardFees cfg s sender epochId router acc = .ok o)
    (i : Nat) (hi : i ≠ cfg.dist) :
    o.st.bal i = s.bal i + collected s i ∨
    (o.st.bal i = 0 ∧ AGG_T < s.bal i + collected s i ∧
      simOk (poolsAfter (fwdPools s) s.pools) (s.routes i) = true) := by
  obtain ⟨_, b3, in0, sw0, in1, sw1, ⟨_, f⟩, _, rfl⟩ := forwardFees_spec h
  have := f i hi
  rw [collectPools_apply, collectVaults_apply, Nat.add_assoc] at this
  show upd b3 cfg.dist 0 i = _ ∨ upd b3 cfg.dist 0 i = 0 ∧ _
  rw [upd, if_neg hi]
  exact this

/-- pending fees after forwarding: every vault on the vault factory's page is emptied; a pair keeps
    exactly the entries that were at or below its collectable minimum (or all of them when it is not
    registered / not on the pool factory's page), plus whatever the aggregation swaps accrued -/
theorem pending_after (cfg : Cfg) (s : St) (sender epochId : Nat) (router : Nat → Nat → Nat → Nat)
    (acc : Nat → Nat → Nat) (o : Out) (h : forwardFees cfg s sender epochId router acc = .ok o) :
    o.st.vaults = vaultsAfter (fwdVaults s) s.vaults ∧
    o.st.pools = addAcc acc 0 (poolsAfter (fwdPools s) s.pools) := by
  obtain ⟨_, b3, in0, sw0, in1, sw1, _, _, rfl⟩ := forwardFees_spec h
  exact ⟨rfl, rfl⟩

/-- **epoch_total_eq** — for `NewEpoch` on the joint model, PER ASSET and whatever the distribution asset
    is at that moment (the owner may have switched it, `Feeflow.Op.setDist`): the collector runs its pipeline
    towards the distributor's CURRENT distribution asset `s.d.dist` (`ccfg` / `cview`); the amount
    transferred to the distributor (the growth of its balance — in the distribution asset only) equals the
    new epoch's total minus what was rolled over from the epoch leaving the grace window, in every asset
    (the rollover keeps the assets it was held in); the new epoch starts fully available; the DAO's cut is
    paid in the distribution asset. -/
theorem epoch_total_eq (cfg : Feeflow.Cfg) (s s' : Feeflow.St) (now : Nat) (router : Nat → Nat → Nat → Nat)
    (acc : Nat → Nat → Nat) (o : Out) (h : Feeflow.newEpoch cfg s now router acc = .ok (s', o)) :
    ∃ new rest, s'.d.epochs = new :: rest ∧
      (∀ a, s'.d.bal a = s.d.bal a + Distributor.sel s.d.dist a (Distributor.amt o.inflow)) ∧
      (∀ a, Distributor.amtOf a new.total =
        Distributor.sel s.d.dist a (Distributor.amt o.inflow) +
          Distributor.amtOf a (Distributor.availAt s.d.epochs (s.d.grace - 1))) ∧
      new.avail = new.total ∧
      o.base = o.take + Distributor.amt o.inflow ∧
      (∀ a, s'.daoBal a = s.daoBal a + Distributor.sel s.d.dist a o.take) ∧
      s'.c = o.st ∧ s'.d.dist = s.d.dist ∧
      forwardFees (Feeflow.ccfg cfg s) (Feeflow.cview s) cfg.c.distributor new.id router acc = .ok o := by
  obtain ⟨id, start, d', _, hf, hr, rfl⟩ := Feeflow.newEpoch_eq_ok.1 h
  obtain ⟨_, tot, hagg, rfl⟩ := Distributor.receiveEpoch_ok hr
  exact ⟨_, _, rfl, fun a => Distributor.addAt_apply _ _ _ _, fun a => (Distributor.rolled_total hagg a).1, rfl,
    (pipeline_conservation _ _ _ _ _ _ _ hf).2.1, fun a => Distributor.addAt_apply s.daoBal _ _ _, rfl, rfl, hf⟩

/-- the collector's pipeline always runs towards the distributor's CURRENT distribution asset: after the
    owner switched it (`setDist`), the very next `NewEpoch` aggregates into, takes the DAO's cut from and
    forwards the new asset; the switch itself moves nothing -/
theorem switch_redirects_pipeline (cfg : Feeflow.Cfg) (s s' : Feeflow.St) (sender a : Nat)
    (h : Feeflow.step cfg s (.setDist sender a) = .ok s') :
    sender = cfg.d.owner ∧ (Feeflow.ccfg cfg s').dist = a ∧ s'.d.epochs = s.d.epochs ∧ s'.d.bal = s.d.bal ∧
    s'.c = s.c ∧ s'.daoBal = s.daoBal ∧ s'.ub = s.ub ∧ s'.rts = s.rts := by
  unfold Feeflow.step at h
  split at h <;> cases h
  rename_i hg
  obtain ⟨rfl, ho⟩ := Distributor.setDist_ok hg
  exact ⟨ho, rfl, rfl, rfl, rfl, rfl, rfl, rfl⟩

/-! ### `CollectFees` / `AggregateFees` sent to the collector directly, in mid-history

  Both entry points are permissionless in the code (no look at `info.sender`): the theorems below hold
  for every sender.  Sent directly they carry no reply id, so nothing reaches the DAO or the distributor. -/

/-- **direct_any_sender** — the outcome of a direct `CollectFees` / `AggregateFees` does not depend on who
    sent it (owner, any user, a stranger, the collector itself). -/
theorem direct_any_sender (cfg : Cfg) (s : St) (a b : Nat) (f : FeesFor) (router : Nat → Nat → Nat → Nat)
    (acc : Nat → Nat → Nat) :
    collectFees s a f = collectFees s b f ∧
    aggregateFees cfg s a f router acc = aggregateFees cfg s b f router acc :=
  ⟨collectFees_any_sender s a b f, aggregateFees_any_sender cfg s a b f router acc⟩

/-- **direct_collect_exact** — a successful direct `CollectFees`: for every asset the collector's balance
    grows by exactly what the named contracts send (all pending fees of a named vault; the entries above
    the collectable minimum of a named / listed pair), exactly that amount leaves the pending ledgers
    (collector + pending is conserved per asset), and the DAO, the take-rate history, the configuration
    and the routes are untouched. -/
theorem direct_collect_exact (s s' : St) (sender : Nat) (f : FeesFor) (h : collectFees s sender f = .ok s') :
    (∀ i, s'.bal i = s.bal i + directCollected s f i) ∧
    (∀ i, s'.bal i + vaultsPending i s'.vaults + poolsPending i s'.pools =
          s.bal i + vaultsPending i s.vaults + poolsPending i s.pools) ∧
    s'.dao = s.dao ∧ s'.trh = s.trh ∧ s'.rate = s.rate ∧ s'.active = s.active ∧ s'.daoSet = s.daoSet ∧
    s'.routes = s.routes := by
  refine ⟨fun i => (collectFees_spec h i).1, fun i => ?_, collectFees_rest h⟩
  obtain ⟨h1, h2⟩ := collectFees_spec h i
  omega

/-- the pending ledgers after a direct `CollectFees` for a factory page are those after the corresponding
    stage of `ForwardFees` (`pending_after`, whose page has `limit = FWD_LIMIT`); the other kind of
    contract is not touched -/
theorem direct_collect_pending_after (s s' : St) (sender : Nat) (lim : Option Nat) :
    (collectFees s sender (.vaultFactory lim) = .ok s' →
      s'.vaults = vaultsAfter (vaultListed s.vaults (vaultPage lim)) s.vaults ∧ s'.pools = s.pools) ∧
    (collectFees s sender (.poolFactory lim) = .ok s' →
      s'.pools = poolsAfter (poolListed s.pools (poolPage lim)) s.pools ∧ s'.vaults = s.vaults) := by
  constructor <;> intro h <;> simp only [collectFees] at h <;> injection h with h <;> subst h <;> exact ⟨rfl, rfl⟩

/-- **direct_aggregate_only_converts** — a successful direct `AggregateFees` names a factory (never
    `Contracts`); the collector's distribution-asset balance grows by exactly what the router paid (it
    never falls); every other asset is untouched or swapped in full, and swapped only above the
    aggregation minimum with a simulating registered route; the pairs only gain what the swaps accrued;
    vaults, DAO, take-rate history and configuration are untouched. -/
theorem direct_aggregate_only_converts (cfg : Cfg) (s s' : St) (sender : Nat) (f : FeesFor)
    (router : Nat → Nat → Nat → Nat) (acc : Nat → Nat → Nat) (inn : Nat) (sw : List (Nat × Nat × Nat))
    (h : aggregateFees cfg s sender f router acc = .ok (s', inn, sw)) :
    ((∃ lim, f = .vaultFactory lim) ∨ (∃ lim, f = .poolFactory lim)) ∧
    s'.bal cfg.dist = s.bal cfg.dist + inn ∧
    (∀ i, i ≠ cfg.dist →
      s'.bal i = s.bal i ∨ (s'.bal i = 0 ∧ AGG_T < s.bal i ∧ simOk s.pools (s.routes i) = true)) ∧
    s'.pools = addAcc acc 0 s.pools ∧ s'.vaults = s.vaults ∧
    s'.dao = s.dao ∧ s'.trh = s.trh ∧ s'.rate = s.rate ∧ s'.active = s.active ∧ s'.daoSet = s.daoSet ∧
    s'.routes = s.routes := by
  obtain ⟨cands, b, hc, ha, rfl⟩ := aggregateFees_spec h
  obtain ⟨hfac, hne⟩ := aggCands_eq_some hc
  obtain ⟨e0, f0⟩ := aggregate_spec hne ha
  exact ⟨hfac, e0, f0, rfl, rfl, rfl, rfl, rfl, rfl, rfl, rfl⟩

/-- `AggregateFees { Contracts {..} }` and a factory that cannot answer are rejected, whoever sends them -/
theorem direct_aggregate_rejects (cfg : Cfg) (s : St) (sender k : Nat) (router : Nat → Nat → Nat → Nat)
    (acc : Nat → Nat → Nat) :
    aggregateFees cfg s sender (.onePool k) router acc = .err ∧
    aggregateFees cfg s sender (.oneVault k) router acc = .err ∧
    aggregateFees cfg s sender .wrongFactory router acc = .err :=
  ⟨rfl, rfl, rfl⟩

/-- on the joint machine the direct ops change nothing of the distributor, the bonders or the lair view -/
theorem direct_ops_leave_distributor (cfg : Feeflow.Cfg) (s s' : Feeflow.St) (sender : Nat) (f : FeesFor)
    (router : Nat → Nat → Nat → Nat) (acc : Nat → Nat → Nat) :
    (Feeflow.step cfg s (.collect sender f) = .ok s' →
      s'.d = s.d ∧ s'.ub = s.ub ∧ s'.view = s.view ∧ s'.c.dao = s.c.dao ∧ s'.daoBal = s.daoBal) ∧
    (Feeflow.step cfg s (.aggregate sender f router acc) = .ok s' →
      s'.d = s.d ∧ s'.ub = s.ub ∧ s'.view = s.view ∧ s'.c.dao = s.c.dao ∧ s'.daoBal = s.daoBal) := by
  constructor <;> intro h <;> unfold Feeflow.step at h <;> split at h <;> cases h <;> rename_i hc
  · exact ⟨rfl, rfl, rfl, (collectFees_rest hc).1, rfl⟩
  · exact ⟨rfl, rfl, rfl, (direct_aggregate_only_converts _ _ _ _ _ _ _ _ _ hc).2.2.2.2.2.1, rfl⟩

/-! ### stray coins

  Any execute message can carry native coins (`info.funds`).  None of the collector's / distributor's entry
  points looks at them, so they stay on the contract the message was addressed to: `Feeflow.Op.coins payer a x op`
  is the bank's transfer followed by `op`, in one transaction.  `a` is ANY asset index — an asset of the world
  (also the distribution asset) or an unrelated denom.  Every history theorem over `Feeflow.Op` / `Feeflow.reach`
  (C09 `joint_histories`) covers these operations, since they are part of the alphabet. -/

/-- a message with coins attached is the bank's transfer to the receiving contract followed by the operation,
    atomically: if either fails, nothing happens -/
theorem coins_are_gift_then_op (cfg : Feeflow.Cfg) (s : Feeflow.St) (payer a x : Nat) (op : Feeflow.Op) :
    Feeflow.step cfg s (.coins payer a x op) =
      match Feeflow.pay cfg s payer a x (Feeflow.target op) with
      | .ok s1 => Feeflow.step cfg s1 op
      | .err => .err
      | .panic => .panic := by
  simp only [Feeflow.step]
  cases Feeflow.pay cfg s payer a x (Feeflow.target op) <;> rfl

/-- **stray_coins_stay_on_collector** — a `CollectFees` sent to the collector WITH COINS ATTACHED (`x` of any
    asset `a`, by anybody) succeeds only if the plain collection from the same state succeeds, leaves exactly
    the pending ledgers of the plain collection (what is collected does not change: no pair and no vault
    receives or keeps anything else), and every collector balance is the one after the plain collection
    plus the attached coins — i.e. balance before + collected + attached.  The coins are nowhere else: the
    distributor, the DAO, the router / lair balances are untouched; only the payer's balance falls. -/
theorem stray_coins_stay_on_collector (cfg : Feeflow.Cfg) (s s' : Feeflow.St) (payer a x sender : Nat)
    (f : FeesFor) (h : Feeflow.step cfg s (.coins payer a x (.collect sender f)) = .ok s') :
    ∃ c0, collectFees s.c sender f = .ok c0 ∧
      s'.c.pools = c0.pools ∧ s'.c.vaults = c0.vaults ∧
      (∀ i, s'.c.bal i = c0.bal i + (if a = i then x else 0)) ∧
      (∀ i, s'.c.bal i = s.c.bal i + directCollected s.c f i + (if a = i then x else 0)) ∧
      (∀ i, s'.c.bal i + vaultsPending i s'.c.vaults + poolsPending i s'.c.pools =
            s.c.bal i + vaultsPending i s.c.vaults + poolsPending i s.c.pools + (if a = i then x else 0)) ∧
      s'.d = s.d ∧ s'.daoBal = s.daoBal ∧ s'.c.dao = s.c.dao ∧ s'.xb = s.xb ∧
      s'.ub = Feeflow.ubAfterPay cfg s payer a x := by
  rw [coins_are_gift_then_op] at h
  split at h <;> try cases h
  rename_i s1 hp
  obtain rfl := Feeflow.pay_collector_ok hp
  unfold Feeflow.step at h
  split at h <;> cases h
  rename_i c' hc
  replace hc : collectFees { s.c with bal := add s.c.bal a x } sender f = .ok c' := hc
  -- the collection from the balances with the coins on them is the plain collection: same ledgers, same amounts
  obtain ⟨c0, h0, hc'⟩ := collectFees_bal hc
  have hb : ∀ i, c'.bal i = s.c.bal i + directCollected s.c f i + (if a = i then x else 0) := fun i => by
    rw [(collectFees_spec hc i).1, directCollected_bal]
    show add s.c.bal a x i + _ = _
    rw [add_apply]
    exact Nat.add_right_comm _ _ _
  refine ⟨c0, h0, (congrArg St.pools hc' :), (congrArg St.vaults hc' :), fun i => ?_, hb, fun i => ?_, rfl, rfl,
    (collectFees_rest hc).1, rfl, rfl⟩
  · rw [hb, (collectFees_spec h0 i).1]
  · have := (collectFees_spec hc i).2
    rw [directCollected_bal] at this
    have := hb i
    simp only at *
    omega

/-- the same for the PIPELINE collection: coins attached to `NewEpoch` land on the distributor (the contract
    the message is addressed to) and change nothing of the run — the collector's state, the pending ledgers,
    the DAO's cut, the transferred amount `o`, the new epoch and every epoch ledger are those of the plain
    `NewEpoch` from the same state; the distributor's balance of the attached asset is larger by the gift
    (which belongs to no epoch) -/
theorem stray_coins_on_new_epoch (cfg : Feeflow.Cfg) (s s' : Feeflow.St) (payer a x now : Nat)
    (router : Nat → Nat → Nat → Nat) (acc : Nat → Nat → Nat)
    (h : Feeflow.step cfg s (.coins payer a x (.newEpoch now router acc)) = .ok s') :
    ∃ s0 o, Feeflow.newEpoch cfg s now router acc = .ok (s0, o) ∧
      s'.c = s0.c ∧ s'.daoBal = s0.daoBal ∧ s'.d.epochs = s0.d.epochs ∧ s'.d.dist = s0.d.dist ∧
      (∀ i, s'.d.bal i = s0.d.bal i + Distributor.sel a i x) ∧ s'.xb = s0.xb ∧
      s'.ub = Feeflow.ubAfterPay cfg s payer a x := by
  rw [coins_are_gift_then_op] at h
  split at h <;> try cases h
  rename_i s1 hp
  obtain rfl := Feeflow.pay_distributor_ok hp
  unfold Feeflow.step at h
  split at h <;> cases h
  rename_i o hn
  obtain ⟨s0, h0, hc, hdao, he, _, _, hdi, hb, hub, _, _, hxb⟩ := Feeflow.newEpoch_gift hn
  exact ⟨s0, o, h0, hc, hdao, he, hdi, hb, hxb, hub⟩

/-- a bonder cannot attach what it does not hold, and coins attached to a failing operation are not lost:
    the transaction fails as a whole (`Res` carries no state) -/
theorem stray_coins_need_funds (cfg : Feeflow.Cfg) (s : Feeflow.St) (payer a x : Nat) (op : Feeflow.Op)
    (hu : payer < cfg.nusers) (ha : a < cfg.c.nassets) (hx : s.ub payer a < x) :
    Feeflow.step cfg s (.coins payer a x op) = .err := by
  simp only [Feeflow.step]
  cases ht : Feeflow.target op <;> simp only [Feeflow.pay] <;> rw [if_pos ⟨hu, ha, hx⟩]

/-- **take_never_falls_back** — for EVERY collector balance a u128 can hold (the harness drives it up to 2^120, with
    scripted values around 2^64, 3.4e20 = u128::MAX / 10^18, 1e27, 2^100, 2^119) and every stored take rate (< 1),
    the active take rate yields exactly `⌊rate · B⌋`: `Uint128::checked_mul_floor` works in 256 bits and its result
    is at most `B`, so the `unwrap_or(0)` fallback of the reply is never taken. -/
theorem take_never_falls_back (s : St) (tb : Nat) (hrate : s.rate < E18) (htb : tb ≤ U128MAX)
    (hact : s.active = true ∧ s.rate ≠ 0 ∧ s.daoSet = true) :
    takeOf s tb = tb * s.rate / E18 ∧ takeOf s tb ≤ tb :=
  ⟨takeOf_active hrate htb hact, takeOf_le_of_rate_lt s tb hrate⟩

/-- **xfail_fails_iff_swaps** — a `NewEpoch` / direct `AggregateFees` whose swap execution failed in the real
    transaction (`Op.xfail`: spread above the collector's 50 % cap, overflow in a pair — recorded, not modelled)
    succeeds iff the operation itself succeeds AND sends no swap message; then it is the plain operation. -/
theorem xfail_fails_iff_swaps (cfg : Feeflow.Cfg) (s s' : Feeflow.St) (code : Nat) (op : Feeflow.Op) :
    Feeflow.step cfg s (.xfail code op) = .ok s' ↔
      (Feeflow.step cfg s op = .ok s' ∧ Feeflow.sendsSwaps cfg s op = false) :=
  Feeflow.step_xfail_eq_ok

/-- **hooked_reply_splits_exactly** — whatever a hostile registered contract nested into the pipeline, the
    collector's reply at the end of a `NewEpoch` splits exactly what the collector holds of the (current)
    distribution asset at that moment: DAO cut + amount forwarded = that balance, nothing of it stays behind, the
    DAO's and the distributor's balances grow by exactly their parts, and `TMP_EPOCH` is consumed. -/
theorem hooked_reply_splits_exactly (h h' : Feeflow.HS) (e : Feeflow.replyH h = .ok h') :
    ∃ id start inflow, h.tmp = some (id, start) ∧ h'.tmp = none ∧
      takeOf h.s.c (h.s.c.bal h.s.d.dist) + Distributor.amt inflow = h.s.c.bal h.s.d.dist ∧
      h'.s.c.bal h.s.d.dist = 0 ∧
      h'.s.daoBal h.s.d.dist = h.s.daoBal h.s.d.dist + takeOf h.s.c (h.s.c.bal h.s.d.dist) ∧
      (∀ a, h'.s.d.bal a = h.s.d.bal a + Distributor.sel h.s.d.dist a (Distributor.amt inflow)) ∧
      (∀ i, i ≠ h.s.d.dist → h'.s.c.bal i = h.s.c.bal i ∧ h'.s.daoBal i = h.s.daoBal i) := by
  obtain ⟨id, start, d', htmp, hle, hr, hd, ht, _, hbal, hdao⟩ := Feeflow.replyH_ok e
  obtain ⟨_, tot, _, rfl⟩ := Distributor.receiveEpoch_ok hr
  refine ⟨id, start, _, htmp, ht, ?_, by rw [hbal]; exact if_pos rfl, by rw [hdao, add_apply, if_pos rfl],
    fun a => by rw [hd]; exact Distributor.addAt_apply _ _ _ _,
    fun i hi => ⟨by rw [hbal]; exact if_neg hi, by rw [hdao, add_apply, if_neg (Ne.symm hi)]; rfl⟩⟩
  rw [amt_inflow]
  omega

/-- **swap_funds_must_still_be_there** — an aggregation pass decides what to swap when its handler runs; if a nested
    message has meanwhile spent a planned balance (it aggregated it itself), the swap message's funds are missing
    and the whole transaction fails — a hostile contract cannot make the collector swap an asset twice. -/
theorem swap_funds_must_still_be_there (hk : Feeflow.Hook) (dist : Nat) (router : Nat → Nat → Nat → Nat) (stage : Nat)
    (i amt : Nat) (hops : List (Nat × Nat)) (rest : List (Nat × Nat × List (Nat × Nat))) (h : Feeflow.HS)
    (hlt : h.s.c.bal i < amt) : Feeflow.aggExecH hk dist router stage ((i, amt, hops) :: rest) h = .err := by
  unfold Feeflow.aggExecH
  rw [if_pos hlt]

/-- the documented page sizes: `ForwardFees` asks for 30 entries, which both factories grant (maximum
    30); without a limit a factory returns 10 (regenerated from the sources on every run; a changed
    constant breaks this obligation) -/
theorem page_limits_documented :
    FWD_LIMIT = some 30 ∧ poolPage FWD_LIMIT = 30 ∧ vaultPage FWD_LIMIT = 30 ∧
    poolPage none = 10 ∧ vaultPage none = 10 ∧ (∀ n, poolPage (some n) ≤ 30 ∧ vaultPage (some n) ≤ 30) := by
  refine ⟨by decide, by decide, by decide, by decide, by decide, fun n => ⟨?_, ?_⟩⟩
  · exact Nat.min_le_right _ _
  · exact Nat.min_le_right _ _

/-- **every_registered_collected** — with at most 30 registered pairs and at most 30 vaults (the page size
    `ForwardFees` asks for and the factories grant) EVERY registered pair and EVERY vault is on its
    factory's page at epoch creation, in whatever order they were created: all pending vault fees and
    every pending entry above the collectable minimum of every registered pair are collected, every
    vault is emptied, and a pair keeps only its sub-threshold entries (plus what the aggregation swaps
    accrued). -/
theorem every_registered_collected (cfg : Cfg) (s : St) (sender epochId : Nat) (router : Nat → Nat → Nat → Nat)
    (acc : Nat → Nat → Nat) (o : Out) (hp : regCount s.pools ≤ 30) (hv : s.vaults.length ≤ 30)
    (h : forwardFees cfg s sender epochId router acc = .ok o) :
    (∀ p ∈ s.pools, fwdPools s p = p.reg) ∧ (∀ v ∈ s.vaults, fwdVaults s v = true) ∧
    (∀ i, collected s i = vaultsPending i s.vaults + poolsCollected (·.reg) i s.pools) ∧
    o.st.vaults = s.vaults.map (fun v => { v with pend := 0 }) ∧
    o.st.pools = addAcc acc 0 (poolsAfter (·.reg) s.pools) := by
  have hpl : ∀ p ∈ s.pools, fwdPools s p = p.reg :=
    poolListed_of_regCount_le (n := poolPage FWD_LIMIT) (by rw [page_limits_documented.2.1]; exact hp)
  have hvl : ∀ v ∈ s.vaults, fwdVaults s v = true :=
    vaultListed_of_length_le (n := vaultPage FWD_LIMIT) (by rw [page_limits_documented.2.2.1]; exact hv)
  obtain ⟨hva, hpa⟩ := pending_after cfg s sender epochId router acc o h
  refine ⟨hpl, hvl, fun i => ?_, ?_, ?_⟩
  · simp only [collected]
    rw [vaultsCollected_all i s.vaults hvl, poolsCollected_congr i s.pools hpl]
  · rw [hva, vaultsAfter_all s.vaults hvl]
  · rw [hpa, poolsAfter_congr s.pools hpl]

/-- the documented thresholds: a pair sends pending entries above 1000, the collector swaps balances
    above 1000 (regenerated from the sources on every run; a changed constant breaks this obligation) -/
theorem thresholds_documented : PAIR_T = 1000 ∧ AGG_T = 1000 := by decide

/-! ### non-vacuity -/

def cfg0 : Cfg := { dist := 2, nassets := 3, distributor := 2000, owner := 1000 }

/-- two pairs (uatom/uwhale with 5000 uatom + 1000 uwhale pending, uusdc/uwhale with 1001 uwhale pending),
    a uwhale vault with 7 pending and a uusdc vault with 2500 pending; the collector already holds 40 uwhale;
    route for uusdc only; take rate 10 % active with a DAO. -/
def st0 : St :=
  { bal := fun i => if i = 2 then 40 else 0, rate := 100000000000000000, active := true, daoSet := true, dao := 0, trh := [],
    pools := [ { a := 0, b := 2, reg := true, on := true, pa := 5000, pb := 1000 },
               { a := 1, b := 2, reg := true, on := true, pa := 0, pb := 1001 } ],
    vaults := [ { asset := 2, pend := 7 }, { asset := 1, pend := 2500 } ],
    routes := fun i => if i = 1 then [(1, 2)] else [] }

/-- uusdc (2500 > 1000, routed) is swapped in the vault pass for 2400; uatom (5000, no route) is untouched;
    the pair's 1000 uwhale stays pending, 1001 is collected: B = 40 + 7 + 1001 + 2400 = 3448,
    DAO gets ⌊344.8⌋ = 344, the distributor 3104. -/
def out0 : Option Out := (forwardFees cfg0 st0 2000 5 (fun _ _ _ => 2400) (fun _ _ => 0)).toOption

example : out0.map (fun o => (o.take, o.inflow, o.base, o.swappedIn)) = some (344, some 3104, 3448, 2400) := by decide +kernel
example : out0.map (fun o => o.swaps) = some [(0, 1, 2500)] := by decide +kernel
example : out0.map (fun o => (o.st.bal 0, o.st.bal 1, o.st.bal 2, o.st.dao)) = some (5000, 0, 0, 344) := by decide +kernel
example : out0.map (fun o => o.st.trh) = some [(5, 344)] := by decide +kernel
example : out0.map (fun o => (o.st.pools.map (fun p => (p.pa, p.pb)), o.st.vaults.map (·.pend))) =
    some ([(0, 1000), (0, 0)], [0, 0]) := by decide +kernel

/-- the same state after the owner switched the distribution asset to uusdc (1), with a route uwhale → uusdc:
    the pipeline now runs TOWARDS uusdc — the collector's uwhale (40 + 7 + 1001 = 1048 > 1000) is swapped
    in the vault pass for 1000 uusdc, the 2500 uusdc of the vault are the distribution asset itself:
    B = 3500, DAO 350, distributor 3150 — all in uusdc; uatom (no route) stays. -/
def out1 : Option Out :=
  (forwardFees { cfg0 with dist := 1 } { st0 with routes := fun i => if i = 2 then [(2, 1)] else [] } 2000 5
    (fun _ _ _ => 1000) (fun _ _ => 0)).toOption

example : out1.map (fun o => (o.take, o.inflow, o.base, o.swappedIn)) = some (350, some 3150, 3500, 1000) := by decide +kernel
example : out1.map (fun o => o.swaps) = some [(0, 2, 1048)] := by decide +kernel
example : out1.map (fun o => (o.st.bal 0, o.st.bal 1, o.st.bal 2)) = some (5000, 0, 0) := by decide +kernel

/-- a stranger is rejected; a route through a pair with swaps disabled fails the whole operation -/
example : (forwardFees cfg0 st0 1002 5 (fun _ _ _ => 2400) (fun _ _ => 0)).isOk = false := by decide +kernel
example : (forwardFees cfg0 { st0 with pools := st0.pools.map fun p => { p with on := false } } 2000 5
    (fun _ _ _ => 2400) (fun _ _ => 0)).isOk = false := by decide +kernel

/-- direct ops on `st0`, sent by a stranger (1002): `CollectFees` for the pool factory moves the 5000 uatom
    and the 1001 uwhale, the 1000 uwhale stay pending; for the vault factory the 2500 uusdc and 7 uwhale;
    naming pair 0 as a contract moves only its 5000 uatom -/
example : ((collectFees st0 1002 (.poolFactory (some 30))).toOption.map fun s => (s.bal 0, s.bal 1, s.bal 2, s.dao)) =
    some (5000, 0, 1041, 0) := by decide +kernel
example : ((collectFees st0 1002 (.poolFactory (some 30))).toOption.map fun s =>
    (s.pools.map (fun p => (p.pa, p.pb)), s.vaults.map (·.pend))) = some ([(0, 1000), (0, 0)], [7, 2500]) := by decide +kernel
example : ((collectFees st0 1002 (.vaultFactory (some 30))).toOption.map fun s => (s.bal 0, s.bal 1, s.bal 2)) =
    some (0, 2500, 47) := by decide +kernel
example : ((collectFees st0 1002 (.vaultFactory (some 30))).toOption.map fun s =>
    (s.pools.map (fun p => (p.pa, p.pb)), s.vaults.map (·.pend))) = some ([(5000, 1000), (0, 1001)], [0, 0]) := by decide +kernel
example : ((collectFees st0 1002 (.onePool 0)).toOption.map fun s =>
    (s.bal 0, s.bal 1, s.bal 2, s.pools.map (fun p => (p.pa, p.pb)))) =
    some (5000, 0, 40, [(0, 1000), (0, 1001)]) := by decide +kernel
example : (collectFees st0 1002 (.onePool 9)).isOk = false ∧ (collectFees st0 1000 .wrongFactory).isOk = false := by decide +kernel

/-- after the vault collection a direct `AggregateFees` (vault factory) swaps the 2500 uusdc for 2400 uwhale,
    which stay in the collector: nothing for the DAO although the take rate is active -/
def agg0 : Option (St × Nat × List (Nat × Nat × Nat)) :=
  (collectFees st0 1002 (.vaultFactory (some 30))).toOption.bind fun s =>
    (aggregateFees cfg0 s 1002 (.vaultFactory (some 30)) (fun _ _ _ => 2400) (fun _ _ => 0)).toOption
example : agg0.map (fun r => (r.1.bal 0, r.1.bal 1, r.1.bal 2, r.1.dao)) = some (0, 0, 2447, 0) := by decide +kernel
example : agg0.map (fun r => (r.1.trh, r.2.1, r.2.2)) = some ([], 2400, [(0, 1, 2500)]) := by decide +kernel
example : (aggregateFees cfg0 st0 1000 (.onePool 0) (fun _ _ _ => 0) (fun _ _ => 0)).isOk = false := by decide +kernel

/-! ### non-vacuity of the stray-coin theorems -/

def jcfg : Feeflow.Cfg := { d := { genesis := 1000, duration := 100, owner := 1000 }, c := cfg0, nusers := 5 }

/-- the joint state around `st0`; bonder 1 holds 300 of asset 0 -/
def jst : Feeflow.St :=
  { d := Distributor.St.init 2 2, c := st0, view := fun _ => none,
    ub := fun u a => if u = 1 ∧ a = 0 then 300 else 0, daoBal := fun _ => 0, rts := fun _ _ => [],
    xb := fun _ _ => 0 }

/-- the stranger (1002) sends `CollectFees` for the pool factory with 77 uatom AND 5 of an unrelated denom
    (index 3) attached: the collection moves the 5000 uatom and the 1001 uwhale as without coins
    (`st0` examples above), the pending ledgers are the same, the coins are on the collector -/
example : ((Feeflow.step jcfg jst (.coins 1002 0 77 (.coins 1002 3 5 (.collect 1002 (.poolFactory (some 30)))))).toOption.map
    fun s => (s.c.bal 0, s.c.bal 1, s.c.bal 2, s.c.bal 3)) = some (5077, 0, 1041, 5) := by decide +kernel
example : ((Feeflow.step jcfg jst (.coins 1002 0 77 (.coins 1002 3 5 (.collect 1002 (.poolFactory (some 30)))))).toOption.map
    fun s => (s.c.pools.map (fun p => (p.pa, p.pb)), s.c.vaults.map (·.pend))) =
    some ([(0, 1000), (0, 0)], [7, 2500]) := by decide +kernel

/-- bonder 1 can attach the 300 uatom it holds (they leave its balance), not 301; coins attached to a
    rejected message (a pair that does not exist) are not taken -/
example : ((Feeflow.step jcfg jst (.coins 1 0 300 (.collect 1 (.onePool 0)))).toOption.map fun s => (s.ub 1 0, s.c.bal 0)) =
    some (0, 5300) := by decide +kernel
example : (Feeflow.step jcfg jst (.coins 1 0 301 (.collect 1 (.onePool 0)))).isOk = false ∧
    (Feeflow.step jcfg jst (.coins 1 0 300 (.collect 1 (.onePool 9)))).isOk = false := by decide +kernel

/-- coins attached to `NewEpoch` (now = 1000 = genesis) stay on the distributor and belong to no epoch: the
    pipeline forwards 3104 uwhale as in `out0`, the distributor then holds 3104 + 50 uwhale and 9 of the
    unrelated denom; the new epoch's total is the 3104 -/
example : ((Feeflow.step jcfg { jst with rts := fun ask offer => if ask = 2 ∧ offer = 1 then [(1, 2)] else [] }
      (.coins 1000 2 50 (.coins 1000 3 9 (.newEpoch 1000 (fun _ _ _ => 2400) (fun _ _ => 0))))).toOption.map
    fun s => (s.d.bal 2, s.d.bal 3, s.c.bal 2, s.daoBal 2)) = some (3154, 9, 0, 344) := by decide +kernel
example : ((Feeflow.step jcfg { jst with rts := fun ask offer => if ask = 2 ∧ offer = 1 then [(1, 2)] else [] }
      (.coins 1000 2 50 (.coins 1000 3 9 (.newEpoch 1000 (fun _ _ _ => 2400) (fun _ _ => 0))))).toOption.map
    fun s => s.d.epochs.map (·.total)) = some [[(2, 3104)]] := by decide +kernel

/-! ### non-vacuity of the re-entrancy model -/

/-- `jst` with a third registered pair uatom/uusdc that is the hostile contract (no fees, ever); its key `(0, 1)` is
    the first of the pool factory's listing -/
def jstH : Feeflow.St :=
  { jst with c := { st0 with pools := st0.pools ++ [{ a := 0, b := 1, reg := true, on := true, pa := 0, pb := 0 }] } }

def r0 : Nat → Nat → Nat → Nat := fun _ _ _ => 0
def a0 : Nat → Nat → Nat := fun _ _ => 0
def noAcc : Nat → Nat → Nat → List (Nat × Nat × Nat) := fun _ _ _ => []

/-- the plain `NewEpoch` at genesis forwards 40 + 7 + 1001 + 5000·0 … = 1048 uwhale − 10 % -/
example : ((Feeflow.step jcfg jstH (.newEpoch 1000 r0 a0)).toOption.map fun s => (s.d.bal 2, s.daoBal 2, s.c.bal 2)) =
    some (944, 104, 0) := by decide +kernel

/-- a `NewEpoch` nested into it from the hostile pair's `CollectProtocolFees` — plainly or caught — makes the whole
    transaction fail (`nested_new_epoch_refused`): the nested run consumed `TMP_EPOCH` -/
example : (Feeflow.step jcfg jstH (.reenter (.poolCollect 2) false noAcc (.newEpoch 1000 r0 a0) (.newEpoch 1000 r0 a0))).isOk = false ∧
    (Feeflow.step jcfg jstH (.reenter (.poolCollect 2) true noAcc (.newEpoch 1000 r0 a0) (.newEpoch 1000 r0 a0))).isOk = false := by
  decide +kernel

/-- a nested `ForwardFees` is refused (the sender is not the distributor): not caught, the transaction fails; caught,
    it leaves no trace — the result is the plain `NewEpoch`'s, and the hooked run reports `fired = 2` -/
example : (Feeflow.step jcfg jstH (.reenter (.poolCollect 2) false noAcc (.fwd 5) (.newEpoch 1000 r0 a0))).isOk = false := by
  decide +kernel
example : ((Feeflow.step jcfg jstH (.reenter (.poolCollect 2) true noAcc (.fwd 5) (.newEpoch 1000 r0 a0))).toOption.map
      fun s => (s.d.bal 2, s.daoBal 2, s.c.bal 2)) = some (944, 104, 0) := by decide +kernel
example : ((Feeflow.step jcfg jstH (.reenter (.poolCollect 2) true noAcc (.fwd 5) (.newEpoch 1000 r0 a0))).toOption.map
      fun s => s.d.epochs.map (·.total)) = some [[(2, 944)]] := by decide +kernel

example : ((Feeflow.stepH jcfg { trig := .poolCollect 2, caught := true, clears := false, run := (fun s1 => Feeflow.step jcfg s1 (.fwd 5)), hacc := noAcc }
      jstH (.newEpoch 1000 r0 a0)).map fun r => r.toOption.map fun h => (h.fired, h.armed, h.tmp)) =
    some (some (2, false, none)) := by decide +kernel

/-- a nested direct `CollectFees` (permissionless) goes through (`fired = 1`) and changes nothing of the outcome:
    the pipeline would have collected the same fees anyway -/
example : ((Feeflow.stepH jcfg { trig := .poolCollect 2, caught := false, clears := false, run := (fun s1 => Feeflow.step jcfg s1 (.collect 5 (.poolFactory (some 30)))), hacc := noAcc }
      jstH (.newEpoch 1000 r0 a0)).map fun r => r.toOption.map fun h => (h.fired, h.s.d.bal 2, h.s.daoBal 2, h.s.c.bal 2)) =
    some (some (1, 944, 104, 0)) := by decide +kernel

/-- a `NewEpoch` nested into a directly sent `CollectFees` is simply a `NewEpoch` (no outer `TMP_EPOCH` is involved) -/
example : ((Feeflow.step jcfg jstH (.reenter (.poolCollect 2) false noAcc (.newEpoch 1000 r0 a0) (.collect 1002 (.poolFactory (some 30))))).toOption.map
    fun s => (s.d.bal 2, s.daoBal 2, s.c.bal 2, s.d.epochs.map (·.id))) = some (944, 104, 0, [1]) := by decide +kernel

/-! ### non-vacuity of the page theorems -/

/-- 12 vaults, one per asset 0 … 11, CREATED in descending asset order (asset 11 first) with 100 + asset
    pending each; 12 registered pairs `(k+3) / 2`, k = 11 … 0 in creation order, with 2000 + k pending in
    asset `k+3`.  The factories list in key order: the vault of asset 0 first; pair keys `(2,3) (2,4) …` -/
def vs12 : List Vault := (List.range 12).reverse.map fun a => { asset := a, pend := 100 + a }
def ps12 : List Pool :=
  (List.range 12).reverse.map fun k => { a := k + 3, b := 2, reg := true, on := true, pa := 2000 + k, pb := 0 }
def st12 : St := { st0 with pools := ps12, vaults := vs12, routes := fun _ => [], bal := fun _ => 0 }
def cfg12 : Cfg := { cfg0 with nassets := 15 }

example : regCount st12.pools ≤ 30 ∧ st12.vaults.length ≤ 30 ∧ regCount st12.pools = 12 := by decide +kernel

/-- `ForwardFees` (page of 30) empties all 12 vaults and collects all 12 pairs … -/
example : ((forwardFees cfg12 st12 2000 5 (fun _ _ _ => 0) (fun _ _ => 0)).toOption.map fun o =>
    (o.st.vaults.map (·.pend), o.st.pools.map (·.pa))) =
    some ([0, 0, 0, 0, 0, 0, 0, 0, 0, 0, 0, 0], [0, 0, 0, 0, 0, 0, 0, 0, 0, 0, 0, 0]) := by decide +kernel

/-- **default_page_misses_the_eleventh** … whereas a page without a limit (the factories' default of 10)
    stops after the 10 smallest KEYS: the vaults of assets 10 and 11 and the pairs `13/2`, `14/2` — the
    FIRST ones created — keep their pending fees. -/
theorem default_page_misses_the_eleventh :
    ((collectFees st12 1002 (.vaultFactory none)).toOption.map fun s => s.vaults.map (·.pend)) =
      some [111, 110, 0, 0, 0, 0, 0, 0, 0, 0, 0, 0] ∧
    ((collectFees st12 1002 (.poolFactory none)).toOption.map fun s => s.pools.map (·.pa)) =
      some [2011, 2010, 0, 0, 0, 0, 0, 0, 0, 0, 0, 0] ∧
    ((collectFees st12 1002 (.poolFactory (some 11))).toOption.map fun s => s.pools.map (·.pa)) =
      some [2011, 0, 0, 0, 0, 0, 0, 0, 0, 0, 0, 0] ∧
    ((collectFees st12 1002 (.poolFactory (some 99))).toOption.map fun s => s.pools.map (·.pa)) =
      some [0, 0, 0, 0, 0, 0, 0, 0, 0, 0, 0, 0] := by decide +kernel

/-! ### the pipeline from inside a flash-loan callback (`Feeflow.Op.inloan`)

  `NewEpoch`, `CollectFees` and `AggregateFees` are permissionless: the borrower of a flash loan on a registered vault can
  send them from its callback, while the vault's loan counter is 1 and its balance is down by the loan.  The model
  (`WW/Model/Feeflow.lean`, header) is the real vault's behaviour: `collect_protocol_fees` ignores the loan counter and
  pays the pending fees out of the loan-reduced balance, `after_trade` requires the balance before the loan plus the
  three fees.  The theorems hold for all loan amounts, vault balances, fee shares, states and nested operations. -/

/-- **inloan_collects_as_outside_the_loan** — a completed transaction `FlashLoan` → the callback sends `inner` →
    repayment leaves EXACTLY the joint state that `inner` alone would have left from the same state — distributor,
    epochs, collector balances, DAO, take-rate history, pairs, routes, bonders: a pipeline run (or a direct collection /
    aggregation) nested in a loan collects, swaps, takes and forwards what the same run does outside the loan — and the
    only difference is the loan's own protocol fee `⌊amount · share⌋`, booked on the lending vault's pending ledger
    AFTER the nested operation -/
theorem inloan_collects_as_outside_the_loan (cfg : Feeflow.Cfg) (s s' : Feeflow.St) (k amount vbal : Nat)
    (mode : Feeflow.Repay) (fees : Feeflow.LoanFees) (inner : Feeflow.Op)
    (h : Feeflow.step cfg s (.inloan k amount mode vbal fees inner) = .ok s') :
    ∃ s1, Feeflow.step cfg s inner = .ok s1 ∧
      s'.d = s1.d ∧ s'.c.bal = s1.c.bal ∧ s'.c.dao = s1.c.dao ∧ s'.c.trh = s1.c.trh ∧ s'.c.pools = s1.c.pools ∧
      s'.c.rate = s1.c.rate ∧ s'.c.active = s1.c.active ∧ s'.c.daoSet = s1.c.daoSet ∧ s'.c.routes = s1.c.routes ∧
      s'.daoBal = s1.daoBal ∧ s'.ub = s1.ub ∧ s'.view = s1.view ∧ s'.rts = s1.rts ∧ s'.xb = s1.xb ∧
      (∀ j, Feeflow.pendOf s' j =
        if j = k ∧ (s1.c.vaults[j]?).isSome = true then Feeflow.pendOf s1 j + Feeflow.loanFee fees.prot amount
        else Feeflow.pendOf s1 j) := by
  obtain ⟨s1, _, hi, _, _, rfl⟩ := Feeflow.inloan_ok h
  exact ⟨s1, hi, rfl, rfl, rfl, rfl, rfl, rfl, rfl, rfl, rfl, rfl, rfl, rfl, rfl, rfl,
    fun j => Feeflow.pendOf_accrueLoan k _ s1 j⟩

/-- **inloan_vault_ends_with_fees** — the bank side of a completed loan, for every nested operation `inner` (any function
    of the joint state), every amount, balance and fee share: the borrower did NOT repay short; the lending vault ends
    with its balance before the loan + protocol fee + flash-loan fee (+ what a generous borrower paid on top; the burn
    fee is burnt) although it paid `paidOut` — the pending fees that the nested operation collected — to the collector
    in mid-loan: the borrower made up for them, it sent `amount + protocol + flash + burn + paidOut (+ extra)`; and the
    loan-reduced balance covered what was paid out -/
theorem inloan_vault_ends_with_fees (s : Feeflow.St) (k amount vbal : Nat) (mode : Feeflow.Repay)
    (fees : Feeflow.LoanFees) (inner : Feeflow.St → Res Feeflow.St) (o : Feeflow.LoanOut)
    (h : Feeflow.inloanRun s k amount mode vbal fees inner = .ok o) :
    mode ≠ .short ∧ o.paidOut ≤ vbal - amount ∧ amount ≤ vbal ∧
    ∃ extra, (mode = .exact → extra = 0) ∧ (∀ x, mode = .over x → extra = x) ∧
      o.endBal = vbal + Feeflow.loanFee fees.prot amount + Feeflow.loanFee fees.flash amount + extra ∧
      o.repaid = amount + Feeflow.loanFee fees.prot amount + Feeflow.loanFee fees.flash amount +
        Feeflow.loanFee fees.burn amount + o.paidOut + extra := by
  obtain ⟨s1, _, hc, _, ha, hle⟩ := Feeflow.inloanRun_ok h
  obtain ⟨h1, _, h3, _, he, hr, hp⟩ := Feeflow.loanClose_ok hc
  rw [he, hr, hp]
  unfold Feeflow.loanRepaid Feeflow.loanMid Feeflow.loanRequired at *
  obtain ⟨hm, extra, e0, ex, hb, hrep⟩ := Feeflow.repay_arith h1 ha hle h3
  exact ⟨hm, h1, hle, extra, e0, ex, hb, hrep⟩

/-- **inloan_short_repayment_leaves_no_trace** — a borrower that repays one unit less than `after_trade` requires never
    completes the transaction, whatever it nested into the loan (a whole pipeline run included) and whatever the vault
    paid out in mid-loan: the operation fails, and a failed operation leaves the joint state untouched (the history
    skips it) -/
theorem inloan_short_repayment_leaves_no_trace (cfg : Feeflow.Cfg) (s : Feeflow.St) (k amount vbal : Nat)
    (fees : Feeflow.LoanFees) (inner : Feeflow.Op) :
    (∀ s', Feeflow.step cfg s (.inloan k amount .short vbal fees inner) ≠ .ok s') ∧
    Feeflow.reach cfg s [.inloan k amount .short vbal fees inner] = s := by
  have hne : ∀ s', Feeflow.step cfg s (.inloan k amount .short vbal fees inner) ≠ .ok s' := by
    intro s' h
    obtain ⟨_, o, _, hr, _⟩ := Feeflow.inloan_ok h
    exact (inloan_vault_ends_with_fees s k amount vbal .short fees _ o hr).1 rfl
  refine ⟨hne, ?_⟩
  cases hs : Feeflow.step cfg s (.inloan k amount .short vbal fees inner) with
  | ok s' => exact absurd hs (hne s')
  | err => simp only [Feeflow.reach, hs]
  | panic => simp only [Feeflow.reach, hs]

/-- **inloan_fees_must_be_covered** — `collect_protocol_fees` does not look at the loan counter: the pending fees that the
    nested operation takes off the lending vault's ledger are a bank send out of the LOAN-REDUCED balance; when that
    balance does not cover them the whole transaction fails (nothing is zeroed without being transferred) -/
theorem inloan_fees_must_be_covered (cfg : Feeflow.Cfg) (s s1 : Feeflow.St) (k amount vbal : Nat) (mode : Feeflow.Repay)
    (fees : Feeflow.LoanFees) (inner : Feeflow.Op) (hi : Feeflow.step cfg s inner = .ok s1)
    (hlt : vbal - amount < Feeflow.pendOf s k - Feeflow.pendOf s1 k) :
    ∀ s', Feeflow.step cfg s (.inloan k amount mode vbal fees inner) ≠ .ok s' := by
  intro s' h
  obtain ⟨s1', o, hi', _, hc, _⟩ := Feeflow.inloan_ok h
  rw [hi] at hi'
  cases hi'
  obtain ⟨h1, _⟩ := Feeflow.loanClose_ok hc
  unfold Feeflow.loanPaidOut at h1
  omega

/-- **newepoch_in_loan_is_the_plain_pipeline** — `NewEpoch` sent from inside the callback of a flash loan on vault `k`
    (at most 30 vaults: one factory page), completed: the epoch, the distributor's balances, the DAO's cut, the
    collector's balances and the pairs' ledgers are those of the SAME `NewEpoch` sent outside any loan (`epoch_total_eq`,
    `pipeline_conservation`, `take_exact` apply to it verbatim); every vault's pending fees — the LENDING vault's
    included, although its loan is still in flight — were collected in full, so after the transaction every other vault
    has nothing pending and the lending vault exactly the fee of the loan in flight; the vault paid its whole pending
    ledger out in mid-loan (the loan-reduced balance covered it) and ends with balance before + protocol fee +
    flash-loan fee (+ extra), the borrower having sent loan + fees + the collected amount (+ extra) -/
theorem newepoch_in_loan_is_the_plain_pipeline (cfg : Feeflow.Cfg) (s : Feeflow.St) (k amount vbal now : Nat)
    (mode : Feeflow.Repay) (fees : Feeflow.LoanFees) (router : Nat → Nat → Nat → Nat) (acc : Nat → Nat → Nat)
    (o : Feeflow.LoanOut) (hv : s.c.vaults.length ≤ 30)
    (h : Feeflow.inloanRun s k amount mode vbal fees (fun s0 => Feeflow.step cfg s0 (.newEpoch now router acc)) = .ok o) :
    ∃ s1 out, Feeflow.newEpoch cfg s now router acc = .ok (s1, out) ∧
      o.st.d = s1.d ∧ o.st.c.bal = s1.c.bal ∧ o.st.daoBal = s1.daoBal ∧ o.st.c.pools = s1.c.pools ∧
      o.st.c.trh = s1.c.trh ∧ o.st.ub = s1.ub ∧
      (∀ j, Feeflow.pendOf s1 j = 0) ∧
      (∀ j, j ≠ k → Feeflow.pendOf o.st j = 0) ∧
      Feeflow.pendOf o.st k = Feeflow.loanFee fees.prot amount ∧
      o.paidOut = Feeflow.pendOf s k ∧ Feeflow.pendOf s k ≤ vbal - amount ∧
      ∃ extra, o.endBal = vbal + Feeflow.loanFee fees.prot amount + Feeflow.loanFee fees.flash amount + extra ∧
        o.repaid = amount + Feeflow.loanFee fees.prot amount + Feeflow.loanFee fees.flash amount +
          Feeflow.loanFee fees.burn amount + Feeflow.pendOf s k + extra := by
  obtain ⟨_, hcov, _, extra, _, _, hend, hrep⟩ := inloan_vault_ends_with_fees s k amount vbal mode fees _ o h
  obtain ⟨s1, hi, hc, hk, _, _⟩ := Feeflow.inloanRun_ok h
  obtain ⟨_, _, _, hst, _, _, hp⟩ := Feeflow.loanClose_ok hc
  unfold Feeflow.step at hi
  split at hi <;> cases hi
  rename_i out hn
  obtain ⟨_, _, _, _, _, _, _, _, hc', _, hf⟩ := epoch_total_eq cfg s s1 now router acc out hn
  have hvs : s1.c.vaults = s.c.vaults.map (fun v => { v with pend := 0 }) := by
    rw [hc', (pending_after _ _ _ _ _ _ out hf).1]
    exact vaultsAfter_all _ (vaultListed_of_length_le (n := vaultPage FWD_LIMIT)
      (by rw [page_limits_documented.2.2.1]; exact hv))
  have hz : ∀ j, Feeflow.pendOf s1 j = 0 := by
    intro j
    unfold Feeflow.pendOf
    rw [hvs, List.getElem?_map]
    cases s.c.vaults[j]? with
    | none => rfl
    | some v => rfl
  have hsome : (s1.c.vaults[k]?).isSome = true := by
    rw [hvs, List.getElem?_map]
    cases hq : s.c.vaults[k]? with
    | none => rw [hq] at hk; cases hk
    | some v => rfl
  have hpo : o.paidOut = Feeflow.pendOf s k := by
    rw [hp]; unfold Feeflow.loanPaidOut; rw [hz k]; rfl
  refine ⟨s1, out, hn, ?_, ?_, ?_, ?_, ?_, ?_, hz, fun j hj => ?_, ?_, hpo, ?_, extra, hend, ?_⟩
  · rw [hst]; rfl
  · rw [hst]; rfl
  · rw [hst]; rfl
  · rw [hst]; rfl
  · rw [hst]; rfl
  · rw [hst]; rfl
  · rw [hst, Feeflow.pendOf_accrueLoan, if_neg (fun hh => hj hh.1)]; exact hz j
  · rw [hst, Feeflow.pendOf_accrueLoan, if_pos ⟨rfl, hsome⟩, hz k]; omega
  · rw [← hpo]; exact hcov
  · rw [hrep, hpo]

/-- the model on concrete numbers (`jst`: the uwhale vault 0 has 7 pending, the uusdc vault 1 has 2500; both charge 1 %
    protocol and 0.1 % flash-loan fee).  A loan of 400 000 on vault 1 (balance 1 000 000) whose borrower sends
    `CollectFees` for the vault factory: the collector receives the 7 + 2500 as outside a loan, vault 1 ends with
    1 000 000 + 4000 + 400 = 1 004 400 and 4000 pending, the borrower sent 400 000 + 4400 + 2500 = 406 900; one unit
    short and nothing happens; a loan that leaves less than the 2500 in the vault cannot be completed -/
def f1 : Feeflow.LoanFees := { prot := 10000000000000000, flash := 1000000000000000, burn := 0 }
example : ((Feeflow.inloanRun jst 1 400000 .exact 1000000 f1 (fun s0 => Feeflow.step jcfg s0 (.collect 1003 (.vaultFactory (some 30))))).toOption.map
    fun o => (o.st.c.bal 1, o.st.c.bal 2, o.st.c.vaults.map (·.pend), o.endBal, o.repaid, o.paidOut)) =
    some (2500, 47, [0, 4000], 1004400, 406900, 2500) := by decide +kernel
example : (Feeflow.step jcfg jst (.inloan 1 400000 .short 1000000 f1 (.collect 1003 (.vaultFactory (some 30))))).isOk = false ∧
    (Feeflow.step jcfg jst (.inloan 1 997501 .exact 1000000 f1 (.collect 1003 (.vaultFactory (some 30))))).isOk = false ∧
    (Feeflow.step jcfg jst (.inloan 1 997500 .exact 1000000 f1 (.collect 1003 (.vaultFactory (some 30))))).isOk = true ∧
    (Feeflow.step jcfg jst (.inloan 1 997501 .exact 1000000 f1 (.aggregate 1003 (.vaultFactory (some 30)) r0 a0))).isOk = true := by decide +kernel
/-- `NewEpoch` (now = 1000 = genesis) from inside a loan of 5000 on the uwhale vault 0 (balance 90 000), repaid with 11 on
    top: the distributor / DAO / collector balances and the epoch are those of the plain `NewEpoch` (`out0`: 3104 / 344),
    vault 0 has only the loan's fee pending, vault 1 nothing, vault 0 ends with 90 000 + 50 + 5 + 11 -/
def jstR : Feeflow.St := { jst with rts := fun ask offer => if ask = 2 ∧ offer = 1 then [(1, 2)] else [] }
def loanOut0 : Option Feeflow.LoanOut :=
  (Feeflow.inloanRun jstR 0 5000 (.over 11) 90000 f1
    (fun s0 => Feeflow.step jcfg s0 (.newEpoch 1000 (fun _ _ _ => 2400) (fun _ _ => 0)))).toOption
example : (loanOut0.map fun o => (o.st.d.bal 2, o.st.daoBal 2, o.st.c.bal 2)) = some (3104, 344, 0) := by decide +kernel
example : (loanOut0.map fun o => o.st.d.epochs.map (·.total)) = some [[(2, 3104)]] := by decide +kernel
example : (loanOut0.map fun o => (o.st.c.vaults.map (·.pend), o.endBal, o.repaid, o.paidOut)) =
    some ([50, 0], 90066, 5073, 7) := by decide +kernel

end WW.C10
