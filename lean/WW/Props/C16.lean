/-
  C16 — Only the owner (or the contract itself) can perform privileged operations.
  Property theorems (the lemmas about the model live in WW/Proofs/Auth). The model is the table `requires`
  (contract × ExecuteMsg variant → rule on the sender) with the guarded dispatch `step` of
  WW/Model/Auth; it is tied to the 15 real contracts by the exhaustive `authmatrix` engine
  (every variant × every role × {before, after ownership transfer, inside a flash-loan callback of the
  vault} × randomised payloads; one cell per named flow for `CloseFlow`).

  "In every state": the theorems quantify over ALL states `s : St` — any owners, a loan of the vault in
  flight or not (`s.loan`), any list of stored flows (`s.flows`, any creators, colliding labels).

  `err` carries no state: a rejected call leaves the state unchanged by construction (`Res`).
-/
import WW.Proofs.Auth
namespace WW.C16
open WW WW.Auth

/-- Clause "an attempt by anyone else fails": for every state, every variant of every contract that
    has a rule and EVERY address that does not satisfy it, the call is rejected. -/
theorem unauthorised_rejected_any_address (s : St) (m : Msg) (rule : AuthRule) (pl : Payload)
    (p : Principal) (hr : requires m = some rule) (hp : holds s m.contract pl.flow rule p = false) :
    stepP s m pl p = .err := by
  apply stepP_err_of_not_admits
  rw [admitsP_of_rule pl.flow p hr]
  exact hp

/-- The same for the caller roles of the matrix (∀ contract, variant, role, state). -/
theorem unauthorised_rejected (s : St) (m : Msg) (rule : AuthRule) (pl : Payload) (r : Role)
    (hr : requires m = some rule) (hp : holds s m.contract pl.flow rule (resolve m.contract r) = false) :
    step s m pl r = .err :=
  unauthorised_rejected_any_address s m rule pl _ hr hp

/-- A history is a list of calls; a failed call is skipped (the transaction reverted). -/
def applyCall (s : St) (c : Msg × Payload × Principal) : St :=
  match stepP s c.1 c.2.1 c.2.2 with
  | .ok s' => s'
  | _ => s

def reach (s : St) (h : List (Msg × Payload × Principal)) : St := h.foldl applyCall s

/-- "… and leaves all storage unchanged": a rejected call does not move the state. -/
theorem rejected_unchanged (s : St) (m : Msg) (pl : Payload) (p : Principal)
    (h : admitsP s m pl.flow p = false) : applyCall s (m, pl, p) = s := by
  unfold applyCall
  rw [stepP_err_of_not_admits h]

theorem never_panics (s : St) (m : Msg) (pl : Payload) (r : Role) : step s m pl r ≠ .panic :=
  stepP_never_panics s m pl _

/-- For every variant with a sender rule the verdict is the rule itself in EVERY state: whether a loan of
    the vault is in flight makes no difference (`holds` does not read the flag). -/
theorem privileged_verdict_ignores_loan (s : St) (b : Bool) (m : Msg) (rule : AuthRule) (sel : FlowSel)
    (p : Principal) (hr : requires m = some rule) :
    admitsP (s.withLoan b) m sel p = admitsP s m sel p := by
  rw [admitsP_of_rule sel p hr, admitsP_of_rule sel p hr]
  exact holds_withLoan s b m.contract sel rule p

/-- A call made from inside a flash-loan callback is admitted only if the same call is admitted on the
    idle contracts: a loan in flight gives nobody a right. -/
theorem loan_in_flight_admits_nobody_new (s : St) (m : Msg) (sel : FlowSel) (p : Principal)
    (h : admitsP (s.withLoan true) m sel p = true) : admitsP (s.withLoan false) m sel p = true := by
  rw [admitsP_withLoan, Bool.and_eq_true] at h
  exact h.2

/-- The ONLY difference a loan in flight makes to the authorisation layer: the loan-guarded entry point
    refuses everybody. -/
theorem loan_changes_only_the_loan_guard (s : St) (m : Msg) (sel : FlowSel) (p : Principal) :
    admitsP (s.withLoan true) m sel p = (!loanGuarded m && admitsP (s.withLoan false) m sel p) :=
  admitsP_withLoan s true m sel p

/-- … and that entry point is the vault's `FlashLoan` (nested loans), nothing else. -/
theorem loan_guard_is_nested_loan_only : ∀ m : Msg, loanGuarded m = true ↔ m = .vault .FlashLoan :=
  loanGuarded_iff

/-- With a loan in flight a nested loan on the vault is refused for EVERY sender. -/
theorem nested_loan_refused_for_all (s : St) (hl : s.loan = true) (sel : FlowSel) (p : Principal) :
    admitsP s (.vault .FlashLoan) sel p = false := by
  simp [admitsP, hl, loanGuarded]

/-- Owner-guarded variants (all configuration, creation / removal, migration, hook and toggle messages) admit
    exactly the stored owner — whatever else the state holds (loan in flight, any flows). -/
theorem owner_guarded_iff (s : St) (m : Msg) (sel : FlowSel) (p : Principal) (h : requires m = some .owner) :
    admitsP s m sel p = true ↔ p = s.owner m.contract := by
  rw [admitsP_of_rule sel p h]
  exact beq_iff_eq

/-- The borrower of a flash loan cannot reconfigure the vault from inside its callback (unless it already
    is the vault's owner). -/
theorem vault_config_in_loan_owner_only (s : St) (pl : Payload) (p : Principal)
    (hp : p ≠ s.owner .vault) : stepP (s.withLoan true) (.vault .UpdateConfig) pl p = .err :=
  stepP_err_of_not_admits (Bool.eq_false_iff.mpr (mt (owner_guarded_iff _ _ _ _ rfl).mp hp))

/-- The authorisation verdict is exactly the table entry evaluated on the sender. -/
theorem admits_is_table_lookup (s : St) (m : Msg) (sel : FlowSel) (r : Role) :
    admits s m sel r = (!(s.loan && loanGuarded m) && match requires m with
      | none => true
      | some rule => holds s m.contract sel rule (resolve m.contract r)) := rfl

/-- `step` succeeds iff the table admits the sender and every internal message the handler sends on;
    when it succeeds the only thing it writes is the owner named in the payload. -/
theorem guarded_dispatch_refines_table (s : St) (m : Msg) (pl : Payload) (r : Role) (s' : St) :
    step s m pl r = .ok s' ↔
      (admits s m pl.flow r = true ∧ subcallsAdmitted s m = true ∧ s' = effect s m pl) :=
  stepP_ok_iff

/-- A designated sender is admitted (the check does not lock the owner out): rule satisfied and
    internal flows admitted ⇒ the call goes through. -/
theorem authorised_admitted (s : St) (m : Msg) (pl : Payload) (r : Role)
    (h : admits s m pl.flow r = true) (hs : subcallsAdmitted s m = true) :
    step s m pl r = .ok (effect s m pl) :=
  (guarded_dispatch_refines_table s m pl r _).mpr ⟨h, hs, rfl⟩

/-- Permissionless entry points admit every sender in every state in which they are not loan-guarded
    (i.e. everywhere, except the vault's `FlashLoan` while a loan is in flight). -/
theorem permissionless_admits_all (s : St) (m : Msg) (sel : FlowSel) (p : Principal) (h : requires m = none)
    (hl : (s.loan && loanGuarded m) = false) : admitsP s m sel p = true := by
  unfold admitsP
  rw [h, hl]
  rfl

/-- the complete list of permissionless variants, for the reader to audit -/
def permissionless : List Msg :=
  [ .terraswap_pair .ProvideLiquidity, .terraswap_pair .WithdrawLiquidity, .terraswap_pair .Swap,
    .terraswap_pair .CollectProtocolFees,
    .stableswap_3pool .ProvideLiquidity, .stableswap_3pool .WithdrawLiquidity, .stableswap_3pool .Swap,
    .stableswap_3pool .CollectProtocolFees,
    .terraswap_router .Receive_ExecuteSwapOperations, .terraswap_router .ExecuteSwapOperations,
    .terraswap_router .AssertMinimumReceive,   -- ← open in the code; the property wants `self` (known finding)
    .terraswap_token .Transfer, .terraswap_token .Burn, .terraswap_token .Send,
    .terraswap_token .IncreaseAllowance, .terraswap_token .DecreaseAllowance,
    .terraswap_token .TransferFrom, .terraswap_token .SendFrom, .terraswap_token .BurnFrom,
    .incentive .TakeGlobalWeightSnapshot, .incentive .OpenFlow, .incentive .OpenPosition,
    .incentive .ExpandPosition, .incentive .ClosePosition, .incentive .Withdraw, .incentive .Claim,
    .incentive .ExpandFlow,
    .frontend_helper .Deposit,
    .vault .Deposit, .vault .Withdraw, .vault .FlashLoan, .vault .CollectProtocolFees,
    .vault_router .FlashLoan,
    .fee_collector .CollectFees, .fee_collector .AggregateFees,
    .fee_distributor .NewEpoch, .fee_distributor .Claim,
    .whale_lair .Bond, .whale_lair .Unbond, .whale_lair .Withdraw,
    .epoch_manager .CreateEpoch ]

/-- A variant has no sender rule iff it is in the list above — nothing else is permissionless. -/
theorem permissionless_listed : ∀ m : Msg, requires m = none ↔ m ∈ permissionless := by
  -- the list is the enumeration filtered by the table, in the enumeration's order
  have h : allMsgs.filter (fun m => (requires m).isNone) = permissionless := by decide +kernel
  intro m
  rw [← h, List.mem_filter, Option.isNone_iff_eq_none]
  exact ⟨fun hr => ⟨allMsgs_complete m, hr⟩, And.right⟩

/-- Every other variant — configuration changes, creation / removal, migrations, route and hook
    management, fee and toggle updates, callbacks, cw20 hooks, minting — carries a rule. -/
theorem privileged_have_rule (m : Msg) (h : m ∉ permissionless) : ∃ rule, requires m = some rule := by
  cases hr : requires m with
  | none => exact absurd ((permissionless_listed m).mp hr) h
  | some rule => exact ⟨rule, rfl⟩

/-- The code's table and the property's intent differ in exactly one cell. -/
theorem intended_differs_only_at_amr :
    ∀ m : Msg, intended m ≠ requires m ↔ m = .terraswap_router .AssertMinimumReceive := by
  intro m
  unfold intended
  split
  · decide
  · simp_all

/-- the contract's own message that rewrites its owner (12 contracts store one) -/
def ownUpdateConfig : Contract → Option Msg
  | .terraswap_factory => some (.terraswap_factory .UpdateConfig)
  | .terraswap_pair => some (.terraswap_pair .UpdateConfig)
  | .stableswap_3pool => some (.stableswap_3pool .UpdateConfig)
  | .incentive_factory => some (.incentive_factory .UpdateConfig)
  | .frontend_helper => some (.frontend_helper .UpdateConfig)
  | .vault_factory => some (.vault_factory .UpdateConfig)
  | .vault => some (.vault .UpdateConfig)
  | .vault_router => some (.vault_router .UpdateConfig)
  | .fee_collector => some (.fee_collector .UpdateConfig)
  | .fee_distributor => some (.fee_distributor .UpdateConfig)
  | .whale_lair => some (.whale_lair .UpdateConfig)
  | .epoch_manager => some (.epoch_manager .UpdateConfig)
  | .terraswap_router | .terraswap_token | .incentive => none

/-- a contract's own `UpdateConfig` is owner-guarded, rewrites that contract's owner and sends nothing on -/
theorem ownUpdateConfig_spec {c : Contract} {uc : Msg} (huc : ownUpdateConfig c = some uc) :
    uc.contract = c ∧ requires uc = some .owner ∧ subcalls uc = [] ∧ ownerTarget uc = some c := by
  cases c <;> cases huc <;> exact ⟨rfl, rfl, rfl, rfl⟩

/-- Clause "after ownership is transferred the old owner loses and the new owner gains these rights",
    for every contract with a transferable owner, every state, every current owner and every new owner:
    the owner's `UpdateConfig{owner := n}` succeeds, and afterwards an address is admitted to an
    owner-guarded variant of that contract iff it is `n`. -/
theorem transfer_ownership (c : Contract) (uc : Msg) (huc : ownUpdateConfig c = some uc)
    (s : St) (n : Principal) (sel : FlowSel) :
    ∃ s', stepP s uc ⟨some n, sel⟩ (s.owner c) = .ok s' ∧ s'.owner c = n ∧
      ∀ m : Msg, m.contract = c → requires m = some .owner →
        ∀ (sel' : FlowSel) (p : Principal), admitsP s' m sel' p = true ↔ p = n := by
  obtain ⟨hc, hr, hsub, ht⟩ := ownUpdateConfig_spec huc
  refine ⟨s.setOwner c n, stepP_ok_iff.mpr ⟨?_, ?_, (effect_of_ownerTarget ht s n sel).symm⟩,
    setOwner_same s c n, ?_⟩
  · rw [owner_guarded_iff _ _ _ _ hr, hc]
  · unfold subcallsAdmitted
    rw [hsub]
    rfl
  · intro m hm hreq sel' p
    rw [owner_guarded_iff _ _ _ _ hreq, hm, setOwner_same]

/-- In particular the old owner is locked out (unless it named itself) and the new owner is in. -/
theorem transfer_ownership_old_new (c : Contract) (uc : Msg) (huc : ownUpdateConfig c = some uc)
    (s : St) (n : Principal) (hn : n ≠ s.owner c) (sel : FlowSel) :
    ∃ s', stepP s uc ⟨some n, sel⟩ (s.owner c) = .ok s' ∧
      ∀ m : Msg, m.contract = c → requires m = some .owner → ∀ sel' : FlowSel,
        admitsP s' m sel' n = true ∧ admitsP s' m sel' (s.owner c) = false := by
  obtain ⟨s', h1, _, h3⟩ := transfer_ownership c uc huc s n sel
  exact ⟨s', h1, fun m hm hr sel' => ⟨(h3 m hm hr sel' n).mpr rfl,
    Bool.eq_false_iff.mpr fun h => hn ((h3 m hm hr sel' _).mp h).symm⟩⟩

/-- The general shape of a transfer through a forwarding contract, for any table with these entries: `fm`
    is an owner-guarded message of `fac` that rewrites the owner of `child` and forwards, as `fac`, the one
    message `uc` — the child's own owner-guarded `UpdateConfig`.  While `fac` owns `child`, the owner of `fac`
    moves `child` to `n`; from then on `child` refuses `fac`, so `fm` fails as a whole for every sender. -/
theorem transfer_via_forwarder {fm uc : Msg} {child fac : Contract} (huc : ownUpdateConfig child = some uc)
    (hfm : requires fm = some .owner) (hfc : fm.contract = fac) (ht : ownerTarget fm = some child)
    (hsub : subcalls fm = [(.contract fac, uc)])
    (s : St) (n : Principal) (hown : s.owner child = .contract fac) (hn : n ≠ .contract fac) (sel : FlowSel) :
    ∃ s', stepP s fm ⟨some n, sel⟩ (s.owner fac) = .ok s' ∧ s'.owner child = n ∧
      (∀ uc, ownUpdateConfig child = some uc → ∀ sel', admitsP s' uc sel' (.contract fac) = false) ∧
      (∀ pl p, stepP s' fm pl p = .err) := by
  obtain ⟨hucc, hucr, _, _⟩ := ownUpdateConfig_spec huc
  have hsc : ∀ t : St, subcallsAdmitted t fm = admitsP t uc .none (.contract fac) := fun t => by
    simp [subcallsAdmitted, hsub]
  have hadm : ∀ (t : St) (sel' : FlowSel),
      admitsP t uc sel' (.contract fac) = true ↔ .contract fac = t.owner child := fun t sel' => by
    rw [owner_guarded_iff _ _ _ _ hucr, hucc]
  have hrefused : ∀ sel', admitsP (s.setOwner child n) uc sel' (.contract fac) = false := fun sel' =>
    Bool.eq_false_iff.mpr fun h => hn (((hadm _ sel').mp h).trans (setOwner_same s child n)).symm
  refine ⟨s.setOwner child n, stepP_ok_iff.mpr ⟨?_, ?_, (effect_of_ownerTarget ht s n sel).symm⟩,
    setOwner_same s child n, fun uc' huc' => ?_, stepP_err_of_subcall_refused ((hsc _).trans (hrefused .none))⟩
  · rw [owner_guarded_iff _ _ _ _ hfm, hfc]
  · rw [hsc, hadm, hown]
  · cases huc.symm.trans huc'
    exact hrefused

/-- Children are transferred through their factory: while the factory owns the child, the factory
    owner's `Update{Pair,Trio,Vault}Config{owner := n}` moves the child's owner to `n`; afterwards the
    factory itself is refused by the child (if `n` is not the factory) and a further forwarding call
    fails as a whole. -/
theorem transfer_child_via_factory (fm : Msg) (child fac : Contract)
    (h : (fm, child, fac) ∈
      [ (Msg.terraswap_factory .UpdatePairConfig, Contract.terraswap_pair, Contract.terraswap_factory),
        (Msg.terraswap_factory .UpdateTrioConfig, Contract.stableswap_3pool, Contract.terraswap_factory),
        (Msg.vault_factory .UpdateVaultConfig, Contract.vault, Contract.vault_factory) ])
    (s : St) (n : Principal) (hown : s.owner child = .contract fac) (hn : n ≠ .contract fac) (sel : FlowSel) :
    ∃ s', stepP s fm ⟨some n, sel⟩ (s.owner fac) = .ok s' ∧ s'.owner child = n ∧
      (∀ uc, ownUpdateConfig child = some uc → ∀ sel', admitsP s' uc sel' (.contract fac) = false) ∧
      (∀ pl p, stepP s' fm pl p = .err) := by
  simp only [List.mem_cons, Prod.mk.injEq, List.mem_nil_iff, or_false] at h
  rcases h with ⟨rfl, rfl, rfl⟩ | ⟨rfl, rfl, rfl⟩ | ⟨rfl, rfl, rfl⟩
  all_goals apply transfer_via_forwarder (hown := hown) (hn := hn) <;> rfl

/-- A successful call moves the owner of a contract only if the message targets that contract — and every
    such message is owner-guarded, so the sender was the owner (in any state: a loan in flight, any flows). -/
theorem owner_moves_only_by_admitted_owner_call (s s' : St) (m : Msg) (pl : Payload)
    (p : Principal) (c : Contract) (h : stepP s m pl p = .ok s') (hc : s'.owner c ≠ s.owner c) :
    ownerTarget m = some c ∧ requires m = some .owner ∧ p = s.owner m.contract := by
  obtain ⟨hadm, _, rfl⟩ := stepP_ok_iff.mp h
  have ht : ownerTarget m = some c := Decidable.by_contra fun hne => hc (by
    unfold effect
    rw [flowEffect_owner, ownerEffect_owner hne])
  have hreq : requires m = some .owner := ownerTarget_requires m (by rw [ht]; rfl)
  exact ⟨ht, hreq, (owner_guarded_iff s m pl.flow p hreq).mp hadm⟩

/-- The transfer script the harness runs between the two phases succeeds in the model and hands every
    stored owner to `newOwner`. -/
theorem transfer_script_result (c : Contract) :
    (St.afterTransfer.toOption.map fun s => s.owner c) = some (afterOwner c) := by
  cases c <;> rfl

/-- Matrix form, all phases, every owner-guarded variant of every contract: before the transfer the
    future owner is refused — also from inside a flash-loan callback —; after it the previous owner is
    refused and the new owner admitted. -/
theorem transfer_matrix :
    ∀ m : Msg, requires m = some .owner →
      admits St.init m .none .newOwner = false ∧ admits (St.init.withLoan true) m .none .newOwner = false ∧
      admits afterSt m .none .owner = false ∧ admits afterSt m .none .newOwner = true :=
  forall_msg_of_all (by decide +kernel)

/-- `CloseFlow` on an existing flow is admitted for the creator of THE FLOW THE MESSAGE DENOTES (the first
    match in storage order) and for the incentive factory's owner — nobody else, in every state, for ids
    and for (non-unique) labels alike. -/
theorem close_flow_admits_iff (s : St) (sel : FlowSel) (f : Flow) (p : Principal)
    (h : s.resolve sel = some f) :
    admitsP s (.incentive .CloseFlow) sel p = true ↔ (p = f.creator ∨ p = s.owner .incentive_factory) := by
  rw [admitsP_of_rule (rule := .flowCreatorOrFactoryOwner) sel p rfl]
  simp [holds, h]

/-- Having created OTHER flows — under the same label or not — gives no right over the flow a message
    denotes: whoever is neither that flow's creator nor the factory owner is rejected. -/
theorem other_flows_give_no_right (s : St) (pl : Payload) (f : Flow) (p : Principal)
    (h : s.resolve pl.flow = some f) (hc : p ≠ f.creator) (ho : p ≠ s.owner .incentive_factory) :
    stepP s (.incentive .CloseFlow) pl p = .err :=
  stepP_err_of_not_admits (Bool.eq_false_iff.mpr fun hh =>
    ((close_flow_admits_iff s pl.flow f p h).mp hh).elim hc ho)

/-- What a successful `CloseFlow` does to the authorisation state: it removes the denoted flow and nothing
    else (owners and the loan flag are not touched). -/
theorem close_flow_removes_exactly_denoted (s s' : St) (pl : Payload) (p : Principal)
    (h : stepP s (.incentive .CloseFlow) pl p = .ok s') :
    s'.owner = s.owner ∧ s'.loan = s.loan ∧
      s'.flows = (match s.resolve pl.flow with
        | some f => s.flows.erase f
        | none => s.flows) := by
  obtain ⟨_, _, rfl⟩ := stepP_ok_iff.mp h
  -- `CloseFlow` targets no owner, so its effect is the flow effect alone
  show (flowEffect s _ pl.flow).owner = _ ∧ (flowEffect s _ pl.flow).loan = _ ∧ (flowEffect s _ pl.flow).flows = _
  refine ⟨flowEffect_owner _ _ _, flowEffect_loan _ _ _, ?_⟩
  unfold flowEffect
  cases s.resolve pl.flow <;> rfl

/-- The monitor's statement, for the model: whichever flow a successful `CloseFlow` removed, it is one the
    identifier names, the sender was its creator or the factory owner, and every other flow is still there. -/
theorem closed_flow_belongs_to_sender (s s' : St) (pl : Payload) (p : Principal) (f : Flow)
    (h : stepP s (.incentive .CloseFlow) pl p = .ok s') (hf : s.resolve pl.flow = some f) :
    s'.flows = s.flows.erase f ∧ f.matches pl.flow = true ∧
      (p = f.creator ∨ p = s.owner .incentive_factory) ∧
      (∀ g ∈ s.flows, g ≠ f → g ∈ s'.flows) := by
  obtain ⟨_, _, h3⟩ := close_flow_removes_exactly_denoted s s' pl p h
  rw [hf] at h3
  obtain ⟨hadm, _, _⟩ := stepP_ok_iff.mp h
  refine ⟨h3, (resolve_some hf).2, (close_flow_admits_iff s pl.flow f p hf).mp hadm, ?_⟩
  intro g hg hne
  rw [h3]
  exact (List.mem_erase_of_ne hne).mpr hg

/-- No other message touches the stored flows. -/
theorem only_close_flow_touches_flows (s s' : St) (m : Msg) (pl : Payload) (p : Principal)
    (h : stepP s m pl p = .ok s') (hm : m ≠ .incentive .CloseFlow) : s'.flows = s.flows := by
  obtain ⟨_, _, rfl⟩ := stepP_ok_iff.mp h
  unfold effect
  rw [flowEffect_of_ne hm]
  exact ownerEffect_flows s m pl.newOwner

/-- The incentive contract stores no owner: closing a flow follows the incentive FACTORY's owner, so a
    transfer of the factory moves this right as well (the flow's creator keeps it). -/
theorem close_flow_follows_factory_owner (s : St) (n : Principal) (sel : FlowSel) (f : Flow) (p : Principal)
    (h : s.resolve sel = some f) :
    admitsP (s.setOwner .incentive_factory n) (.incentive .CloseFlow) sel p = true ↔
      (p = f.creator ∨ p = n) := by
  have h' : (s.setOwner .incentive_factory n).resolve sel = some f := h
  rw [close_flow_admits_iff _ sel f p h', setOwner_same]

/-- the contract designated to send each internal callback -/
def designated : Msg → Option Principal
  | .vault .Callback_AfterTrade => some (.contract .vault)
  | .terraswap_router .ExecuteSwapOperation => some (.contract .terraswap_router)
  | .terraswap_router .AssertMinimumReceive => some (.contract .terraswap_router)
  | .vault_router .NextLoan => some (.contract .vault)
  | .vault_router .CompleteLoan => some (.contract .vault_router)
  | .fee_collector .ForwardFees => some (.contract .fee_distributor)
  | _ => none

/-- FULL statement of the clause: every internal callback (vault AfterTrade, router single hop and
    minimum-receive, vault-router NextLoan / CompleteLoan, collector ForwardFees) is admitted for the
    designated contract and for nobody else, in every state. -/
def CallbacksDesignatedOnly : Prop :=
  ∀ (m : Msg) (d : Principal), designated m = some d →
    ∀ (s : St) (sel : FlowSel) (p : Principal), admitsP s m sel p = true ↔ p = d

/-- Witness of the known finding `C16-router-assert-min-receive-open`: the model — like
    terraswap_router/src/contract.rs, whose `AssertMinimumReceive` arm never looks at `info.sender` —
    admits EVERY sender in every state. (Replay: replays/known/C16-router-assert-min-receive-open.json;
    two baseline tests `assert_minimum_receive_*` require this behaviour, so it is not repaired.) -/
theorem C16_router_amr_open (s : St) (sel : FlowSel) (p : Principal) :
    admitsP s (.terraswap_router .AssertMinimumReceive) sel p = true :=
  permissionless_admits_all s _ sel p rfl (Bool.and_false _)

/-- Hence the full clause is false on the current code (kernel-checked negation). -/
theorem C16_fails_on_current : ¬ CallbacksDesignatedOnly := by
  intro h
  have := (h (.terraswap_router .AssertMinimumReceive) _ rfl St.init .none (.acct .user)).mp
    (C16_router_amr_open _ _ _)
  cases this

/-- The clause for the five callbacks other than `AssertMinimumReceive`, spelled out (every state: also while
    a loan is in flight): each carries a rule that names one principal. -/
theorem callbacks_designated_only (s : St) (sel : FlowSel) (p : Principal) :
    (admitsP s (.vault .Callback_AfterTrade) sel p = true ↔ p = .contract .vault) ∧
    (admitsP s (.terraswap_router .ExecuteSwapOperation) sel p = true ↔ p = .contract .terraswap_router) ∧
    (admitsP s (.vault_router .NextLoan) sel p = true ↔ p = .contract .vault) ∧
    (admitsP s (.vault_router .CompleteLoan) sel p = true ↔ p = .contract .vault_router) ∧
    (admitsP s (.fee_collector .ForwardFees) sel p = true ↔ p = .contract .fee_distributor) := by
  -- each of the five rules compares the sender with one principal
  refine ⟨?_, ?_, ?_, ?_, ?_⟩ <;> rw [admitsP_of_rule sel p rfl] <;> exact beq_iff_eq

/-- What holds of `CallbacksDesignatedOnly`: the clause for every designated callback other than
    `AssertMinimumReceive` (missing for the full statement: a sender check in the router's
    `AssertMinimumReceive`). -/
theorem callbacks_designated_only_partial (m : Msg) (d : Principal) (hd : designated m = some d)
    (hm : m ≠ .terraswap_router .AssertMinimumReceive) (s : St) (sel : FlowSel) (p : Principal) :
    admitsP s m sel p = true ↔ p = d := by
  obtain ⟨h1, h2, h3, h4, h5⟩ := callbacks_designated_only s sel p
  unfold designated at hd
  split at hd <;> cases hd
  · exact h1
  · exact h2
  · exact absurd rfl hm
  · exact h3
  · exact h4
  · exact h5

/-- The sender checks do not block the protocol's own flows: at genesis every internal message a
    handler sends on as itself is admitted by its receiver. -/
theorem internal_flows_admitted : ∀ m : Msg, subcallsAdmitted St.init m = true :=
  forall_msg_of_all (by decide +kernel)

/-- The router's route management is guarded by the wasm admin, not by any configured owner
    (recorded assumption: every deployment sets the admin; the harness always does). -/
theorem routes_wasm_admin_only (s : St) (sel : FlowSel) (p : Principal) :
    (admitsP s (.terraswap_router .AddSwapRoutes) sel p = true ↔ p = .acct .wasmAdmin) ∧
    (admitsP s (.terraswap_router .RemoveSwapRoutes) sel p = true ↔ p = .acct .wasmAdmin) := by
  constructor <;> rw [admitsP_of_rule sel p rfl] <;> exact beq_iff_eq

-- a stranger is refused on a privileged variant, the owner is admitted, at genesis
example : (step St.init (.vault_factory .CreateVault) .plain .user).isOk = false := by decide
example : (step St.init (.vault_factory .CreateVault) .plain .owner).isOk = true := by decide
-- children belong to their factory: the hub owner is refused, the factory admitted …
example : admits St.init (.terraswap_pair .UpdateConfig) .none .owner = false := by decide
example : admits St.init (.terraswap_pair .UpdateConfig) .none .factory = true := by decide
-- … and after the transfer script the roles have swapped
example : admits afterSt (.terraswap_pair .UpdateConfig) .none .factory = false := by decide
example : admits afterSt (.terraswap_pair .UpdateConfig) .none .newOwner = true := by decide
-- the forwarding call of the (new) factory owner is admitted by the factory but refused by the pair
example : nestedRefusal afterSt (.terraswap_factory .UpdatePairConfig) .none .newOwner = true := by decide
-- the hypotheses of `transfer_ownership` are met by all 12 owned contracts
example : (allContracts.filter fun c => (ownUpdateConfig c).isSome).length = 12 := by decide
-- the hypotheses of `unauthorised_rejected` are met: 32 roles × 46 guarded variants, most pairs unauthorised
example : allRoles.length = 32 := by decide
example : (allMsgs.filter fun m => (requires m).isSome).length = 46 := by decide +kernel
example : allMsgs.length = 87 := by decide +kernel
-- the finding, concretely: a plain user passes the router's AssertMinimumReceive, not its sibling callback
example : admits St.init (.terraswap_router .AssertMinimumReceive) .none .user = true := by decide
example : admits St.init (.terraswap_router .ExecuteSwapOperation) .none .user = false := by decide
-- inside a flash-loan callback: the borrower (or anybody else) cannot reconfigure the vault, its owner can;
-- a nested loan is refused for everybody, and the vault router's loan fails one level down
example : admits (St.init.withLoan true) (.vault .UpdateConfig) .none .borrower = false := by decide
example : admits (St.init.withLoan true) (.vault .UpdateConfig) .none .user = false := by decide
example : admits (St.init.withLoan true) (.vault .UpdateConfig) .none .factory = true := by decide
example : admits (St.init.withLoan true) (.vault .FlashLoan) .none .owner = false := by decide
example : nestedRefusal (St.init.withLoan true) (.vault_router .FlashLoan) .none .user = true := by decide
example : nestedRefusal St.init (.vault_router .FlashLoan) .none .user = false := by decide
-- flows: label 0 denotes flow 1 (flowCreator's); otherFlowCreator owns flow 2 with the same label and is refused
example : (St.init.resolve (.label 0)).map (·.id) = some 1 := by decide
example : admits St.init (.incentive .CloseFlow) (.label 0) .otherFlowCreator = false := by decide
example : admits St.init (.incentive .CloseFlow) (.label 0) .flowCreator = true := by decide
example : admits St.init (.incentive .CloseFlow) (.id 2) .otherFlowCreator = true := by decide
-- label 1 denotes flow 4 (otherFlowCreator's, earlier start epoch) although flowCreator's flow 3 has the lower id
example : (St.init.resolve (.label 1)).map (·.id) = some 4 := by decide
example : admits St.init (.incentive .CloseFlow) (.label 1) .flowCreator = false := by decide
example : admits St.init (.incentive .CloseFlow) (.id 3) .flowCreator = true := by decide
example : admits St.init (.incentive .CloseFlow) (.label 1) .owner = true := by decide
-- closing by label 0 removes flow 1 only
example : (effect St.init (.incentive .CloseFlow) ⟨none, .label 0⟩).flows.map (·.id) = [2, 4, 3] := by decide

end WW.C16
