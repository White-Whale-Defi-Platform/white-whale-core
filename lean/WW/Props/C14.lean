/-
  C14 — Quotes are honest: simulation equals execution.
  Property theorems only (helpers live in WW/Proofs/Quotes.lean). The model
  (WW/Model/Quotes.lean) replicates the constant-product pair's `Simulation` query and `swap`
  handler and the pool router's `SimulateSwapOperations` / `ExecuteSwapOperations`; it is tied
  to the Rust by the `quotes` correspondence engine (real factory + pairs + router, native and
  cw20 assets).

  Clauses of the property:
    * pair, constant product : `sim_eq_exec_pair`
    * router, 1..n hops      : `route_sim_eq_exec`, `route_revisit_counterexample`,
                               `route_prefunded_counterexample`
    * three-asset stableswap : `trio_sim_eq_exec`        (model WW/Model/Trio.lean)
    * vault share query      : `vault_share_eq_withdraw` (model WW/Model/Vault.lean)
-/
import WW.Proofs.Quotes
import WW.Proofs.Trio
import WW.Proofs.Vault
namespace WW.C14
open WW WW.Quotes

/-- **Clause 1 (constant-product pair).** For *every* pool state (any balances, any pending
    protocol fees, any fees — no well-formedness assumed), every offer of either asset and every
    payer / receiver, if the swap executes then the `Simulation` query on the state before it
    returns exactly the executed computation `c` — return, spread, swap fee, protocol fee, burn
    fee — and those are the amounts transferred and recorded (`SwapEffect`): the offer is on the
    pair, `c.ret` went to the receiver and `c.burnFee` was burnt from the ask balance,
    `c.protFee` was added to the pending and all-time ledgers, `c.burnFee` to the burn ledger.
    Native and cw20 offers alike: in both the offer has landed before the handler reads its
    balance, and the handler subtracts it again — the content of the theorem is that
    `balance + offer − pending − offer` (execute pools) is `balance − pending` (query pools). -/
theorem sim_eq_exec_pair (cfg : Cfg) (s : St) (i asset amt : Nat) (ms : Option Nat)
    (fromRouter toRouter : Bool) {s' : St} {c : SwapComp}
    (h : executeSwap cfg s i asset amt ms fromRouter toRouter = .ok (s', c)) :
    simulate cfg s i asset amt = .ok c ∧
    ∃ pc k, cfg.pairs[i]? = some pc ∧ sideOf pc asset = some k ∧
      SwapEffect (s.pool i) (s'.pool i) k amt c := by
  refine ⟨executeSwap_sim h, ?_⟩
  obtain ⟨pc, k, ps', rO, rA, hpc, hk, hsw, _, _, hp, _⟩ := executeSwap_ok h
  refine ⟨pc, k, hpc, hk, ?_⟩
  rw [hp, set_same]
  exact (swapCore_ok hsw).2.1

/-- **Clause 1 for every two-asset pair type.** `query_simulation` and `swap` are the same code
    for `ConstantProduct` and `StableSwap` pairs; only `helpers::compute_swap` differs. With that
    function (pair type, fees, amplification and decimals applied) treated as an *arbitrary*
    function `compute` of (offer pool, ask pool, offer amount), the executed computation is still
    the simulated one and is what is transferred and recorded. (`sim_eq_exec_pair` is the
    constant-product instance inside the full state machine; the stableswap function itself is
    not replicated here and this instance is not covered by the `quotes` correspondence.) -/
theorem sim_eq_exec_pool_any_type (compute : Compute) (ps : PoolSt) (k : Bool) (amt : Nat)
    (ms : Option Nat) {ps' : PoolSt} {c : SwapComp}
    (h : swapCoreG compute ps k amt ms = .ok (ps', c)) :
    simCoreG compute ps k amt = .ok c ∧ SwapEffect ps ps' k amt c :=
  ⟨(swapCoreG_ok h).1, (swapCoreG_ok h).2.1⟩

/-- the receiver is paid the quoted return: when proceeds go to the router (a non-final hop) its
    balance of the ask asset grows by exactly the simulated `return_amount` -/
theorem pair_proceeds_to_router (cfg : Cfg) (s : St) (i : Nat) (h : Hop) (ms : Option Nat)
    {s' : St} {c : SwapComp} (hr : resolve cfg h = some i) (hne : h.ask ≠ h.offer)
    (he : executeSwap cfg s i h.offer (s.router h.offer) ms true true = .ok (s', c)) :
    s'.router h.ask = s.router h.ask + c.ret ∧ s'.router h.offer = 0 := by
  obtain ⟨_, hrt⟩ := executeSwap_router hr he
  rw [hrt]
  simp only [if_true]
  constructor
  · rw [set_same, set_other _ _ hne]
  · rw [set_other _ _ (Ne.symm hne), set_same]

/-- a swap on one pair changes no other pool (frame) -/
theorem swap_changes_only_its_pool (cfg : Cfg) (s : St) (i asset amt : Nat) (ms : Option Nat)
    (fromRouter toRouter : Bool) {s' : St} {c : SwapComp}
    (h : executeSwap cfg s i asset amt ms fromRouter toRouter = .ok (s', c)) (j : Nat) (hj : j ≠ i) :
    s'.pool j = s.pool j :=
  executeSwap_frame h hj

/-- The router clause at full strength — **false on the current code**, see the witnesses below. -/
def RouteQuoteHonest : Prop :=
  ∀ (cfg : Cfg) (s : St) (ops : List Hop) (offer : Nat) (ms : Option Nat) (s' : St) (recv : Nat),
    executeSwapOperations cfg s ops offer ms = .ok (s', recv) →
    simulateSwapOperations cfg s ops offer = .ok recv

/-- **Clause 2 (router).** For every state, every route of any length (1, 2, 3, … hops) over
    native and cw20 assets, every offer and spread limit: if no pair is visited twice and the
    router holds none of the assets the route offers (entry asset and intermediates — the code
    offers the router's *whole balance* at every hop, the first included), then whenever the
    operations execute, `SimulateSwapOperations` returned exactly the amount the receiver got.
    Induction over the hops with the frame lemma `swap_changes_only_its_pool`; that the route is
    a chain need not be assumed (an unchained hop offers a zero balance and cannot execute). -/
theorem route_sim_eq_exec (cfg : Cfg) (s : St) (ops : List Hop) (offer : Nat) (ms : Option Nat)
    (hd : DistinctPairs cfg ops) (hr : RouterHoldsNone s ops)
    {s' : St} {recv : Nat} (h : executeSwapOperations cfg s ops offer ms = .ok (s', recv)) :
    simulateSwapOperations cfg s ops offer = .ok recv := by
  unfold executeSwapOperations at h
  cases ops with
  | nil => cases h
  | cons h0 rest =>
    simp only at h
    split at h
    · cases h
    · split at h
      · cases h
      · split at h
        · rename_i r0 hr0
          obtain ⟨_, hr0⟩ := cadd_eq_ok.mp hr0
          unfold simulateSwapOperations
          simp only [List.isEmpty_cons, Bool.false_eq_true, if_false]
          refine execHops_sim cfg ms s (h0 :: rest) _ h0.offer offer s' recv hd ?_ ?_ h
          · intro j _; rfl
          · intro h' hh'
            show set s.router h0.offer r0 h'.offer = _
            by_cases e : h'.offer = h0.offer
            · rw [if_pos e, e, set_same, hr0, hr h0 (List.mem_cons_self ..)]
              omega
            · rw [if_neg e, set_other _ _ e]
              exact hr h' hh'
        · cases h
        · cases h

/-! ### the hypotheses cannot be dropped: kernel-checked witnesses on the model, the same inputs
    are replayed on the real contracts (replays/known/C14-route-revisits-pair.json) -/

/-- 1 ‰ protocol fee, 2 ‰ swap fee, no burn fee -/
def feesK : Fees := { prot := 1000000000000000, swap := 2000000000000000, burn := 0 }

/-- four pairs over assets 0,1 (native) and 2,3 (cw20): 0-1, 1-2, 2-3, 2-0 -/
def cfgK : Cfg :=
  { pairs := [⟨0, 1, feesK⟩, ⟨1, 2, feesK⟩, ⟨2, 3, feesK⟩, ⟨2, 0, feesK⟩]
    native := fun a => decide (a < 2) }

/-- every pool 10⁹ / 10⁹, no pending fees; `r` = the router's balance of asset 1 -/
def stK (r : Nat) : St :=
  { pool := fun _ => { bal := fun _ => 1000000000, pend := fun _ => 0, allTime := fun _ => 0,
                       burned := fun _ => 0 }
    router := fun a => if a = 1 then r else 0 }

def half : Option Nat := some 500000000000000000

/-- **Known finding C14-route-revisits-pair** (DESIGN §6 row 12): `[uluna→uusd, uusd→uluna]` through
    one pool 10⁹/10⁹, offer 10⁸ — simulated 82 854 796, executed 99 409 936, with an empty router. -/
theorem route_revisit_counterexample :
    simulateSwapOperations cfgK (stK 0) [⟨0, 1⟩, ⟨1, 0⟩] 100000000 = .ok 82854796
    ∧ recvOf (executeSwapOperations cfgK (stK 0) [⟨0, 1⟩, ⟨1, 0⟩] 100000000 half) = .ok 99409936
    ∧ RouterHoldsNone (stK 0) [⟨0, 1⟩, ⟨1, 0⟩]
    ∧ ¬ DistinctPairs cfgK [⟨0, 1⟩, ⟨1, 0⟩] := by
  decide

/-- The second hypothesis cannot be dropped either: pairwise distinct pairs `[0→1, 1→2]`, but the
    router already holds 5·10⁶ of asset 1 — simulated 82 854 796, executed 87 026 552 (the parked
    funds are swept into the caller's swap). -/
theorem route_prefunded_counterexample :
    simulateSwapOperations cfgK (stK 5000000) [⟨0, 1⟩, ⟨1, 2⟩] 100000000 = .ok 82854796
    ∧ recvOf (executeSwapOperations cfgK (stK 5000000) [⟨0, 1⟩, ⟨1, 2⟩] 100000000 half) = .ok 87026552
    ∧ DistinctPairs cfgK [⟨0, 1⟩, ⟨1, 2⟩]
    ∧ ¬ RouterHoldsNone (stK 5000000) [⟨0, 1⟩, ⟨1, 2⟩] := by
  decide

private theorem recvOf_ok {x : Res (St × Nat)} {r : Nat} (h : recvOf x = .ok r) :
    ∃ s', x = .ok (s', r) := by
  cases x with
  | ok p =>
    obtain ⟨s', r'⟩ := p
    unfold recvOf at h
    injection h with h
    exact ⟨s', by rw [← h]⟩
  | err => cases h
  | panic => cases h

/-- the unrestricted router clause fails on the current code -/
theorem route_quote_not_honest_in_general : ¬ RouteQuoteHonest := by
  intro H
  obtain ⟨hsim, hexec, _, _⟩ := route_revisit_counterexample
  obtain ⟨s', he⟩ := recvOf_ok hexec
  have := H _ _ _ _ _ _ _ he
  rw [hsim] at this
  exact absurd this (by decide)

/-- a three-hop route over pairwise distinct pairs (native → native → cw20 → native) meets both
    hypotheses, executes, and pays what was simulated -/
example :
    DistinctPairs cfgK [⟨0, 1⟩, ⟨1, 2⟩, ⟨2, 0⟩] ∧ RouterHoldsNone (stK 0) [⟨0, 1⟩, ⟨1, 2⟩, ⟨2, 0⟩]
    ∧ recvOf (executeSwapOperations cfgK (stK 0) [⟨0, 1⟩, ⟨1, 2⟩, ⟨2, 0⟩] 100000000 half) = .ok 76285603
    ∧ simulateSwapOperations cfgK (stK 0) [⟨0, 1⟩, ⟨1, 2⟩, ⟨2, 0⟩] 100000000 = .ok 76285603 := by
  decide +kernel

/-- a pool with pending protocol fees: cw20 offer (asset 2 on pair 2-0) of 10⁶ under the default
    1 % spread limit; quote and execution agree on all five amounts -/
example :
    let s : St := { stK 0 with pool := fun _ =>
      { bal := fun _ => 1000000000, pend := fun k => if k then 90909 else 7, allTime := fun _ => 90909,
        burned := fun _ => 0 } }
    simulate cfgK s 3 2 1000000 = .ok ⟨995915, 999, 1997, 998, 0⟩
    ∧ compOf (executeSwap cfgK s 3 2 1000000 none false false) = .ok ⟨995915, 999, 1997, 998, 0⟩ := by
  decide +kernel

/-- **Three-asset stableswap**: whenever a swap executes, the `Simulation` query on the pre-state (same
    block, same offer) returns a computation `c`, and the swap transfers and records exactly `c`: the
    receiver gets `c.ret`, the pending and all-time protocol-fee ledgers grow by `c.protFee`, the burn
    ledger and the asset's supply move by `c.burnFee`; native and cw20 offers alike
    (model WW/Model/Trio.lean, tied to the real 3pool by engine `trio`). -/
theorem trio_sim_eq_exec {s s' : WW.Trio.St} {h u offer ask amt : Nat} {bp ms rc : Option Nat}
    (hs : WW.Trio.swap s h u offer ask amt bp ms rc = .ok s') :
    ∃ c, WW.Trio.simulate s h offer ask amt = .ok c ∧
      s'.ub (rc.getD u) ask = s.ub (rc.getD u) ask + c.ret ∧
      s'.pend ask = s.pend ask + c.protFee ∧ s'.allTime ask = s.allTime ask + c.protFee ∧
      s'.burned ask = s.burned ask + c.burnFee ∧ s'.sup ask = s.sup ask - c.burnFee ∧
      s'.bal offer = s.bal offer + amt ∧ s'.bal ask = s.bal ask - c.ret - c.burnFee :=
  WW.Trio.trio_sim_eq_exec hs

/-- **Vault**: the `Share { amount }` query (`shareOf`) is exactly what a withdrawal of that many
    shares pays: the withdrawer's balance grows by it and the vault's balance drops by it
    (model WW/Model/Vault.lean, tied to the real vault by engine `vault`, which queries `Share`
    immediately before every withdrawal). -/
theorem vault_share_eq_withdraw {s s' : WW.Vault.St} {who lp : Nat} (hw : who < s.ab.length)
    (h : WW.Vault.withdraw s who lp = some s') :
    WW.Vault.getN s'.ab who = WW.Vault.getN s.ab who + WW.Vault.shareOf s lp ∧
    s'.bal = s.bal - WW.Vault.shareOf s lp := by
  obtain ⟨_, rfl⟩ := WW.Vault.withdraw_ok_of_some h
  constructor
  · simp only [WW.Vault.withdrawRes]
    exact WW.Vault.getN_setN_same _ _ _ hw
  · simp only [WW.Vault.withdrawRes]

end WW.C14
