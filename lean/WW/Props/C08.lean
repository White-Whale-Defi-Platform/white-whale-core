/-
  C08 — Bonding: every bonded token is bonded, unbonding, or back with its owner.
  Property theorems only (helpers live in WW/Proofs/Lair.lean). The model `WW.Lair` is the replica
  of `contracts/liquidity_hub/whale_lair` (bond / unbond / withdraw / update_config / migrate, with the
  same-timestamp accumulation fix of `unbond`) plus the bank effects of its messages — the funds of
  `bond`, the `BankMsg::Send` of `withdraw`, and the coins the contract receives WITHOUT a bond: funds
  attached to `unbond` / `withdraw` / `update_config` and plain bank transfers; it is tied to the Rust by
  the `lair` correspondence engine (real whale_lair + real fee_distributor in cw-multi-test).

  Quantifiers: every theorem holds for all configurations (any whitelist, period, growth rate), all
  states satisfying the stated invariant (in particular the state after instantiation), all users
  and denoms (`Nat` ids, not a fixed cast), all block times — also equal or decreasing ones, no
  monotonicity is needed —, all coin lists attached to any message, and all histories
  `List (Env × Op)` (induction over the list; failed operations leave the state unchanged).

  Stray coins: no handler but `bond` reads `info.funds`, and no handler sends anything but `withdraw`'s
  refund of exactly the removed records. Coins that arrive otherwise therefore stay on the contract for
  good. The statements carry them explicitly: the ghost ledger `St.strays` (sender, denom, amount)
  receives exactly the coins attached to a non-bond message or sent plainly (`stray_enters_exactly`),
  nothing is ever removed from it (`stray_coins_stay`), and conservation reads
  `balance = bonded + unbonding + stray` per denom, `wallet + bonded + unbonding + sent-unasked` per user.

  Assumptions (also in tools/checks/C08.json):
  * the two fee-distributor guards of bond/unbond (`validate_claimed`,
    `validate_bonding_for_current_epoch`) are the environment input `Env.guardsOk`; the theorems
    hold for every value of it on every operation (a failing guard is a failed operation);
  * ownership transfer of `update_config` is not modelled; a `fee_distributor_addr` change is modelled as
    "names a contract again" (`Op.setFd`).
-/
import WW.Proofs.Lair
-- for `first_bonded_epoch_brackets_bond_time` at the end, the lair's side of a hypothesis of C09
import WW.Proofs.LairEpoch
namespace WW.C08
open WW WW.Lair

/-- **conservation**: after any history — whatever coins were attached to whatever message or sent to
    the contract plainly — for every denom the contract's bank balance equals the amount reported as
    bonded (`TotalBonded.bonded_assets`) plus all pending unbondings plus the stray ledger; and the
    reported amount is the sum of the users' bonds, so the balance is also Σ bonds + Σ unbondings + stray. -/
theorem conservation (cfg : Cfg) (s₀ : St) (h₀ : Inv s₀) (ops : List (Env × Op)) (d : Nat) :
    let s := reach cfg s₀ ops
    s.bal d = assetAmt d s.global.assets + sumUnb d s.unbonds + sumStray d s.strays ∧
    s.bal d = sumBond d s.bonds + sumUnb d s.unbonds + sumStray d s.strays := by
  intro s
  have hI : Inv s := inv_reach ops h₀
  exact ⟨hI.bal_eq d, by rw [hI.bal_eq d, hI.asset_eq d]⟩

/-- conservation for every history that starts right after instantiation -/
theorem conservation_from_init (cfg : Cfg) (period rate : Nat) (ubal : Nat → Nat → Nat)
    (ops : List (Env × Op)) (d : Nat) :
    let s := reach cfg (init period rate ubal) ops
    s.bal d = assetAmt d s.global.assets + sumUnb d s.unbonds + sumStray d s.strays ∧
    s.bal d = sumBond d s.bonds + sumUnb d s.unbonds + sumStray d s.strays :=
  conservation cfg _ (inv_init period rate ubal) ops d

/-- **only stray coins enter the stray ledger, and exactly them**: a successful operation puts new
    entries in front of the ledger whose sum per denom is the sum of the coins it carried without
    bonding them (`attached`: the funds of `unbond` / `withdraw` / `update_config`, the coins of a plain
    transfer; nothing for `bond`, `migrate` and the distributor-address update), all booked to the sender;
    the entries that were there are neither removed nor altered. -/
theorem stray_enters_exactly {cfg : Cfg} {s s' : St} {e : Env} {op : Op} (h : step cfg s e op = .ok s') :
    ∃ l, s'.strays = l ++ s.strays ∧ (∀ d, sumStray d l = coinsAmt d (attached op)) ∧
      (∀ a d, sumStrayOf a d l = if a = e.sender then coinsAmt d (attached op) else 0) := by
  -- no handler touches the ledger: what the bank's transfer entered is all there is
  obtain ⟨s1, r, ⟨_, _, _, hb⟩ | ⟨_, _, hu⟩ | ⟨_, _, -, hw⟩ | ⟨_, _, _, rfl⟩⟩ := step_ok h
  · obtain ⟨_, _, _, -, -, -, -, rfl⟩ := bond_ok hb
    exact r.strays
  · obtain ⟨_, _, _, _, _, -, -, -, -, -, rfl⟩ := unbond_ok hu
    exact r.strays
  · obtain ⟨-, -, -, -, -, rfl⟩ := withdraw_eq_ok.mp hw
    exact r.strays
  · exact r.strays

/-- **stray coins stay**: over any history the stray ledger only grows at the front — every entry ever
    made is still there —, so per denom the stray total never decreases: no operation of any sender
    ever pays a stray coin out. -/
theorem stray_coins_stay (cfg : Cfg) (s₀ : St) (ops : List (Env × Op)) :
    let s := reach cfg s₀ ops
    (∃ l, s.strays = l ++ s₀.strays) ∧ ∀ d, sumStray d s₀.strays ≤ sumStray d s.strays := by
  intro s
  obtain ⟨l, hl⟩ : ∃ l, s.strays = l ++ s₀.strays :=
    reach_preserves (P := fun t => ∃ l, t.strays = l ++ s₀.strays)
      (fun ⟨l, hl⟩ h => by
        obtain ⟨l', hl', -⟩ := stray_enters_exactly h
        exact ⟨l' ++ l, by rw [hl', hl, List.append_assoc]⟩)
      ops ⟨[], rfl⟩
  refine ⟨⟨l, hl⟩, fun d => ?_⟩
  rw [hl, sumStray_append]; omega

/-- **global = Σ users**: after any history the global bonded total (`GlobalIndex.bonded_amount`,
    `TotalBonded.total_bonded`) equals the sum of all users' bonds, and per denom the reported
    `bonded_assets` entry equals the sum of the users' bonds of that denom. -/
theorem global_eq_sum (cfg : Cfg) (s₀ : St) (h₀ : Inv s₀) (ops : List (Env × Op)) :
    let s := reach cfg s₀ ops
    s.global.bonded = sumBondAll s.bonds ∧ ∀ d, assetAmt d s.global.assets = sumBond d s.bonds := by
  intro s
  have hI : Inv s := inv_reach ops h₀
  exact ⟨hI.bonded_eq, hI.asset_eq⟩

/-- **bonded, unbonding, or back with its owner** (or given away unasked): for every user and denom,
    wallet + bonded + unbonding + the stray coins this user sent is the same after any history as
    before it. -/
theorem user_tokens_conserved (cfg : Cfg) (s₀ : St) (ops : List (Env × Op)) (a d : Nat) :
    let s := reach cfg s₀ ops
    s.ubal a d + sumBondOf a d s.bonds + sumUnbOf a d s.unbonds + sumStrayOf a d s.strays
      = s₀.ubal a d + sumBondOf a d s₀.bonds + sumUnbOf a d s₀.unbonds + sumStrayOf a d s₀.strays :=
  reach_preserves (P := fun t => userTotal a d t = userTotal a d s₀)
    (step_preserves (fun hP r => (userTotal_recv r a d).trans hP) (fun hP h => (userTotal_bond h a d).trans hP)
      (fun hP h => (userTotal_unbond h a d).trans hP) (fun hP h => (userTotal_withdraw h a d).trans hP) id)
    ops rfl

/-- **unbond enters the record**: a successful unbond of `x` — with any coins `c` attached — adds exactly
    `x` to the record keyed (sender, denom, block time) — on top of what is already there when several
    unbondings share a block time —, changes no other record, lowers the sender's bond by `x`, and moves
    no tokens but the attached coins, which go from the sender to the contract. -/
theorem unbond_enters_record {cfg : Cfg} {s s' : St} {e : Env} {d x : Nat} {c : List (Nat × Nat)}
    (h : step cfg s e (.unbond (.native d) x c) = .ok s') :
    (∀ a' d' t', recAmt a' d' t' s'.unbonds
        = recAmt a' d' t' s.unbonds + (if a' = e.sender ∧ d' = d ∧ t' = e.now then x else 0)) ∧
    (∀ a' d', sumBondOf a' d' s'.bonds + (if a' = e.sender ∧ d' = d then x else 0) = sumBondOf a' d' s.bonds) ∧
    (∀ d', s'.bal d' = s.bal d' + coinsAmt d' c) ∧
    (∀ a' d', s'.ubal a' d' + (if a' = e.sender then coinsAmt d' c else 0) = s.ubal a' d') := by
  obtain ⟨s1, r, hk⟩ := withCoins_ok h
  obtain ⟨d0, b, nb, nu, ng, ⟨hd0, -⟩, hb, hn, hu, -, rfl⟩ := unbond_ok hk
  cases hd0
  exact ⟨fun a' d' t' => ((unbSums_add hu).2.2 a' d' t').trans (by rw [r.unbonds]),
    fun a' d' => ((bondSums (sumKey_unbond hb hn)).2.2 a' d').trans (by rw [r.bonds]), r.bal, r.ubal⟩

/-- **paid to the owner, in full, and nothing else**: a successful withdraw — with any coins `c` attached —
    pays the sender exactly the sum `refundOf` of the records it removes (positive, computed from the
    records and the period of the state BEFORE the message: the attached coins do not enter it); the
    contract's balance of the denom changes by attached − refund, every other denom grows by what was
    attached; the sender's pending total drops by the refund; nobody else's wallet, no bond and no global
    total changes. -/
theorem withdraw_pays_removed {cfg : Cfg} {s s' : St} {e : Env} {d : Nat} {c : List (Nat × Nat)}
    (h : step cfg s e (.withdraw d c) = .ok s') :
    0 < refundOf s e d ∧
    s'.ubal e.sender d + coinsAmt d c = s.ubal e.sender d + refundOf s e d ∧
    s'.bal d + refundOf s e d = s.bal d + coinsAmt d c ∧
    (∀ a' d', ¬ (a' = e.sender ∧ d' = d) →
      s'.ubal a' d' + (if a' = e.sender then coinsAmt d' c else 0) = s.ubal a' d') ∧
    (∀ d', d' ≠ d → s'.bal d' = s.bal d' + coinsAmt d' c) ∧
    s'.bonds = s.bonds ∧ s'.global = s.global ∧
    sumUnbOf e.sender d s'.unbonds + refundOf s e d = sumUnbOf e.sender d s.unbonds := by
  obtain ⟨s1, r, hk⟩ := withCoins_ok h
  obtain ⟨-, -, h0, hle, -, rfl⟩ := withdraw_eq_ok.mp hk
  have hs := sumUnbOf_withdraw e.sender d e.now s.period e.sender d s.unbonds
  have ru := r.ubal e.sender d
  have rb := r.bal d
  rw [refundOf_recv r] at h0 hle
  rw [if_pos ⟨rfl, rfl⟩] at hs
  rw [if_pos rfl] at ru
  simp only [withdrawn, refundOf_recv r, r.unbonds, r.period, and_self, if_true]
  refine ⟨h0, by omega, by omega, fun a' d' hk' => ?_, fun d' hd => ?_, r.bonds, r.global, hs⟩
  · rw [if_neg hk']; exact r.ubal a' d'
  · rw [if_neg hd]; exact r.bal d'

/-- **a withdrawal is unaffected by stray coins**: the same withdrawal sent with and without coins
    attached removes the same records and leaves the sender with the same wallet once the attached coins
    are counted — they are simply gone to the contract; and the stray ledgers differ by exactly them. -/
theorem withdraw_unaffected_by_stray_coins {cfg : Cfg} {s s' s'' : St} {e : Env} {d : Nat} {c : List (Nat × Nat)}
    (h : step cfg s e (.withdraw d c) = .ok s') (h0 : step cfg s e (.withdraw d []) = .ok s'') :
    s'.unbonds = s''.unbonds ∧
    (∀ a' d', s'.ubal a' d' + (if a' = e.sender then coinsAmt d' c else 0) = s''.ubal a' d') ∧
    (∀ d', s'.bal d' = s''.bal d' + coinsAmt d' c) := by
  obtain ⟨-, hA, hB, hC, hD, -, -, -⟩ := withdraw_pays_removed h
  obtain ⟨-, hA0, hB0, hC0, hD0, -, -, -⟩ := withdraw_pays_removed h0
  simp only [coinsAmt, Nat.add_zero, ite_self] at hA0 hB0 hC0 hD0
  refine ⟨by rw [withdraw_step_unbonds h, withdraw_step_unbonds h0], fun a' d' => ?_, fun d' => ?_⟩
  · by_cases hk' : a' = e.sender ∧ d' = d
    · obtain ⟨rfl, rfl⟩ := hk'
      simp only [if_true]; omega
    · rw [hC a' d' hk', hC0 a' d' hk']
  · by_cases hd : d' = d
    · subst hd; omega
    · rw [hD d' hd, hD0 d' hd]

/-- **only its owner, only after the period**: a record that a successful withdraw removes belongs
    to the sender and the withdrawn denom, and its unbonding period has elapsed
    (`now ≥ timestamp + period`); records of every other (address, denom) are untouched. -/
theorem withdraw_only_owner_after_period {cfg : Cfg} {s s' : St} {e : Env} {d : Nat} {c : List (Nat × Nat)}
    (h : step cfg s e (.withdraw d c) = .ok s') :
    (∀ r ∈ s.unbonds, r ∉ s'.unbonds → r.addr = e.sender ∧ r.denom = d ∧ r.ts + s.period ≤ e.now) ∧
    (∀ a' d' t', ¬ (a' = e.sender ∧ d' = d) → recAmt a' d' t' s'.unbonds = recAmt a' d' t' s.unbonds) := by
  obtain ⟨s1, r, hk⟩ := withCoins_ok h
  have hp := (withdraw_eq_ok.mp hk).2.1
  rw [r.period] at hp
  rw [withdraw_step_unbonds h]
  refine ⟨fun x hr hr' => ?_, fun a' d' t' hk' => recAmt_withdraw _ _ _ _ _ _ _ _ hk'⟩
  have hm : matured e.sender d e.now s.period s.unbonds x = true :=
    Decidable.byContradiction fun hm => hr' (List.mem_filter.mpr ⟨hr, by simpa using hm⟩)
  obtain ⟨h1, h2, h3⟩ := matured_mine hm
  exact ⟨h1, h2, by omega⟩

/-- **exactly once**: after the withdraw that paid it, nothing is recorded any more at the key of
    a paid record (so no later withdraw can pay it again), and every surviving record was there
    before and was not due. Together with `withdraw_pays_removed` (paid = Σ removed) and
    `user_tokens_conserved` this is "paid out exactly once". -/
theorem paid_record_is_gone {cfg : Cfg} {s s' : St} {e : Env} {d : Nat} {c : List (Nat × Nat)}
    (h : step cfg s e (.withdraw d c) = .ok s') :
    (∀ r, matured e.sender d e.now s.period s.unbonds r = true → recAmt r.addr r.denom r.ts s'.unbonds = 0) ∧
    (∀ r ∈ s'.unbonds, r ∈ s.unbonds ∧ matured e.sender d e.now s.period s.unbonds r = false) := by
  rw [withdraw_step_unbonds h]
  exact ⟨fun x hm => withdraw_key_cleared _ _ _ _ _ hm,
    fun x hr => ⟨(List.mem_filter.mp hr).1, by simpa using (List.mem_filter.mp hr).2⟩⟩

/-- **a wallet grows only through its owner's own withdraw**: whatever the operation, whatever coins it
    carries and whoever sends it, if user `a`'s wallet of denom `d` is larger afterwards, then the
    operation was a withdraw of `d` sent by `a`. -/
theorem wallet_grows_only_by_own_withdraw {cfg : Cfg} {s s' : St} {e : Env} {op : Op} {a d : Nat}
    (h : step cfg s e op = .ok s') (hg : s.ubal a d < s'.ubal a d) :
    e.sender = a ∧ ∃ c, op = .withdraw d c := by
  obtain ⟨s1, r, ⟨_, _, _, hb⟩ | ⟨_, _, hu⟩ | hw | ⟨p, q, f, rfl⟩⟩ := step_ok h
  all_goals have hle : s1.ubal a d ≤ s.ubal a d := by have := r.ubal a d; omega
  · obtain ⟨d0, nb, ng, -, -, -, -, rfl⟩ := bond_ok hb
    simp only at hg
    split at hg
    next hk => obtain ⟨rfl, rfl⟩ := hk; omega
    next => omega
  · obtain ⟨_, _, _, _, _, -, -, -, -, -, rfl⟩ := unbond_ok hu
    exact absurd hg (by simp only; omega)
  · obtain ⟨d0, c, rfl, hw⟩ := hw
    obtain ⟨-, -, -, -, -, rfl⟩ := withdraw_eq_ok.mp hw
    simp only [withdrawn] at hg
    split at hg
    next hk => obtain ⟨rfl, rfl⟩ := hk; exact ⟨rfl, c, rfl⟩
    next => omega
  · exact absurd hg (by simp only; omega)

/-- **becomes withdrawable in full**: in any state satisfying the ledger invariant, a record of
    user `a` whose period has elapsed at `now` and which is among the first `MAX_PAGE_LIMIT`
    records of `(a, d)` (always the case with at most 30 pending records) makes `a`'s withdraw
    succeed — whatever the guards say, and whatever coins `c` are attached as long as the bank can
    deliver them (`hrecv`) —, removes the record and pays at least its amount on top of what `a` has
    left after the attached coins are gone. `hsupply`: the bank's supply of the denom fits `u128`. -/
theorem matured_withdraw_succeeds {cfg : Cfg} {s s1 : St} {a d now : Nat} {g : Bool} {r : UnbRec}
    {c : List (Nat × Nat)}
    (hI : Inv s) (hW : Wf cfg s) (hr : r ∈ s.unbonds) (ha : r.addr = a) (hd : r.denom = d)
    (hrank : rank a d s.unbonds r < Gen.LAIR_MAX_PAGE_LIMIT)
    (hmat : r.ts + s.period ≤ now)
    (hsupply : s.ubal a d + s.bal d ≤ U128MAX)
    (hrecv : receive s a c = .ok s1) :
    ∃ s', step cfg s ⟨now, a, g⟩ (.withdraw d c) = .ok s' ∧ r ∉ s'.unbonds ∧
      s.ubal a d + r.amount ≤ s'.ubal a d + coinsAmt d c := by
  have rr := receive_recv hrecv
  have hm : matured a d now s1.period s1.unbonds r = true := by
    rw [rr.period, rr.unbonds]
    simp only [matured, mine, Bool.and_eq_true, decide_eq_true_eq]
    exact ⟨⟨⟨ha, hd⟩, hrank⟩, by omega⟩
  have hu : s1.ubal a d + coinsAmt d c = s.ubal a d := (if_pos rfl ▸ rr.ubal a d :)
  have hb := rr.bal d
  have hp : s1.period ≤ now := by rw [rr.period]; omega
  obtain ⟨hw, hge⟩ := withdraw_succeeds (e := ⟨now, a, g⟩) (inv_recv hI rr) (rr.unbonds ▸ hr) hm
    (hW.unbonds_pos r hr) hp (show s1.ubal a d + s1.bal d ≤ _ by omega)
  refine ⟨withdrawn s1 ⟨now, a, g⟩ d, ?_, ?_, ?_⟩
  · show withCoins s a c (fun s1 => withdraw s1 ⟨now, a, g⟩ d) = _
    unfold withCoins
    rw [hrecv]
    exact hw
  · simp [withdrawn, hm]
  · show _ ≤ (if a = a ∧ d = d then s1.ubal a d + refundOf s1 ⟨now, a, g⟩ d else _) + _
    rw [if_pos ⟨rfl, rfl⟩]
    omega

/-- the same for the plain message (no coins attached: the bank has nothing to deliver) -/
theorem matured_withdraw_succeeds_plain {cfg : Cfg} {s : St} {a d now : Nat} {g : Bool} {r : UnbRec}
    (hI : Inv s) (hW : Wf cfg s) (hr : r ∈ s.unbonds) (ha : r.addr = a) (hd : r.denom = d)
    (hrank : rank a d s.unbonds r < Gen.LAIR_MAX_PAGE_LIMIT)
    (hmat : r.ts + s.period ≤ now)
    (hsupply : s.ubal a d + s.bal d ≤ U128MAX) :
    ∃ s', step cfg s ⟨now, a, g⟩ (.withdraw d []) = .ok s' ∧ r ∉ s'.unbonds ∧
      s.ubal a d + r.amount ≤ s'.ubal a d := by
  obtain ⟨s', h1, h2, h3⟩ := matured_withdraw_succeeds (cfg := cfg) (g := g) (c := []) hI hW hr ha hd hrank hmat hsupply rfl
  exact ⟨s', h1, h2, by simpa [coinsAmt] using h3⟩

/-- **whitelist only (acceptance)**: a bond is accepted only for a native asset whose denom is in
    the configured whitelist, with exactly one coin of that denom and that positive amount attached
    (so nothing attached to an accepted bond is stray). -/
theorem whitelist_only {cfg : Cfg} {s s' : St} {e : Env} {asset : AssetRef} {x : Nat}
    {funds : List (Nat × Nat)} (h : step cfg s e (.bond asset x funds) = .ok s') :
    ∃ d, asset = .native d ∧ cfg.whitelist.contains d = true ∧ funds = [(d, x)] ∧ 0 < x := by
  obtain ⟨d, nb, ng, ⟨ha, hf, hx, -, hwl, -⟩, -⟩ := bond_ok h
  exact ⟨d, ha, hwl, hf, Nat.pos_of_ne_zero hx⟩

/-- **whitelist only (state)**: after any history from instantiation every bond, every unbonding
    record and every reported bonded asset has a whitelisted denom, no unbonding record is empty,
    and what the contract holds of a denom outside the whitelist is exactly the stray coins of that
    denom (nothing of it is bonded or unbonding). -/
theorem whitelist_only_state (cfg : Cfg) (period rate : Nat) (ubal : Nat → Nat → Nat)
    (ops : List (Env × Op)) :
    let s := reach cfg (init period rate ubal) ops
    Wf cfg s ∧ ∀ d, cfg.whitelist.contains d = false → s.bal d = sumStray d s.strays := by
  intro s
  have hW : Wf cfg s := wf_reach ops (wf_init cfg period rate ubal)
  have hI : Inv s := inv_reach ops (inv_init period rate ubal)
  refine ⟨hW, fun d hd => ?_⟩
  rw [hI.bal_eq d]
  have h1 : assetAmt d s.global.assets = 0 :=
    assetAmt_zero_of_no_denom (fun p hp hpd => by
      have := hW.assets_wl p hp
      rw [hpd, hd] at this; cases this)
  have h2 : sumUnb d s.unbonds = 0 :=
    sumUnb_zero_of_no_denom (fun r hr hrd => by
      have := hW.unbonds_wl r hr
      rw [hrd, hd] at this; cases this)
  omega

/-- **one entry per storage key**: after any history from instantiation no two unbonding records
    share an (address, denom, timestamp) key and no two bonds share (address, denom) — so the
    per-key sums used in the statements above are the amounts of single entries: what the `Bonded`
    query lists for `(a, d)` is `sumBondOf a d`, and `recAmt a d ts` is the one record at that key. -/
theorem one_entry_per_key (cfg : Cfg) (period rate : Nat) (ubal : Nat → Nat → Nat)
    (ops : List (Env × Op)) :
    let s := reach cfg (init period rate ubal) ops
    s.unbonds.Pairwise DiffKey ∧ ∀ a d, sumBondOf a d s.bonds = bondedOf a d s.bonds := by
  intro s
  have hU : Uniq s := uniq_reach ops (uniq_init period rate ubal)
  exact ⟨hU.unbonds, fun a d => sumBondOf_eq_bondedOf hU.bonds⟩

/-- **a failed operation changes nothing**: an operation that errs or panics — in the bank's transfer of
    the attached coins or in the handler — leaves the state as it was, attached coins included (this is
    how `reach` treats it; the harness checks the same on the real contract). -/
theorem failed_op_unchanged (cfg : Cfg) (s : St) (e : Env) (op : Op)
    (h : ∀ s', step cfg s e op ≠ .ok s') : stepOrStay cfg s (e, op) = s := by
  unfold stepOrStay
  split
  · rename_i s' hs; exact absurd hs (h s')
  · rfl

/-- the fee-distributor guards only ever block: with a failing guard bond and unbond are errors,
    whatever is attached -/
theorem guards_only_block (cfg : Cfg) (s : St) (e : Env) (hg : e.guardsOk = false)
    (asset : AssetRef) (x : Nat) (funds : List (Nat × Nat)) :
    (∀ s', step cfg s e (.bond asset x funds) ≠ .ok s') ∧ (∀ s', step cfg s e (.unbond asset x funds) ≠ .ok s') := by
  constructor
  · intro s' h
    obtain ⟨d, nb, ng, ⟨-, -, -, -, -, hgo⟩, -⟩ := bond_ok h
    rw [hg] at hgo; cases hgo
  · intro s' h
    obtain ⟨s1, -, hk⟩ := withCoins_ok h
    obtain ⟨d, b, nb, nu, ng, ⟨-, -, hgo⟩, -⟩ := unbond_ok hk
    rw [hg] at hgo; cases hgo

/-- **a migration changes nothing**: an accepted `migrate` — from whichever stored version, on either
    layout — leaves every bond, every unbonding record, the global index, the unbonding period, the
    growth rate, every balance and the stray ledger as they were. It was sent by the wasm admin from a
    LOWER stored version; from a version below 0.9.0 it ran the storage migration, which needs the 0.8.x
    layout of `config` and leaves the fee distributor address empty (`fdSet = false`); from 0.9.0 on it
    is the identity. -/
theorem migrate_changes_nothing {cfg : Cfg} {s s' : St} {e : Env} {st cr : Ver} {l : Bool}
    (h : step cfg s e (.migrate st cr l) = .ok s') :
    s'.bonds = s.bonds ∧ s'.unbonds = s.unbonds ∧ s'.global = s.global ∧ s'.gset = s.gset ∧
    s'.period = s.period ∧ s'.rate = s.rate ∧ s'.bal = s.bal ∧ s'.ubal = s.ubal ∧ s'.strays = s.strays ∧
    s'.fdSet = (s.fdSet && !st.lt V090) ∧
    e.sender = cfg.admin ∧ st.lt cr = true ∧ (st.lt V090 = true → l = true) ∧ (st.lt V090 = false → s' = s) := by
  obtain ⟨ha, hv, ⟨h9, hl, rfl⟩ | ⟨h9, rfl⟩⟩ := migrate_ok h
  · exact ⟨rfl, rfl, rfl, rfl, rfl, rfl, rfl, rfl, rfl, by simp [h9], ha, hv, fun _ => hl, fun hc => (by rw [h9] at hc; cases hc)⟩
  · exact ⟨rfl, rfl, rfl, rfl, rfl, rfl, rfl, rfl, rfl, by simp [h9], ha, hv, fun hc => (by rw [h9] at hc; cases hc), fun _ => rfl⟩

/-- **what a migration refuses**: anybody but the wasm admin; a stored version equal to or higher than
    the crate's; a stored version below 0.9.0 when `config` is in the layout every release since 0.9.0
    writes (`ConfigV080` does not parse it). A refused migration changes nothing (`failed_op_unchanged`). -/
theorem migrate_refusals (cfg : Cfg) (s : St) (e : Env) (st cr : Ver) (l : Bool) :
    (e.sender ≠ cfg.admin → ∀ s', step cfg s e (.migrate st cr l) ≠ .ok s') ∧
    (st.lt cr = false → ∀ s', step cfg s e (.migrate st cr l) ≠ .ok s') ∧
    (st.lt V090 = true → l = false → ∀ s', step cfg s e (.migrate st cr l) ≠ .ok s') := by
  refine ⟨fun hne s' h => ?_, fun hv s' h => ?_, fun h9 hl s' h => ?_⟩
  · exact hne (migrate_ok h).1
  · have := (migrate_ok h).2.1; rw [hv] at this; cases this
  · obtain ⟨-, -, ⟨-, hl', -⟩ | ⟨h9', -⟩⟩ := migrate_ok h
    · rw [hl] at hl'; cases hl'
    · rw [h9] at h9'; cases h9'

/-! ### non-vacuity: concrete histories and the model's exact output on them -/

/-- two whitelisted denoms 0 and 1, owner 9 -/
def cfgEx : Cfg := { whitelist := [0, 1], owner := 9, genesis := 0, epochDur := 86400000000000 }
/-- period 1000 ns, growth rate 1.0, every account holds 1 000 000 of every denom -/
def s0Ex : St := init 1000 E18 (fun _ _ => 1000000)
def t0 : Nat := 1700000000000000000

/-- user 0 bonds 1000, unbonds 300 and 200 in the same block (one record of 500: the fixed
    behaviour), user 1 bonds 70 of denom 1, a premature withdraw fails, and at `t0 + period`
    user 0 withdraws the 500 -/
def histEx : List (Env × Op) :=
  [ (⟨t0, 0, true⟩, .bond (.native 0) 1000 [(0, 1000)]),
    (⟨t0, 0, true⟩, .unbond (.native 0) 300 []),
    (⟨t0, 0, true⟩, .unbond (.native 0) 200 []),
    (⟨t0, 1, true⟩, .bond (.native 1) 70 [(1, 70)]),
    (⟨t0 + 999, 0, true⟩, .withdraw 0 []),
    (⟨t0 + 1000, 0, true⟩, .withdraw 0 []) ]

example : (let s := reach cfgEx s0Ex (histEx.take 4)
    (s.bal 0, sumBond 0 s.bonds, sumUnb 0 s.unbonds, recAmt 0 0 t0 s.unbonds, s.global.bonded, s.ubal 0 0))
    = (1000, 500, 500, 500, 570, 999000) := by decide +kernel

example : (let s := reach cfgEx s0Ex histEx
    (s.bal 0, sumBond 0 s.bonds, sumUnb 0 s.unbonds, s.bal 1, s.global.bonded, s.ubal 0 0, s.unbonds.length))
    = (500, 500, 0, 70, 570, 999500, 0) := by decide +kernel

/-- the premature withdraw (1 ns before the period has elapsed) is rejected -/
example : (match step cfgEx (reach cfgEx s0Ex (histEx.take 4)) ⟨t0 + 999, 0, true⟩ (.withdraw 0 []) with
    | .err => true | _ => false) = true := by decide +kernel

/-- the hypotheses of `matured_withdraw_succeeds` are met by the record of user 0 at `t0 + 1000` -/
example : (let s := reach cfgEx s0Ex (histEx.take 4)
    let r : UnbRec := ⟨0, 0, t0, 500⟩
    decide (r ∈ s.unbonds) && decide (rank 0 0 s.unbonds r < Gen.LAIR_MAX_PAGE_LIMIT)
      && decide (r.ts + s.period ≤ t0 + 1000) && decide (s.ubal 0 0 + s.bal 0 ≤ U128MAX)) = true := by decide +kernel

/-- non-whitelisted denom, token asset, two coins and a zero amount are all rejected -/
example : (([ Op.bond (.native 2) 5 [(2, 5)], .bond .token 5 [(0, 5)], .bond (.native 0) 5 [(0, 5), (1, 5)],
              .bond (.native 0) 0 [(0, 0)], .bond (.native 0) 5 [], .unbond (.native 0) 0 [],
              .unbond (.native 0) 5 [], .withdraw 0 [] ] : List Op).all fun op =>
      match step cfgEx s0Ex ⟨t0, 0, true⟩ op with
      | .err => true
      | _ => false) = true := by decide +kernel

/-- with a period longer than the block time, withdraw with a pending record panics
    (`Timestamp::minus_nanos` underflow), as the real contract does -/
example : (match step cfgEx
      (reach cfgEx (init (t0 + 5) E18 (fun _ _ => 1000000)) (histEx.take 2)) ⟨t0 + 1, 0, true⟩ (.withdraw 0 []) with
    | .panic => true | _ => false) = true := by decide +kernel



/-- **with stray coins**: user 0 bonds 1000 and unbonds 500 with 7 of denom 1 attached; user 1 sends 40
    of the non-whitelisted denom 2 plainly; the owner updates the period (to the same value) with 3 of
    denom 0 attached; at `t0 + 1000` user 0 withdraws denom 0 with 500 of denom 0 attached — as much as
    the record about to be paid. The contract then holds 500 bonded + 0 unbonding + 503 stray of denom 0,
    7 stray of denom 1, 40 stray of denom 2; user 0 is paid the 500 of the record and not the 500 it
    attached (wallet 1 000 000 − 1000 + 500 − 500). -/
def histStray : List (Env × Op) :=
  [ (⟨t0, 0, true⟩, .bond (.native 0) 1000 [(0, 1000)]),
    (⟨t0, 0, true⟩, .unbond (.native 0) 500 [(1, 7)]),
    (⟨t0, 1, true⟩, .send [(2, 40)]),
    (⟨t0, 9, true⟩, .config (some 1000) none [(0, 3)]),
    (⟨t0 + 1000, 0, true⟩, .withdraw 0 [(0, 500)]) ]

example : (let s := reach cfgEx s0Ex histStray
    (s.bal 0, sumBond 0 s.bonds, sumUnb 0 s.unbonds, sumStray 0 s.strays))
    = (1003, 500, 0, 503) := by decide +kernel

example : (let s := reach cfgEx s0Ex histStray
    (s.bal 1, sumStray 1 s.strays, s.bal 2, sumStray 2 s.strays, s.global.bonded))
    = (7, 7, 40, 40, 500) := by decide +kernel

example : (let s := reach cfgEx s0Ex histStray
    (s.ubal 0 0, s.ubal 0 1, s.ubal 1 2, s.ubal 9 0, sumStrayOf 0 0 s.strays, sumStrayOf 9 0 s.strays, s.strays.length))
    = (999000, 999993, 999960, 999997, 500, 3, 4) := by decide +kernel

/-- more coins attached than the sender holds, a single zero coin, an empty plain transfer: refused by
    the bank, whatever the handler would have done -/
example : (([ Op.withdraw 0 [(0, 1000001)], .withdraw 0 [(1, 0)], .send [], .send [(2, 0)],
              .config none none [(2, 1000001)] ] : List Op).all fun op =>
      match step cfgEx (reach cfgEx s0Ex (histStray.take 4)) ⟨t0 + 1000, 9, true⟩ op with
      | .err => true
      | _ => false) = true := by decide +kernel

/-- migrations on the state of `histStray` (crate 0.9.2, admin = owner 9): accepted from 0.9.1 and 0.9.0
    and from 0.8.0 on the 0.8.x layout, leaving every ledger as it was (the last one empties the fee
    distributor address); refused from 0.9.2, 0.9.3, 1.0.0, from 0.8.0 on the current layout, and from
    0.9.1 when somebody else sends it -/
example : (let s := reach cfgEx s0Ex histStray
    let e : Env := ⟨t0 + 2000, 9, true⟩
    let same (r : Res St) (fd : Bool) : Bool := match r with
      | .ok s' => decide (s'.bonds = s.bonds) && decide (s'.unbonds = s.unbonds) && decide (s'.global = s.global)
          && decide (s'.strays = s.strays) && decide (s'.period = s.period) && decide (s'.bal 0 = s.bal 0)
          && decide (s'.ubal 0 0 = s.ubal 0 0) && decide (s'.fdSet = fd)
      | _ => false
    let refused (r : Res St) : Bool := match r with
      | .err => true
      | _ => false
    same (step cfgEx s e (.migrate ⟨0, 9, 1⟩ ⟨0, 9, 2⟩ false)) true
      && same (step cfgEx s e (.migrate ⟨0, 9, 0⟩ ⟨0, 9, 2⟩ false)) true
      && same (step cfgEx s e (.migrate ⟨0, 8, 0⟩ ⟨0, 9, 2⟩ true)) false
      && refused (step cfgEx s e (.migrate ⟨0, 9, 2⟩ ⟨0, 9, 2⟩ false))
      && refused (step cfgEx s e (.migrate ⟨0, 9, 3⟩ ⟨0, 9, 2⟩ false))
      && refused (step cfgEx s e (.migrate ⟨1, 0, 0⟩ ⟨0, 9, 2⟩ false))
      && refused (step cfgEx s e (.migrate ⟨0, 8, 0⟩ ⟨0, 9, 2⟩ false))
      && refused (step cfgEx s ⟨t0 + 2000, 0, true⟩ (.migrate ⟨0, 9, 1⟩ ⟨0, 9, 2⟩ false))) = true := by decide +kernel

/-- **the `first_bonded_epoch_id` the lair reports brackets the bond time**: `calculate_epoch(t) = fb`
    (the `Bonded` query applies it to the address's earliest bond timestamp) means
    `genesis + (fb − 1)·duration ≤ t < genesis + fb·duration` (and `t < genesis` for `fb = 0`). This is
    exactly the hypothesis `bondTime < genesis + fb · duration` that `WW.C09.not_before_bonding_time`
    takes from the lair: epochs `> fb`, the only ones a never-claimed address is paid for, start after
    the bond. -/
theorem first_bonded_epoch_brackets_bond_time {cfg : Lair.Cfg} {t fb : Nat} (h : Lair.calcEpoch cfg t = .ok fb) :
    t < cfg.genesis + fb * cfg.epochDur ∧ (1 ≤ fb → cfg.genesis + (fb - 1) * cfg.epochDur ≤ t) :=
  ⟨Lair.calcEpoch_lt h, Lair.calcEpoch_ge h⟩

end WW.C08
