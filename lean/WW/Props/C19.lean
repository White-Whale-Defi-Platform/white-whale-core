/-
  C19 — Factories and router: one child per asset set; the registry tells the truth.
  Property theorems (lemmas: WW/Proofs/Factory.lean, WW/Proofs/FactoryChildren.lean; model:
  WW/Model/Factory.lean, tied to the real pool factory / vault factory / incentive factory / router by the
  `registry` engine).

  All theorems quantify over every asset universe `cfg` (arbitrary byte strings), every state reachable
  from the empty factories by any list of operations (`reach cfg St.init ops`), every argument order.
-/
import WW.Proofs.FactoryChildren
namespace WW.C19
open WW WW.Factory

/-! ### keys do not depend on the order in which the assets are given -/

/-- clause "regardless of the order in which assets are given", any number of assets -/
theorem key_perm_invariant_list {l₁ l₂ : List Bytes} (h : l₁.Perm l₂) : concatKey l₁ = concatKey l₂ :=
  congrArg List.flatten <|
    List.Perm.eq_of_pairwise (le := (· ≤ ·)) (fun _ _ _ _ h1 h2 => Std.le_antisymm h1 h2)
      (sortBytes_sorted l₁) (sortBytes_sorted l₂)
      ((sortBytes_perm l₁).trans (h.trans (sortBytes_perm l₂).symm))

/-- `pair_key` is invariant under both orders, `trio_key` under all six -/
theorem key_perm_invariant (a b c : Bytes) :
    pairKey a b = pairKey b a ∧
    trioKey a b c = trioKey a c b ∧ trioKey a b c = trioKey b a c ∧ trioKey a b c = trioKey b c a ∧
    trioKey a b c = trioKey c a b ∧ trioKey a b c = trioKey c b a := by
  refine ⟨key_perm_invariant_list (List.Perm.swap b a []), ?_, ?_, ?_, ?_, ?_⟩
  · exact key_perm_invariant_list (List.Perm.cons a (List.Perm.swap c b []))
  · exact key_perm_invariant_list (List.Perm.swap b a [c])
  · exact key_perm_invariant_list ((List.Perm.swap b a [c]).trans (List.Perm.cons b (List.Perm.swap c a [])))
  · exact key_perm_invariant_list ((List.Perm.cons a (List.Perm.swap c b [])).trans (List.Perm.swap c a [b]))
  · exact key_perm_invariant_list (((List.Perm.cons a (List.Perm.swap c b [])).trans (List.Perm.swap c a [b])).trans
      (List.Perm.cons c (List.Perm.swap b a [])))

/-- the factory's key of a list of universe assets is the same for every permutation of the list -/
theorem keyOf_perm_invariant (cfg : Cfg) {l₁ l₂ : List Nat} (h : l₁.Perm l₂) {k : Bytes}
    (hk : keyOf cfg l₁ = .ok k) : keyOf cfg l₂ = .ok k := by
  simp only [keyOf, Res.bind_eq_ok, mapRes_eq_ok, Res.pure_eq, Res.ok.injEq] at hk ⊢
  obtain ⟨raws, hr, rfl⟩ := hk
  obtain ⟨raws', hr', p⟩ := hr.perm h
  exact ⟨raws', hr', key_perm_invariant_list p.symm⟩

/-! ### at most one entry per key / per unordered asset set, in every reachable state -/

/-- in every reachable state the keys of every registry are strictly increasing, hence distinct -/
theorem at_most_one (cfg : Cfg) (ops : List Op) :
    let s := reach cfg St.init ops
    (s.pairs.reg.map Prod.fst).Nodup ∧ (s.trios.reg.map Prod.fst).Nodup ∧
    (s.vaults.reg.map Prod.fst).Nodup ∧ (s.incs.reg.map Prod.fst).Nodup ∧
    (s.routes.map Prod.fst).Nodup := by
  have hi := Inv.reachable cfg ops
  exact ⟨hi.pairs.sorted.nodup, hi.trios.sorted.nodup, hi.vaults.sorted.nodup, hi.incs.sorted.nodup,
    hi.routes.nodup⟩

/-- two listed pairs (trios) whose asset lists are permutations of one another are one and the same
    entry: at most one pair per unordered pair of assets, one trio per unordered triple -/
theorem at_most_one_per_asset_set (cfg : Cfg) (ops : List Op) :
    let s := reach cfg St.init ops
    (∀ k₁ e₁ k₂ e₂, (k₁, e₁) ∈ s.pairs.reg → (k₂, e₂) ∈ s.pairs.reg → e₁.assets.Perm e₂.assets →
        k₁ = k₂ ∧ e₁ = e₂) ∧
    (∀ k₁ e₁ k₂ e₂, (k₁, e₁) ∈ s.trios.reg → (k₂, e₂) ∈ s.trios.reg → e₁.assets.Perm e₂.assets →
        k₁ = k₂ ∧ e₁ = e₂) := by
  have hi := Inv.reachable cfg ops
  have key : ∀ (r : PoolReg), PoolInv cfg r → ∀ k₁ e₁ k₂ e₂, (k₁, e₁) ∈ r.reg → (k₂, e₂) ∈ r.reg →
      e₁.assets.Perm e₂.assets → k₁ = k₂ ∧ e₁ = e₂ := by
    intro r hr k₁ e₁ k₂ e₂ h₁ h₂ hp
    cases Res.ok.inj ((keyOf_perm_invariant cfg hp (hr.keyOk k₁ e₁ h₁)).symm.trans (hr.keyOk k₂ e₂ h₂))
    exact ⟨rfl, hr.sorted.eq_of_mem h₁ h₂⟩
  exact ⟨key _ hi.pairs, key _ hi.trios⟩

/-- at most one vault per asset and one incentive contract per LP asset -/
theorem at_most_one_vault_incentive (cfg : Cfg) (ops : List Op) :
    let s := reach cfg St.init ops
    (∀ k₁ e₁ k₂ e₂, (k₁, e₁) ∈ s.vaults.reg → (k₂, e₂) ∈ s.vaults.reg → e₁.asset = e₂.asset →
        k₁ = k₂ ∧ e₁ = e₂) ∧
    (∀ k₁ c₁ k₂ c₂ i, (k₁, c₁) ∈ s.incs.reg → (k₂, c₂) ∈ s.incs.reg →
        s.incs.kids[c₁]? = some i → s.incs.kids[c₂]? = some i → k₁ = k₂ ∧ c₁ = c₂) := by
  have hi := Inv.reachable cfg ops
  constructor
  · intro k₁ e₁ k₂ e₂ h₁ h₂ ha
    obtain ⟨a₁, ha₁, rfl⟩ := hi.vaults.keyOk k₁ e₁ h₁
    obtain ⟨a₂, ha₂, rfl⟩ := hi.vaults.keyOk k₂ e₂ h₂
    cases Res.ok.inj (ha₁.symm.trans (ha ▸ ha₂))
    exact ⟨rfl, hi.vaults.sorted.eq_of_mem h₁ h₂⟩
  · intro k₁ c₁ k₂ c₂ i h₁ h₂ g₁ g₂
    obtain ⟨i₁, a₁, hi₁, ha₁, rfl⟩ := hi.incs.child k₁ c₁ h₁
    obtain ⟨i₂, a₂, hi₂, ha₂, rfl⟩ := hi.incs.child k₂ c₂ h₂
    cases Option.some.inj (g₁.symm.trans hi₁)
    cases Option.some.inj (g₂.symm.trans hi₂)
    cases Res.ok.inj (ha₁.symm.trans ha₂)
    exact ⟨rfl, hi.incs.sorted.eq_of_mem h₁ h₂⟩

/-- a duplicate in any order is refused: if some listed pair (trio) has a permutation of `idx` as its
    assets, `create` fails — whatever the other parameters -/
theorem duplicate_refused (cfg : Cfg) (ops : List Op) (idx : List Nat) (pt : Option Nat) (inst : Bool)
    (d : Nat → Res Nat) :
    let s := reach cfg St.init ops
    (∀ k e, (k, e) ∈ s.pairs.reg → e.assets.Perm idx → ∀ r', s.pairs.create cfg d idx pt inst ≠ .ok r') ∧
    (∀ k e, (k, e) ∈ s.trios.reg → e.assets.Perm idx → ∀ r', s.trios.create cfg d idx pt inst ≠ .ok r') := by
  have hi := Inv.reachable cfg ops
  exact ⟨fun k e he hp r' =>
      PoolReg.create_ne_ok_of_mem hi.pairs.sorted (keyOf_perm_invariant cfg hp (hi.pairs.keyOk k e he)) he,
    fun k e he hp r' => PoolReg.create_ne_ok_of_mem hi.trios.sorted (keyOf_perm_invariant cfg hp (hi.trios.keyOk k e he)) he⟩

/-- The hypothesis under which *distinct* asset sets never block one another: keys are concatenated
    without a separator, so this is a genuine assumption on the universe (see `key_collision`). -/
def KeysInjective (cfg : Cfg) : Prop :=
  ∀ l₁ l₂ k, keyOf cfg l₁ = .ok k → keyOf cfg l₂ = .ok k → l₁.Perm l₂

/-- under `KeysInjective`, the entry found under the key of `idx` really is the entry of that asset set -/
theorem found_entry_is_for_the_set (cfg : Cfg) (hinj : KeysInjective cfg) (ops : List Op)
    (idx : List Nat) (e : PoolEntry) :
    let s := reach cfg St.init ops
    (s.pairs.lookup cfg idx = .ok e → e.assets.Perm idx) ∧
    (s.trios.lookup cfg idx = .ok e → e.assets.Perm idx) := by
  have hi := Inv.reachable cfg ops
  have key : ∀ (r : PoolReg), PoolInv cfg r → r.lookup cfg idx = .ok e → e.assets.Perm idx := by
    intro r hr hl
    obtain ⟨k, hk, hlook⟩ := PoolReg.lookup_eq_ok.1 hl
    exact hinj _ _ k (hr.keyOk k e (regLookup_some_mem hlook)) hk
  exact ⟨key _ hi.pairs, key _ hi.trios⟩

/-- the recorded observation: without a separator two different asset sets can share a key -/
theorem key_collision : pairKey [97, 97, 97] [97, 97, 97, 98] = pairKey [97, 97, 97, 97] [97, 97, 98] := by
  decide

/-! ### every entry equals what the child contract itself reports -/

/-- pair / trio entries: assets, decimals, pool type and LP token are the child's; vault entries: the
    asset is the one the vault's config reports; incentive entries: the key is the raw LP asset the
    incentive contract reports -/
theorem entry_eq_child_report (cfg : Cfg) (ops : List Op) :
    let s := reach cfg St.init ops
    (∀ k e, (k, e) ∈ s.pairs.reg → ∃ c, s.pairs.kids[e.child]? = some c ∧ c.assets = e.assets ∧
        c.decs = e.decs ∧ c.ptype = e.ptype ∧ c.lp = e.lp) ∧
    (∀ k e, (k, e) ∈ s.trios.reg → ∃ c, s.trios.kids[e.child]? = some c ∧ c.assets = e.assets ∧
        c.decs = e.decs ∧ c.ptype = e.ptype ∧ c.lp = e.lp) ∧
    (∀ k e, (k, e) ∈ s.vaults.reg → s.vaults.kids[e.child]? = some e.asset) ∧
    (∀ k c, (k, c) ∈ s.incs.reg → ∃ i a, s.incs.kids[c]? = some i ∧ assetOf cfg i = .ok a ∧ a.raw = k) := by
  have hi := Inv.reachable cfg ops
  exact ⟨hi.pairs.child, hi.trios.child, hi.vaults.child, hi.incs.child⟩

/-- the key an entry is stored under is the key of its own assets (so a lookup by the entry's assets,
    in any order, finds this entry) -/
theorem entry_found_by_its_assets (cfg : Cfg) (ops : List Op) :
    let s := reach cfg St.init ops
    ∀ k e idx, (k, e) ∈ s.pairs.reg → e.assets.Perm idx → s.pairs.lookup cfg idx = .ok e := by
  intro s k e idx he hp
  have hi := Inv.reachable cfg ops
  exact PoolReg.lookup_eq_ok.2 ⟨k, keyOf_perm_invariant cfg hp (hi.pairs.keyOk k e he), regLookup_of_mem hi.pairs.sorted he⟩

/-! ### a removed entry disappears and can be created again -/

/-- after a successful `remove_pair` / `remove_trio`, the set is not found under any order of its
    assets, and a new `create` (any order) succeeds exactly when the requirements that do not concern
    the registry hold (`CreatePre`: distinct assets, decimals known, pool-type and LP-name checks) -/
theorem remove_then_create (cfg : Cfg) (r r' : PoolReg) (idx idx' : List Nat) (hp : idx.Perm idx')
    (h : r.remove cfg idx = .ok r') (d : Nat → Res Nat) (pt : Option Nat) (inst : Bool) :
    r'.lookup cfg idx' = .err ∧
    ((∃ r'', r'.create cfg d idx' pt inst = .ok r'') ↔ CreatePre cfg d idx' inst) := by
  obtain ⟨key, e, hkey, -, rfl⟩ := PoolReg.remove_eq_ok.1 h
  have hkey' := keyOf_perm_invariant cfg hp hkey
  constructor
  · rw [PoolReg.lookup, hkey']
    show (match regLookup key (regErase key r.reg) with | none => Res.err | some e => pure e) = Res.err
    rw [regLookup_regErase_self]
  · rw [PoolReg.create_isOk_iff]
    exact ⟨fun h => h.1, fun h => ⟨h, key, hkey', regLookup_regErase_self key r.reg⟩⟩

/-- the same for vaults: after `remove_vault` the vault of that asset is gone and `create_vault`
    succeeds again (given the LP symbol derived from the label is a valid cw20 symbol and the asset is
    named by an address a contract answers at, as it was the first time) -/
theorem remove_then_create_vault (cfg : Cfg) (r r' : VaultReg) (i : Nat) (a : AssetDef)
    (ha : assetOf cfg i = .ok a) (h : r.remove cfg i = .ok r')
    (hsym : symbolOk (vaultLpSymbol a.label) = true) (hlive : a.dead = false) :
    regLookup a.ref r'.reg = none ∧ ∃ r'', r'.create cfg i = .ok r'' := by
  obtain ⟨a', e, ha', -, rfl⟩ := VaultReg.remove_eq_ok.1 h
  cases Res.ok.inj (ha.symm.trans ha')
  exact ⟨regLookup_regErase_self _ _,
    _, VaultReg.create_eq_ok.2 ⟨a, ha, regLookup_regErase_self _ _, hlive, hsym, rfl⟩⟩

/-- on the level of whole transactions: remove, then create in the other order, on any reachable
    state — the second pair is registered again -/
theorem remove_then_create_step (cfg : Cfg) (s s₁ : St) (a b : Nat) (pt : Option Nat) (o : List Nat)
    (h : step cfg s (.removePair a b) = .ok (s₁, o)) :
    (∃ s₂ o₂, step cfg s₁ (.createPair b a pt) = .ok (s₂, o₂)) ↔
      CreatePre cfg (decsOf cfg s₁) [b, a] (pairInstOk pt) := by
  obtain ⟨p, hp, h⟩ := Res.bind_eq_ok.1 h
  cases h
  refine Iff.trans ⟨fun ⟨_, _, h'⟩ => ?_, fun ⟨p', hp'⟩ => ⟨_, _, Res.bind_eq_ok.2 ⟨p', hp', rfl⟩⟩⟩
    (remove_then_create cfg s.pairs p [a, b] [b, a] (List.Perm.swap b a []) hp
      (decsOf cfg { s with pairs := p }) pt (pairInstOk pt)).2
  obtain ⟨p', hp', -⟩ := Res.bind_eq_ok.1 h'
  exact ⟨p', hp'⟩

/-! ### pagination returns every entry exactly once -/

/-- Iterating pages (next cursor = last entry of the page, until an empty page) with any effective
    limit ≥ 1 over a registry with strictly increasing keys returns the registry itself — every entry
    exactly once, in key order — under the hypothesis `NoGap` on the keys that the cursor construction
    (`key ++ [1]`, exclusive) needs; no page is longer than the limit. -/
theorem pagination_exactly_once {ε : Type} (r : List (Bytes × ε)) (hs : SSorted r)
    (hg : NoGap (r.map Prod.fst)) (lim : Nat) (hl : 1 ≤ lim) :
    (pagesFrom (r.length + 1) r none lim).flatten = r ∧
    ∀ pg ∈ pagesFrom (r.length + 1) r none lim, pg.length ≤ lim :=
  ⟨pagesFrom_flatten_aux r hs hg hl (r.length + 1) [] r none rfl rfl (Nat.lt_succ_self _),
    pagesFrom_page_length r lim _ none⟩

/-- … instantiated for the four registries of every reachable state and every `limit` argument other
    than `Some(0)` (`None` → default 10; values above 30 are capped) -/
theorem pagination_exactly_once_reachable (cfg : Cfg) (ops : List Op) (limit : Option Nat)
    (hl : limit ≠ some 0) :
    let s := reach cfg St.init ops
    let lp := pageLimit Gen.POOL_FACTORY_DEFAULT_LIMIT Gen.POOL_FACTORY_MAX_LIMIT limit
    let lv := pageLimit Gen.VAULT_FACTORY_DEFAULT_LIMIT Gen.VAULT_FACTORY_MAX_LIMIT limit
    let li := pageLimit Gen.INCENTIVE_FACTORY_DEFAULT_LIMIT Gen.INCENTIVE_FACTORY_MAX_LIMIT limit
    (NoGap (s.pairs.reg.map Prod.fst) → (pagesFrom (s.pairs.reg.length + 1) s.pairs.reg none lp).flatten = s.pairs.reg) ∧
    (NoGap (s.trios.reg.map Prod.fst) → (pagesFrom (s.trios.reg.length + 1) s.trios.reg none lp).flatten = s.trios.reg) ∧
    (NoGap (s.vaults.reg.map Prod.fst) → (pagesFrom (s.vaults.reg.length + 1) s.vaults.reg none lv).flatten = s.vaults.reg) ∧
    (NoGap (s.incs.reg.map Prod.fst) → (pagesFrom (s.incs.reg.length + 1) s.incs.reg none li).flatten = s.incs.reg) := by
  intro s lp lv li
  have hi := Inv.reachable cfg ops
  -- `by decide`: the values of the generated `*_DEFAULT_LIMIT` / `*_MAX_LIMIT` constants enter here
  have hlp : 0 < lp := pageLimit_pos (by decide) (by decide) hl
  have hlv : 0 < lv := pageLimit_pos (by decide) (by decide) hl
  have hli : 0 < li := pageLimit_pos (by decide) (by decide) hl
  exact ⟨fun hg => (pagination_exactly_once _ hi.pairs.sorted hg lp hlp).1,
    fun hg => (pagination_exactly_once _ hi.trios.sorted hg lp hlp).1,
    fun hg => (pagination_exactly_once _ hi.vaults.sorted hg lv hlv).1,
    fun hg => (pagination_exactly_once _ hi.incs.sorted hg li hli).1⟩

/-- the hypothesis holds whenever all keys have one length (fixed-length canonical addresses) -/
theorem noGap_fixed_length {ks : List Bytes} {n : Nat} (h : ∀ k ∈ ks, k.length = n) : NoGap ks :=
  fun k hk k' hk' hlt => lt_append_of_lt_same_length [1] ((h k hk).trans (h k' hk').symm) hlt

/-- and it is needed: with keys `k` and `k ++ [0]` the second entry is never returned after the first -/
theorem gap_loses_an_entry :
    (pagesFrom 3 [([7], 0), ([7, 0], 1)] none 1).flatten = [([7], 0)] := by decide

/-! ### the router stores and executes through registered pairs only -/

/-- `add_swap_routes`: if the message is accepted, every hop of every route in it is a pair the
    factory has registered (the factory's `Pair` query answered), the factories are untouched, and every
    entry of the new route table is either an old entry or has registered hops only -/
theorem routes_registered_only (cfg : Cfg) (s s' : St) (rs : List Route) (o : List Nat)
    (h : step cfg s (.addRoutes rs) = .ok (s', o)) :
    s'.pairs = s.pairs ∧
    (∀ rt ∈ rs, ∀ hp ∈ rt.hops, HopReg cfg s.pairs hp) ∧
    (∀ e ∈ s'.routes, e ∈ s.routes ∨ ∀ hp ∈ e.2.hops, HopReg cfg s.pairs hp) := by
  obtain ⟨s1, hs1, h⟩ := Res.bind_eq_ok.1 h
  cases h
  obtain ⟨routes, rfl, -, hall, hent⟩ := addRoutes_ok hs1
  exact ⟨rfl, hall, hent⟩

/-- contrapositive: a route with a hop whose pair is not registered is rejected, and nothing is stored -/
theorem unregistered_hop_rejected (cfg : Cfg) (s : St) (rs : List Route) (rt : Route) (hp : Nat × Nat)
    (hrt : rt ∈ rs) (hhp : hp ∈ rt.hops) (hn : ¬ HopReg cfg s.pairs hp) :
    apply cfg s (.addRoutes rs) = s :=
  apply_eq_of_not_ok fun x h => hn ((routes_registered_only cfg s x.1 rs x.2 h).2.1 rt hrt hp hhp)

/-- a hop executes only through the child of the entry the factory has registered for that hop's
    assets; the swap leaves every registry as it was -/
theorem hop_through_registered_only (cfg : Cfg) (s s' : St) (hops : List (Nat × Nat)) (out : List Nat)
    (h : step cfg s (.swap hops) = .ok (s', out)) :
    s' = s ∧ Forall2 (fun hp c => ∃ k e, (k, e) ∈ s.pairs.reg ∧ keyOf cfg [hp.1, hp.2] = .ok k ∧ e.child = c)
      hops out := by
  obtain ⟨o, ho, h⟩ := Res.bind_eq_ok.1 h
  cases h
  refine ⟨rfl, (swapExec_ok ho).imp ?_⟩
  rintro hp c ⟨e, he, hc⟩
  obtain ⟨k, hk, hl⟩ := PoolReg.lookup_eq_ok.1 he
  exact ⟨k, e, regLookup_some_mem hl, hk, hc⟩

/-- the same when the hops come from a stored route: it executes only if every hop's pair is
    registered *now* — a route whose pair was removed from the factory no longer executes -/
theorem stored_route_through_registered_only (cfg : Cfg) (s s' : St) (oa aa : Nat) (out : List Nat)
    (h : step cfg s (.swapRoute oa aa) = .ok (s', out)) :
    s' = s ∧ ∃ k e, (k, e) ∈ s.routes ∧
      Forall2 (fun hp c => ∃ e', s.pairs.lookup cfg [hp.1, hp.2] = .ok e' ∧ e'.child = c) e.hops out := by
  simp only [step, Res.bind_eq_ok] at h
  obtain ⟨lo, -, la, -, h⟩ := h
  split at h
  · cases h
  · rename_i e he
    obtain ⟨o, ho, h⟩ := Res.bind_eq_ok.1 h
    cases h
    exact ⟨rfl, _, e, regLookup_some_mem he, swapExec_ok ho⟩

/-- a swap whose hop is not registered fails (state unchanged by construction) -/
theorem swap_unregistered_hop_fails (cfg : Cfg) (s : St) (hops : List (Nat × Nat)) (hp : Nat × Nat)
    (hm : hp ∈ hops) (hn : ¬ HopReg cfg s.pairs hp) : ∀ s' out, step cfg s (.swap hops) ≠ .ok (s', out) := by
  intro s' out h
  obtain ⟨o, ho, -⟩ := Res.bind_eq_ok.1 h
  obtain ⟨c, e, he, -⟩ := (swapExec_ok ho).left_mem hp hm
  exact hn ⟨e, he⟩

/-! ### registries of ANY size: a create naming a registered key changes nothing; entries keep their child -/

/-- Whatever the history before (so whatever the number of entries — beyond a default page, beyond a
    maximum page — and wherever the key sits in the listing): a create whose key has an entry is not
    accepted and the state after it IS the state before it — no child instantiated, no entry touched.
    Stated on the key, so it covers every spelling of the arguments that yields the key. -/
theorem duplicate_create_rejected_any_size (cfg : Cfg) (ops : List Op) :
    let s := reach cfg St.init ops
    (∀ a b pt k e, keyOf cfg [a, b] = .ok k → (k, e) ∈ s.pairs.reg →
        (∀ x, step cfg s (.createPair a b pt) ≠ .ok x) ∧ apply cfg s (.createPair a b pt) = s) ∧
    (∀ a b c amp k e, keyOf cfg [a, b, c] = .ok k → (k, e) ∈ s.trios.reg →
        (∀ x, step cfg s (.createTrio a b c amp) ≠ .ok x) ∧ apply cfg s (.createTrio a b c amp) = s) ∧
    (∀ i a e, assetOf cfg i = .ok a → (a.ref, e) ∈ s.vaults.reg →
        (∀ x, step cfg s (.createVault i) ≠ .ok x) ∧ apply cfg s (.createVault i) = s) ∧
    (∀ i a c, assetOf cfg i = .ok a → (a.raw, c) ∈ s.incs.reg →
        (∀ x, step cfg s (.createInc i) ≠ .ok x) ∧ apply cfg s (.createInc i) = s) := by
  have hi := Inv.reachable cfg ops
  refine ⟨fun a b pt k e hk he => ?_, fun a b c amp k e hk he => ?_, fun i a e ha he => ?_,
    fun i a c ha he => ?_⟩
  -- a transaction that cannot succeed changes nothing; these cannot, because the registry's `create` fails
  all_goals refine (fun hno => ⟨hno, apply_eq_of_not_ok hno⟩) fun x h => ?_
  all_goals obtain ⟨p, hp, -⟩ := Res.bind_eq_ok.1 h
  · exact PoolReg.create_ne_ok_of_mem hi.pairs.sorted hk he hp
  · exact PoolReg.create_ne_ok_of_mem hi.trios.sorted hk he hp
  · obtain ⟨a', ha', hnone, -⟩ := VaultReg.create_eq_ok.1 hp
    cases Res.ok.inj (ha.symm.trans ha')
    exact nomatch hnone.symm.trans (regLookup_of_mem hi.vaults.sorted he)
  · obtain ⟨a', ha', hnone, -⟩ := IncReg.create_eq_ok.1 hp
    cases Res.ok.inj (ha.symm.trans ha')
    exact nomatch hnone.symm.trans (regLookup_of_mem hi.incs.sorted he)

/-- the same in terms of what the registry lists: naming the assets of a listed pair / trio in ANY order,
    the asset of a listed vault, or the LP asset a listed incentive contract reports, changes nothing -/
theorem duplicate_create_rejected_any_spelling (cfg : Cfg) (ops : List Op) :
    let s := reach cfg St.init ops
    (∀ a b pt k e, (k, e) ∈ s.pairs.reg → e.assets.Perm [a, b] → apply cfg s (.createPair a b pt) = s) ∧
    (∀ a b c amp k e, (k, e) ∈ s.trios.reg → e.assets.Perm [a, b, c] →
        apply cfg s (.createTrio a b c amp) = s) ∧
    (∀ k e, (k, e) ∈ s.vaults.reg → apply cfg s (.createVault e.asset) = s) ∧
    (∀ k c i, (k, c) ∈ s.incs.reg → s.incs.kids[c]? = some i → apply cfg s (.createInc i) = s) := by
  have hi := Inv.reachable cfg ops
  obtain ⟨h1, h2, h3, h4⟩ := duplicate_create_rejected_any_size cfg ops
  refine ⟨fun a b pt k e he hp => (h1 a b pt k e (keyOf_perm_invariant cfg hp (hi.pairs.keyOk k e he)) he).2,
    fun a b c amp k e he hp => (h2 a b c amp k e (keyOf_perm_invariant cfg hp (hi.trios.keyOk k e he)) he).2,
    fun k e he => ?_, fun k c i he hc => ?_⟩
  · obtain ⟨a, ha, rfl⟩ := hi.vaults.keyOk k e he
    exact (h3 e.asset a e ha he).2
  · obtain ⟨j, a, hj, ha, rfl⟩ := hi.incs.child k c he
    cases Option.some.inj (hc.symm.trans hj)
    exact (h4 i a c ha he).2

/-- One transaction, any reachable state, any operation, accepted or not: each registry is unchanged, or
    gained ONE entry under a key that had none, pointing to the ONE newly instantiated child, or lost an
    entry (`RegChange`). Consequences spelled out: an entry listed before is afterwards listed with the very
    same value — the same child — or not at all; incentive entries (there is no removal) stay for good;
    and the number of child contracts grows by one exactly when a fresh key gets its entry. -/
theorem entry_child_never_changes (cfg : Cfg) (ops : List Op) (op : Op) :
    let s := reach cfg St.init ops
    let s' := apply cfg s op
    (∀ k e, (k, e) ∈ s.pairs.reg → regLookup k s'.pairs.reg = some e ∨ regLookup k s'.pairs.reg = none) ∧
    (∀ k e, (k, e) ∈ s.trios.reg → regLookup k s'.trios.reg = some e ∨ regLookup k s'.trios.reg = none) ∧
    (∀ k e, (k, e) ∈ s.vaults.reg → regLookup k s'.vaults.reg = some e ∨ regLookup k s'.vaults.reg = none) ∧
    (∀ k c, (k, c) ∈ s.incs.reg → regLookup k s'.incs.reg = some c) := by
  intro s s'
  have hi := Inv.reachable cfg ops
  obtain ⟨c1, c2, c3, c4, -⟩ := apply_tx cfg s op
  exact ⟨fun k e he => c1.2.lookup_stable (regLookup_of_mem hi.pairs.sorted he),
    fun k e he => c2.2.lookup_stable (regLookup_of_mem hi.trios.sorted he),
    fun k e he => c3.2.lookup_stable (regLookup_of_mem hi.vaults.sorted he),
    fun k c he => c4.2.lookup_kept (regLookup_of_mem hi.incs.sorted he)⟩

/-- an incentive entry, once listed, is listed with the same child after every further history -/
theorem incentive_entry_kept_over_history (cfg : Cfg) (ops more : List Op) :
    let s := reach cfg St.init ops
    ∀ k c, (k, c) ∈ s.incs.reg → regLookup k (reach cfg s more).incs.reg = some c := by
  intro s k c he
  exact reach_induction (P := fun t => regLookup k t.incs.reg = some c)
    (fun t op hl => (apply_tx cfg t op).2.2.2.1.2.lookup_kept hl) more
    (regLookup_of_mem (Inv.reachable cfg ops).incs.sorted he)

/-- A child contract is instantiated only for a key that has no entry, and becomes that key's child: after
    any transaction the number of pair (trio / vault / incentive) contracts is what it was, or one more —
    and then some key without an entry before has an entry now whose child is the new contract. -/
theorem new_child_only_for_fresh_key (cfg : Cfg) (s : St) (op : Op) :
    let s' := apply cfg s op
    (s'.pairs.kids.length = s.pairs.kids.length ∨ (s'.pairs.kids.length = s.pairs.kids.length + 1 ∧
        ∃ k e, regLookup k s.pairs.reg = none ∧ regLookup k s'.pairs.reg = some e ∧
          e.child = s.pairs.kids.length)) ∧
    (s'.trios.kids.length = s.trios.kids.length ∨ (s'.trios.kids.length = s.trios.kids.length + 1 ∧
        ∃ k e, regLookup k s.trios.reg = none ∧ regLookup k s'.trios.reg = some e ∧
          e.child = s.trios.kids.length)) ∧
    (s'.vaults.kids.length = s.vaults.kids.length ∨ (s'.vaults.kids.length = s.vaults.kids.length + 1 ∧
        ∃ k e, regLookup k s.vaults.reg = none ∧ regLookup k s'.vaults.reg = some e ∧
          e.child = s.vaults.kids.length)) ∧
    (s'.incs.kids.length = s.incs.kids.length ∨ (s'.incs.kids.length = s.incs.kids.length + 1 ∧
        ∃ k c, regLookup k s.incs.reg = none ∧ regLookup k s'.incs.reg = some c ∧
          c = s.incs.kids.length)) := by
  intro s'
  obtain ⟨c1, c2, c3, c4, -⟩ := apply_tx cfg s op
  exact ⟨c1.2.children, c2.2.children, c3.2.children, c4.2.children⟩

/-- in every reachable state two entries of a registry never point to the same child, and every entry's
    child exists -/
theorem distinct_entries_distinct_children (cfg : Cfg) (ops : List Op) :
    let s := reach cfg St.init ops
    (∀ k₁ e₁ k₂ e₂, (k₁, e₁) ∈ s.pairs.reg → (k₂, e₂) ∈ s.pairs.reg → e₁.child = e₂.child → k₁ = k₂) ∧
    (∀ k₁ e₁ k₂ e₂, (k₁, e₁) ∈ s.trios.reg → (k₂, e₂) ∈ s.trios.reg → e₁.child = e₂.child → k₁ = k₂) ∧
    (∀ k₁ e₁ k₂ e₂, (k₁, e₁) ∈ s.vaults.reg → (k₂, e₂) ∈ s.vaults.reg → e₁.child = e₂.child → k₁ = k₂) ∧
    (∀ k₁ c₁ k₂ c₂, (k₁, c₁) ∈ s.incs.reg → (k₂, c₂) ∈ s.incs.reg → c₁ = c₂ → k₁ = k₂) := by
  intro s
  obtain ⟨h1, h2, h3, h4⟩ := (ChildrenOk.init).reach (cfg := cfg) ops
  exact ⟨h1.2, h2.2, h3.2, h4.2⟩

/-- removal removes exactly the entry: after a successful `remove_pair` / `remove_trio` / `remove_vault`
    the named key has no entry, every other key has the entry it had, and no child contract was
    instantiated or lost -/
theorem remove_removes_exactly_the_entry (cfg : Cfg) (s s' : St) (o : List Nat) :
    (∀ a b k, step cfg s (.removePair a b) = .ok (s', o) → keyOf cfg [a, b] = .ok k →
        regLookup k s'.pairs.reg = none ∧ (∀ k', k' ≠ k → regLookup k' s'.pairs.reg = regLookup k' s.pairs.reg) ∧
        s'.pairs.kids = s.pairs.kids ∧ s'.trios = s.trios ∧ s'.vaults = s.vaults ∧ s'.incs = s.incs) ∧
    (∀ a b c k, step cfg s (.removeTrio a b c) = .ok (s', o) → keyOf cfg [a, b, c] = .ok k →
        regLookup k s'.trios.reg = none ∧ (∀ k', k' ≠ k → regLookup k' s'.trios.reg = regLookup k' s.trios.reg) ∧
        s'.trios.kids = s.trios.kids ∧ s'.pairs = s.pairs ∧ s'.vaults = s.vaults ∧ s'.incs = s.incs) ∧
    (∀ i a, step cfg s (.removeVault i) = .ok (s', o) → assetOf cfg i = .ok a →
        regLookup a.ref s'.vaults.reg = none ∧
        (∀ k', k' ≠ a.ref → regLookup k' s'.vaults.reg = regLookup k' s.vaults.reg) ∧
        s'.vaults.kids = s.vaults.kids ∧ s'.pairs = s.pairs ∧ s'.trios = s.trios ∧ s'.incs = s.incs) := by
  have erased : ∀ {ε : Type} (k : Bytes) (r : List (Bytes × ε)), regLookup k (regErase k r) = none ∧
      ∀ k', k' ≠ k → regLookup k' (regErase k r) = regLookup k' r :=
    fun k r => ⟨regLookup_regErase_self k r, fun k' hne => (regLookup_regErase ..).trans (if_neg (Ne.symm hne))⟩
  refine ⟨fun a b k h hk => ?_, fun a b c k h hk => ?_, fun i a h ha => ?_⟩
  all_goals obtain ⟨p, hp, h⟩ := Res.bind_eq_ok.1 h
  all_goals cases h
  · obtain ⟨key, -, hkey, -, rfl⟩ := PoolReg.remove_eq_ok.1 hp
    cases Res.ok.inj (hk.symm.trans hkey)
    exact ⟨(erased _ _).1, (erased _ _).2, rfl, rfl, rfl, rfl⟩
  · obtain ⟨key, -, hkey, -, rfl⟩ := PoolReg.remove_eq_ok.1 hp
    cases Res.ok.inj (hk.symm.trans hkey)
    exact ⟨(erased _ _).1, (erased _ _).2, rfl, rfl, rfl, rfl⟩
  · obtain ⟨a', -, ha', -, rfl⟩ := VaultReg.remove_eq_ok.1 hp
    cases Res.ok.inj (ha.symm.trans ha')
    exact ⟨(erased _ _).1, (erased _ _).2, rfl, rfl, rfl, rfl⟩

/-! ### non-vacuity: a concrete universe and history -/

/-- two native denoms and one cw20 (its canonical address abbreviated) -/
def exCfg : Cfg :=
  { assets := [ { native := true, raw := [117, 97], ref := [117, 97], label := [117, 97, 97], dec := 0 },
                { native := true, raw := [117, 98], ref := [117, 98], label := [117, 98, 98], dec := 0 },
                { native := false, raw := [0, 99, 0], ref := [99, 49], label := [116, 107, 97], dec := 8 } ] }

def exOps : List Op :=
  [ .addDec 0 6, .addDec 1 6, .createPair 1 0 none, .createPair 0 1 none, .createPair 2 0 (some 100),
    .createTrio 2 0 1 100, .createTrio 0 1 2 100, .createVault 2, .createVault 2, .createInc 2, .fund 0 1,
    .addRoutes [{ offer := 1, ask := 2, hops := [(1, 0), (0, 2)] }], .removePair 0 2,
    .addRoutes [{ offer := 0, ask := 2, hops := [(0, 2)] }] ]

/-- the history above: the duplicates (other order) were refused, entries carry the creation order and
    the child's data, the route stored while `{0,2}` was registered stays, the later one is refused -/
example :
    let s := reach exCfg St.init exOps
    s.pairs.reg.map (fun e => (e.2.assets, e.2.child, e.2.decs, e.2.ptype)) = [([1, 0], 0, [6, 6], none)] ∧
    s.trios.reg.map (fun e => (e.2.assets, e.2.child)) = [([2, 0, 1], 0)] ∧
    s.vaults.reg.map (fun e => (e.2.asset, e.2.child)) = [(2, 0)] ∧
    s.incs.reg.map Prod.snd = [0] ∧
    s.routes.map (fun e => e.2.hops) = [[(1, 0), (0, 2)]] ∧
    step exCfg s (.swap [(1, 0)]) = .ok (s, [0]) ∧
    step exCfg s (.swapRoute 1 2) = .err ∧
    NoGap (s.pairs.reg.map Prod.fst) := by
  decide +kernel

/-- a universe of twelve natives `[100]`, …, `[111]` -/
def exMany : Cfg :=
  { assets := (List.range 12).map fun i =>
      { native := true, raw := [100 + i], ref := [100 + i], label := [117, 97, 97 + i], dec := 0 } }

/-- twelve incentives, created in an order unrelated to the keys' order: more than a default page lists.
    The key created last sorts last and is NOT on the default page, yet creating it again (and creating the
    first one again) is refused and changes nothing; the number of children stays twelve. -/
example :
    let s := reach exMany St.init ([5, 11, 0, 7, 3, 9, 1, 10, 2, 8, 4, 6].map Op.createInc)
    s.incs.reg.length = 12 ∧ s.incs.kids.length = 12 ∧
    incsPage exMany s none none = .ok (s.incs.reg.take Gen.INCENTIVE_FACTORY_DEFAULT_LIMIT) ∧
    (s.incs.reg.take Gen.INCENTIVE_FACTORY_DEFAULT_LIMIT).length < s.incs.reg.length ∧
    regLookup [111] s.incs.reg = some 1 ∧
    step exMany s (.createInc 11) = .err ∧ step exMany s (.createInc 0) = .err ∧
    apply exMany s (.createInc 11) = s := by
  decide +kernel

end WW.C19
