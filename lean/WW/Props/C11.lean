/-
  C11 — Incentive contract: staked LP is held one-for-one and returned to its owner.
  The property theorems, with the few sums they are stated with; helpers in WW/Proofs (see the imports). The model
  `WW.Inc.step` is the replica of the incentive contract + frontend helper path (engine `incentive`), following
  the repaired code (expand_flow dispatches its TransferFrom; flow reset keeps the original amount);
  `WW.Inc.stepTx` (`WW/Model/HelperReentry.lean`) adds the transactions in which the hostile cw20 asset of the
  helper's pair sends a message of its own from inside a transfer (last section of this file).
-/
import WW.Proofs.PosKeys
import WW.Proofs.AssetKinds
import WW.Proofs.FlowExact
import WW.Proofs.HelperReentry
namespace WW.C11
open WW WW.Gen WW.Inc

/-- sum of the open and closed position amounts of the listed addresses -/
def positionsOf (s : St) (us : List Addr) : Nat :=
  (us.map (fun u => openSum (openOf s u) + closedSum (closedOf s u))).sum

/-- unclaimed funds of the flows denominated in asset `a` -/
def flowFunds (s : St) (a : Nat) : Nat :=
  ((s.flows.filter (fun f => f.asset = a)).map (fun f => f.funded - f.claimed)).sum

/-- The custody equation (the statement of the property): the contract's LP balance is exactly everything
    staked (`staked s` = the open and closed positions of ALL addresses, summed over the two storage maps)
    plus the unclaimed funds of the flows denominated in the LP asset, plus `kept` — LP-denom coins that
    were attached to calls that take no LP (zero unless somebody donates; see `strayOf`). -/
def CustodyEq (s : St) (kept : Nat) : Prop :=
  balOf s INC 0 = staked s + flowFunds s 0 + kept

theorem flowFunds_eq (s : St) (a : Nat) : flowFunds s a = ffSum a s.flows := (ffSum_eq a s.flows).symm

/-- the custody invariant of the proofs, read as the custody equation -/
theorem custodyEq_of_CInv {s : St} {ep K : Nat} (h : CInv s ep K) : CustodyEq s K := by
  have hb := h.bal
  unfold owed at hb
  simp only [if_true] at hb
  unfold CustodyEq
  rw [flowFunds_eq]
  omega

/-- **custody_eq**, counted form, over ALL histories: for every sequence of operations applied to a freshly
    instantiated contract — senders other than the contract itself (`SendersOk`), attached coins with
    distinct denoms (`OffersOk`), epochs that never go back (`EpochsFrom`), otherwise arbitrary (any
    receivers, amounts, durations, failed operations, helper deposits, flows in the LP asset with
    expansions, resets, claims and closes) — the contract's LP balance equals
    what it held at instantiation + everything staked + the unclaimed funds of the LP-asset flows
    + `keptLp`, the LP-denom funds attached to successful calls that did not ask for them. `keptLp` adds
    `strayOf` per successful operation, and `strayOf` counts donations only: native LP coins attached to
    `claim` / `withdraw` / `close_position` / `snapshot` / `close_flow`, to an `expand_flow` in another
    asset, or to an `open_flow` whose flow asset and fee asset are both not the LP. An `open_flow` whose
    fee is charged in the LP denom contributes nothing whatever is attached: an over-paid fee is refunded
    for every kind of flow asset (`overpaid_fee_refunded`). -/
theorem custody_eq_counted (c : Cfg) (e0 : Nat) (bal : Bal) (ops : List (Env × Op))
    (hs : SendersOk ops) (ho : OffersOk ops) (he : EpochsFrom e0 ops) :
    CustodyEq (reach c (init e0 bal) ops) (balOf (init e0 bal) INC 0 + keptLp c (init e0 bal) ops) := by
  obtain ⟨ep', h⟩ := reach_custody (c := c) ops (init e0 bal) e0 _ (init_CInv e0 bal) hs ho he
  exact custodyEq_of_CInv h

theorem sum_map_add (us : List Addr) (f g : Addr → Nat) :
    (us.map (fun u => f u + g u)).sum = (us.map f).sum + (us.map g).sum := by
  induction us with
  | nil => rfl
  | cons u t ih => simp only [List.map_cons, List.sum_cons, ih]; omega

/-- `staked` is the sum of the per-address position amounts: over ALL histories, for any duplicate-free
    list `us` of addresses containing every address that has an entry in the position maps (every address
    that ever held a position), `Σ_{u ∈ us} (Σ open(u) + Σ closed(u)) = staked`. So the custody theorems
    read literally "LP balance = Σ open + Σ closed + Σ unclaimed LP-flow funds". -/
theorem staked_eq_positionsOf (c : Cfg) (e0 : Nat) (bal : Bal) (ops : List (Env × Op)) (us : List Addr)
    (hus : us.Nodup)
    (hcov : ∀ u, (u ∈ keysOf (reach c (init e0 bal) ops).openPos
                  ∨ u ∈ keysOf (reach c (init e0 bal) ops).closedPos) → u ∈ us) :
    positionsOf (reach c (init e0 bal) ops) us = staked (reach c (init e0 bal) ops) := by
  have hP := reach_PKeys (c := c) (init_PKeys e0 bal) ops
  unfold positionsOf staked
  rw [sum_map_add]
  have h1 := sum_over_addresses openSum (d := []) rfl _ us hP.openK hus (fun k hk => hcov k (Or.inl hk))
  have h2 := sum_over_addresses closedSum (d := []) rfl _ us hP.closedK hus (fun k hk => hcov k (Or.inr hk))
  unfold openOf closedOf
  rw [h1, h2]

/-- no operation of the history carries LP-denom coins into a handler that takes no LP: no native LP coin is
    attached to `claim`, `withdraw`, `close_position`, `snapshot`, `close_flow`, to an `expand_flow` of a flow
    in another asset, or to an `open_flow` with neither its flow asset nor its fee in the LP. It excludes
    nothing else — in particular not an over-paid `open_flow` fee in the LP denom, for any flow asset
    (`noStrayLp_openFlow_fee`). -/
def NoStrayLp (c : Cfg) (ops : List (Env × Op)) : Prop := ∀ p ∈ ops, strayOf c p.1 p.2 = 0

theorem keptLp_zero {c : Cfg} : ∀ (ops : List (Env × Op)) (s : St), NoStrayLp c ops → keptLp c s ops = 0 := by
  intro ops
  induction ops with
  | nil => intro s _; rfl
  | cons p t ih =>
    intro s h
    unfold keptLp
    rw [ih _ (fun q hq => h q (List.mem_cons_of_mem _ hq)), h p List.mem_cons_self]
    split <;> rfl

/-- an `open_flow` under a fee charged in the LP asset never counts as stray LP, whatever is attached to it
    (over-paid fee included) and whatever the flow asset is -/
theorem noStrayLp_openFlow_fee (c : Cfg) (e : Env) (a amt : Nat) (st en : Option Nat) (hfee : c.feeAsset = 0) :
    strayOf c e (.openFlow a amt st en) = 0 := by
  simp only [strayOf, if_pos hfee]
  split <;> rfl

/-- **custody_eq**, over ALL histories without donated LP coins (`NoStrayLp`: no native LP coin attached to
    a call that takes no LP; over-paid flow fees are NOT excluded), from a contract that starts with no LP:
    LP balance = Σ open positions + Σ closed positions + Σ unclaimed funds of the LP-asset flows, exactly,
    after every operation. -/
theorem custody_eq (c : Cfg) (e0 : Nat) (bal : Bal) (ops : List (Env × Op))
    (hs : SendersOk ops) (ho : OffersOk ops) (he : EpochsFrom e0 ops) (hk : NoStrayLp c ops)
    (h0 : balOf (init e0 bal) INC 0 = 0) :
    CustodyEq (reach c (init e0 bal) ops) 0 := by
  have h := custody_eq_counted c e0 bal ops hs ho he
  rw [keptLp_zero ops _ hk, h0] at h
  exact h

/-- **custody, `≥` half with no assumption on epochs, coins or stray funds**: over ALL histories (senders
    other than the contract itself) the LP balance covers everything staked plus the LP-asset flows. -/
theorem custody_ge (c : Cfg) (e0 : Nat) (bal : Bal) (ops : List (Env × Op)) (hs : SendersOk ops) :
    staked (reach c (init e0 bal) ops) + flowFunds (reach c (init e0 bal) ops) 0
      ≤ balOf (reach c (init e0 bal) ops) INC 0 := by
  have h := (reach_backed (c := c) (init_WInv e0 bal) (init_FInv e0 bal) (init_backed e0 bal) ops hs).2 0
  unfold owed at h
  simp only [if_true] at h
  rw [flowFunds_eq]
  omega

/-- the custody equation as a one-transaction statement from any state satisfying the invariant
    (`CInv s ep K`: weights, flow ids, asset-history keys ≤ `ep + 1`, creators, and the equation with `K`) -/
theorem custody_eq_step {c : Cfg} {s s' : St} {e : Env} {op : Op} {K : Nat} (hI : CInv s e.epoch K)
    (hs : e.sender ≠ INC) (hn : (keysOf e.offers).Nodup) (h : step c s e op = .ok s') :
    balOf s' INC 0 = staked s' + flowFunds s' 0 + (K + strayOf c e op) :=
  custodyEq_of_CInv (step_custody hI hs hn h)

/-- **overpaid_fee_refunded**: under a flow fee charged in a native denom, an accepted `open_flow` — with ANY
    amount of the fee denom attached, for a flow asset of ANY kind (native or cw20) — lowers the sender's
    balance of the fee denom by exactly the fee, plus the flow amount `amt - fee` when the flow is opened in
    the fee denom itself; the collector's balance of it rises by exactly the fee and the contract's by exactly
    that flow amount (by nothing when the flow asset is another one): the contract keeps none of an
    over-payment, every unit beyond fee (+ flow) is back with the sender when the transaction ends.
    Any state, hence after any history. -/
theorem overpaid_fee_refunded {c : Cfg} {s s' : St} {e : Env} {a amt : Nat} {st en : Option Nat}
    (hnf : c.native c.feeAsset = true) (hs : e.sender ≠ INC) (hsc : e.sender ≠ COLLECTOR)
    (hn : (keysOf e.offers).Nodup) (h : step c s e (.openFlow a amt st en) = .ok s') :
    balOf s' e.sender c.feeAsset + c.feeAmt + (if a = c.feeAsset then amt - c.feeAmt else 0)
        = balOf s e.sender c.feeAsset
    ∧ balOf s' INC c.feeAsset = balOf s INC c.feeAsset + (if a = c.feeAsset then amt - c.feeAmt else 0)
    ∧ balOf s' COLLECTOR c.feeAsset = balOf s COLLECTOR c.feeAsset + c.feeAmt :=
  step_openFlow_fee_refund hnf hs hsc hn h

/-- **helper_keeps_nothing**: after a deposit through the frontend helper (any state, any depositor other
    than the helper itself) the helper holds no LP at all — its whole LP balance went into the depositor's
    position — and its balance of every other asset is what it was before (the deposited assets were passed
    on to the pair in full). -/
theorem helper_keeps_nothing {c : Cfg} {s s' : St} {e : Env} {a0 a1 dur : Nat} (hs : e.sender ≠ HELPER)
    (h : step c s e (.helperDeposit a0 a1 dur) = .ok s') :
    balOf s' HELPER 0 = 0 ∧ ∀ a, a ≠ 0 → balOf s' HELPER a = balOf s HELPER a :=
  step_helper_keeps_nothing hs h

/-- … in particular after every successful helper deposit at the end of ANY history -/
theorem helper_keeps_nothing_reach (c : Cfg) (e0 : Nat) (bal : Bal) (ops : List (Env × Op)) (e : Env)
    (a0 a1 dur : Nat) (s' : St) (hs : e.sender ≠ HELPER)
    (h : step c (reach c (init e0 bal) ops) e (.helperDeposit a0 a1 dur) = .ok s') :
    balOf s' HELPER 0 = 0 :=
  (step_helper_keeps_nothing hs h).1

/-- **helper, assets named in the wrong kind**: a helper deposit whose assets are named as the token that
    spells `uwhale` or the denom that spells the cw20's address is refused in every state, whatever is
    attached (the helper's allowance query on a token that does not exist fails; the pair refuses assets that
    are not its own): no position, nothing moves. -/
theorem helper_wrong_kind_refused {c : Cfg} {s s' : St} {e : Env} {x0 x1 a0 a1 dur : Nat} :
    step c s e (.helperDepositAs x0 x1 a0 a1 dur) ≠ .ok s' :=
  fun h => step_helperDepositAs h

/-- **withdraw_exact**: a withdrawal (no funds attached) pays the sender exactly the sum of the sender's
    closed positions, out of the contract's LP balance; afterwards the sender has no closed position;
    nobody else's closed or open positions change and nobody else's LP balance moves. -/
theorem withdraw_exact {c : Cfg} {s s' : St} {e : Env} (hoff : e.offers = []) (hne : e.sender ≠ INC)
    (h : step c s e .withdraw = .ok s') :
    balOf s' e.sender 0 = balOf s e.sender 0 + closedSum (closedOf s e.sender)
    ∧ balOf s' INC 0 + closedSum (closedOf s e.sender) = balOf s INC 0
    ∧ closedOf s' e.sender = []
    ∧ (∀ v, v ≠ e.sender → closedOf s' v = closedOf s v)
    ∧ (∀ v, openOf s' v = openOf s v)
    ∧ (∀ v, v ≠ e.sender → v ≠ INC → balOf s' v 0 = balOf s v 0) :=
  step_withdraw hoff hne h

/-- **position_only_on_receipt** (open): a position is recorded with exactly the stated amount, for
    the receiver (default: the sender), only against exactly that amount of LP — attached as the single
    coin of the call (native LP) or pulled from the *sender* by the `TransferFrom` the handler emits
    (cw20 LP); `step` fails as a whole when that transfer fails. Nobody else's positions change. -/
theorem position_only_on_receipt {c : Cfg} {s s' : St} {e : Env} {amount dur : Nat} {recv : Option Addr}
    {msgs : List Msg} (h : openPosition c s e amount dur recv = .ok (s', msgs)) :
    amount ≠ 0
    ∧ ((c.native 0 = true ∧ fundsOf c e.offers = [(0, amount)] ∧ msgs = [])
        ∨ (c.native 0 = false ∧ msgs = [.pull e.sender INC 0 amount]))
    ∧ openOf s' (recv.getD e.sender) = openOf s (recv.getD e.sender) ++ [{ dur := dur, amt := amount }]
    ∧ (∀ v, v ≠ recv.getD e.sender → openOf s' v = openOf s v) := by
  obtain ⟨w, rfl, hm, -⟩ := openPosition_ok rfl h
  obtain ⟨hne, hv⟩ := validateFunds_spec hm
  refine ⟨hne, ?_, openOf_aset_same s _ _, fun v hv => openOf_aset_other s _ hv⟩
  rcases hv with ⟨x, y, z⟩ | ⟨x, _, z⟩
  · exact Or.inl ⟨x, y, z⟩
  · exact Or.inr ⟨x, z⟩

/-- the LP-funds check shared by `open_position` and `expand_position` (also used by the helper path,
    where the helper is the sender): zero amounts are rejected; native LP must be the only coin attached
    and equal the stated amount; cw20 LP needs an allowance of at least the amount and yields exactly one
    `TransferFrom` of the stated amount from the sender to the contract. -/
theorem lp_funds_validated {c : Cfg} {e : Env} {amount : Nat} {m : List Msg} (h : validateFunds c e amount = .ok m) :
    amount ≠ 0 ∧ ((c.native 0 = true ∧ fundsOf c e.offers = [(0, amount)] ∧ m = [])
      ∨ (c.native 0 = false ∧ amount ≤ aget (allowOf c e.offers) 0 ∧ m = [.pull e.sender INC 0 amount])) :=
  validateFunds_spec h

/-- **withdraw_exact** at the end of ANY history: whatever happened before, a withdrawal pays the sender
    exactly the sum of the sender's closed positions out of the contract's LP balance. -/
theorem withdraw_exact_reach (c : Cfg) (e0 : Nat) (bal : Bal) (ops : List (Env × Op)) (e : Env) (s' : St)
    (hoff : e.offers = []) (hne : e.sender ≠ INC)
    (h : step c (reach c (init e0 bal) ops) e .withdraw = .ok s') :
    balOf s' e.sender 0 = balOf (reach c (init e0 bal) ops) e.sender 0
        + closedSum (closedOf (reach c (init e0 bal) ops) e.sender)
    ∧ balOf s' INC 0 + closedSum (closedOf (reach c (init e0 bal) ops) e.sender)
        = balOf (reach c (init e0 bal) ops) INC 0
    ∧ closedOf s' e.sender = [] :=
  let r := step_withdraw hoff hne h
  ⟨r.1, r.2.1, r.2.2.1⟩

/-- **position_only_on_receipt** as a whole transaction in ANY state (hence at the end of any history): an
    accepted `open_position` / `expand_position` raises the staked total by exactly the stated amount and
    the contract's LP balance by exactly the same amount (attached or pulled from the sender; nothing
    leaves the contract); no other handler raises the staked total (`close_position` moves a position
    from open to closed unchanged, `withdraw` lowers it by what it pays). -/
theorem position_only_on_receipt_step {c : Cfg} {s s' : St} {e : Env} {amount dur : Nat} {recv : Option Addr}
    (hs : e.sender ≠ INC) (h : step c s e (.openPos amount dur recv) = .ok s') :
    staked s' = staked s + amount ∧ balOf s' INC 0 = balOf s INC 0 + amount ∧ s'.flows = s.flows := by
  obtain ⟨e', op', b, s1, msgs, b1, hc, h1, hb1, rfl⟩ := step_ok h
  have t1 := hc.arrives hs 0
  cases hc
  obtain ⟨d1, -, d3, d4, d5⟩ := openPosition_delta h1
  obtain ⟨v1, v2⟩ := validateFunds_ledger hs d5
  have t2 := applyMsgs_eff INC 0 _ _ _ _ hb1
  rw [v1 0, d3] at t2
  simp only at t2
  refine ⟨d4, ?_, d1⟩
  show aget b1 (INC, 0) = aget s.bal (INC, 0) + amount
  omega

/-- non-vacuity: alice opens 1000 for bob (cw20 LP), bob closes and withdraws: bob — not alice — gets the
    1000 back, the contract ends with 0 -/
example :
    let c : Cfg := { lpNative := false, feeAsset := 1, feeAmt := 1000, maxFlows := 3, buffer := 5, minDur := 86400, maxDur := 31556926 }
    let s0 := init 1 [((1, 0), 5000), ((2, 0), 7)]
    let s := reach c s0 [({ epoch := 1, time := 100, sender := 1, offers := [(0, 1000)] }, .openPos 1000 86400 (some 2)),
                         ({ epoch := 1, time := 200, sender := 2, offers := [] }, .closePos 86400),
                         ({ epoch := 2, time := 300, sender := 2, offers := [] }, .withdraw)]
    (balOf s 1 0, balOf s 2 0, balOf s INC 0, openOf s 2, closedOf s 2) = (4000, 1007, 0, [], []) := by decide +kernel

/-- non-vacuity of the hypotheses of `custody_eq` (native LP = fee denom, an LP-asset flow, a position,
    a claim): senders, coins, epochs and `NoStrayLp` hold and the equation reads 1 000 + 500 000 = 501 000 -/
example :
    let c : Cfg := { lpNative := true, feeAsset := 0, feeAmt := 1000, maxFlows := 3, buffer := 5, minDur := 86400, maxDur := 31556926 }
    let ops : List (Env × Op) :=
      [({ epoch := 1, time := 100, sender := 1, offers := [(0, 1000)] }, .openPos 1000 86400 none),
       ({ epoch := 1, time := 100, sender := 4, offers := [(0, 501000)] }, .openFlow 0 501000 none (some 10)),
       ({ epoch := 2, time := 200, sender := 1, offers := [] }, .snapshot)]
    let s := reach c (init 1 [((1, 0), 5000), ((4, 0), 600000)]) ops
    (∀ p ∈ ops, p.1.sender ≠ INC) ∧ (∀ p ∈ ops, strayOf c p.1 p.2 = 0)
    ∧ (balOf s INC 0, staked s, flowFunds s 0, balOf s COLLECTOR 0) = (501000, 1000, 500000, 1000) := by decide +kernel

/-- non-vacuity of `overpaid_fee_refunded` and of `custody_eq` with an over-paid fee (the repaired finding
    C11-lp-denom-fee-overpaid-kept): native LP = fee denom, fee 1 000; dave opens a flow of 5 000 in the cw20
    asset 3 with 1 700 LP attached. The operation is accepted, `strayOf` is 0, dave's LP falls by exactly the
    fee (10 000 → 9 000: the 700 came back), the collector gets 1 000, and the contract's LP balance is still
    exactly the staked 1 000 (it holds the 5 000 of asset 3 for the flow). -/
example :
    let c : Cfg := { lpNative := true, feeAsset := 0, feeAmt := 1000, maxFlows := 3, buffer := 5, minDur := 86400, maxDur := 31556926 }
    let ops : List (Env × Op) :=
      [({ epoch := 1, time := 100, sender := 1, offers := [(0, 1000)] }, .openPos 1000 86400 none),
       ({ epoch := 1, time := 100, sender := 4, offers := [(0, 1700), (3, 5000)] }, .openFlow 3 5000 none (some 10))]
    let s0 := init 1 [((1, 0), 5000), ((4, 0), 10000), ((4, 3), 8000)]
    let s := reach c s0 ops
    (∀ p ∈ ops, strayOf c p.1 p.2 = 0) ∧ s.flows.length = 1
    ∧ (balOf s 4 0, balOf s COLLECTOR 0, balOf s INC 0, staked s, flowFunds s 0, balOf s INC 3, balOf s 4 3)
        = (9000, 1000, 1000, 1000, 0, 5000, 3000) := by decide +kernel

/-! ### re-entrant transactions: the cw20 asset of the helper's pair is hostile

`Tx.reenter hk outer`: `outer` is sent while the pool token is armed with `hk` (trigger point, plain / caught,
the token's own account `hk.sender` with its own funds and allowances `hk.offers`, ANY operation `hk.inner` of
the incentive contract or a helper `Deposit` of its own). `reachTx` runs histories of plain and re-entrant
transactions; every theorem below holds for all amounts, states, hooks and histories. -/

/-- the plain helper deposit is its four messages in a row — the helper's pull, the pair's pull, the pair's LP
    transfer, the helper's reply run with the depositor's own `TEMP_STATE` —; a re-entrant one is the same four
    with the hook between the first and the second (trigger 1) or the second and the third (trigger 2) -/
theorem helper_deposit_phases (c : Cfg) (s : St) (e : Env) (a0 a1 dur : Nat) :
    helperDeposit c s e a0 a1 dur = helperDepositP c s e a0 a1 dur :=
  helperDeposit_phases c s e a0 a1 dur

/-- **the hostile token fires on the helper's path only**: armed while any operation other than a helper deposit
    naming the pair's own assets is sent, nothing of the hook happens — the transaction is the plain operation -/
theorem hostile_token_fires_on_helper_path_only (c : Cfg) (s : St) (e : Env) (hk : Hook) (outer : Op)
    (h : ∀ a0 a1 dur, outer ≠ .helperDeposit a0 a1 dur) :
    stepTx c s e (.reenter hk outer) = stepTx c s e (.plain outer) :=
  stepTx_reenter_other c s e hk outer h

/-- **a refused nested call leaves no trace**: a re-entrant transaction that went through while its nested
    message did not — the trigger was never hit (`0`), or the nested operation was refused and caught (`2`) —
    ends in exactly the state of the plain outer operation, which goes through as well. Any hook, any state. -/
theorem refused_nested_call_leaves_no_trace {c : Cfg} {s s' : St} {e : Env} {hk : Hook} {outer : Op} {f : Nat}
    (h : stepTx c s e (.reenter hk outer) = .ok (s', f)) (hf : f ≠ 1) : step c s e outer = .ok s' := by
  rcases stepTx_cases h with ⟨hst, -⟩ | ⟨_, _, _, _, htx, h⟩
  · exact hst
  · cases htx
    exact reenterDeposit_refused h hf

/-- **helper_keeps_nothing, re-entrant, any state**: after a helper deposit into which ANY message of the hostile
    token was nested (any trigger, plain or caught, any nested operation incl. a deposit of its own, whatever
    became of it) the helper holds no LP at all: the reply stakes its whole LP balance. -/
theorem helper_keeps_no_lp_reentrant {c : Cfg} {s s' : St} {e : Env} {hk : Hook} {a0 a1 dur f : Nat}
    (h : stepTx c s e (.reenter hk (.helperDeposit a0 a1 dur)) = .ok (s', f)) : balOf s' HELPER 0 = 0 := by
  obtain ⟨_, _, _, _, _, _, _, _, _, _, _, _, _, _, _, _, h4⟩ := reenterDeposit_spec h
  have := hdReply_helper h4 0
  simpa using this

/-- **helper_keeps_nothing over ALL histories of plain and re-entrant transactions**: from a fresh contract and a
    helper that holds nothing, after every history — any senders other than the helper itself (the hostile
    token's account included), any hooks, nested deposits that went through, were refused, were caught, failed
    transactions — the helper holds NOTHING: no LP, none of the pool assets, no other asset. -/
theorem helper_keeps_nothing_tx (c : Cfg) (e0 : Nat) (bal : Bal) (txs : List (Env × Tx))
    (h0 : ∀ a, aget bal (HELPER, a) = 0) (hs : TxSendersAvoid HELPER txs) (a : Nat) :
    balOf (reachTx c (init e0 bal) txs) HELPER a = 0 :=
  (reachTx_HInv txs _ (init_HInv e0 bal h0) hs).empty a

/-- … as a one-transaction statement from any state in which the helper holds nothing and has created no flow
    (`HInv`: with the weight and flow invariants) -/
theorem helper_keeps_nothing_tx_step {c : Cfg} {s s' : St} {e : Env} {tx : Tx} {f : Nat} (hI : HInv s)
    (hs : ∀ u ∈ txSenders e tx, u ≠ HELPER) (h : stepTx c s e tx = .ok (s', f)) (a : Nat) :
    balOf s' HELPER a = 0 :=
  (stepTx_HInv hI hs h).empty a

/-- **custody_eq over ALL histories of plain and re-entrant transactions** (no donated LP coins, `strayTx`: the
    plain operation's and the nested one's; senders other than the contract; each party's coins with distinct
    denoms; epochs that never go back): LP balance = Σ open + Σ closed + Σ unclaimed funds of the LP-asset flows,
    exactly, after every transaction — also after those in which a nested operation ran between the helper's
    messages. -/
theorem custody_eq_tx (c : Cfg) (e0 : Nat) (bal : Bal) (txs : List (Env × Tx))
    (hs : TxSendersAvoid INC txs) (ho : ∀ p ∈ txs, txOffersOk p.1 p.2) (hk : ∀ p ∈ txs, strayTx c p.1 p.2 = 0)
    (he : EpochsFromTx e0 txs) (h0 : balOf (init e0 bal) INC 0 = 0) :
    CustodyEq (reachTx c (init e0 bal) txs) 0 := by
  obtain ⟨ep', h⟩ := reachTx_custody (c := c) txs (init e0 bal) e0 _ (h0 ▸ init_CInv e0 bal) hs ho hk he
  exact custodyEq_of_CInv h

/-- the custody equation through ONE transaction, plain or re-entrant, from any state satisfying the invariant -/
theorem custody_eq_tx_step {c : Cfg} {s s' : St} {e : Env} {tx : Tx} {f K : Nat} (hI : CInv s e.epoch K)
    (hs : ∀ u ∈ txSenders e tx, u ≠ INC) (hn : txOffersOk e tx) (h0 : strayTx c e tx = 0)
    (h : stepTx c s e tx = .ok (s', f)) : balOf s' INC 0 = staked s' + flowFunds s' 0 + K :=
  custodyEq_of_CInv (stepTx_custody hI hs hn h0 h)

/-- **a helper deposit is staked for ITS sender with exactly the LP minted** (plain transaction, any state in which
    the helper holds no LP, any depositor other than the helper): the depositor's position of the stated duration
    is opened with / grows by exactly `a0 + a1`; no other position of the depositor, no position of anybody else
    and no closed position moves. -/
theorem helper_deposit_credits_sender {c : Cfg} {s s' : St} {e : Env} {a0 a1 dur : Nat} (hs : e.sender ≠ HELPER)
    (h0 : balOf s HELPER 0 = 0) (h : step c s e (.helperDeposit a0 a1 dur) = .ok s') :
    amtAt (openOf s' e.sender) dur = amtAt (openOf s e.sender) dur + (a0 + a1)
    ∧ (∀ d, d ≠ dur → amtAt (openOf s' e.sender) d = amtAt (openOf s e.sender) d)
    ∧ (∀ v, v ≠ e.sender → openOf s' v = openOf s v)
    ∧ s'.closedPos = s.closedPos := by
  obtain ⟨t, hl, hrow, h4⟩ := step_helperDeposit_reply hs h
  have ho : ∀ v, openOf t v = openOf s v := fun v => by unfold openOf; rw [hl.openPos]
  obtain ⟨r1, r2, r3, r4⟩ := hdReply_position h4
  rw [hrow 0, h0, if_pos rfl, Nat.zero_add, ho] at r1
  exact ⟨r1, fun d hd => (r2 d hd).trans (congrArg (amtAt · d) (ho _)), fun v hv => (r3 v hv).trans (ho v),
    r4.trans hl.closedPos⟩

/-- **the reply of a re-entrant deposit** (helper empty before, senders other than the helper): it runs in a state
    `t` — the positions before the transaction, or those the nested operation left — in which the helper holds
    exactly the LP minted for THIS deposit, and credits exactly that to the receiver and duration `tmp` it finds
    in `TEMP_STATE`: the depositor's own, unless a nested operation went through (`f = 1`), then `tmpAfter` — still
    the depositor's own for every nested operation but a `Deposit`. -/
theorem reentrant_deposit_reply {c : Cfg} {s s' : St} {e : Env} {hk : Hook} {a0 a1 dur f : Nat} (hI : HInv s)
    (hs : e.sender ≠ HELPER) (hks : hk.sender ≠ HELPER)
    (h : stepTx c s e (.reenter hk (.helperDeposit a0 a1 dur)) = .ok (s', f)) :
    ∃ (t : St) (tmp : Tmp),
      amtAt (openOf s' tmp.1) tmp.2 = amtAt (openOf t tmp.1) tmp.2 + (a0 + a1)
      ∧ (∀ d, d ≠ tmp.2 → amtAt (openOf s' tmp.1) d = amtAt (openOf t tmp.1) d)
      ∧ (∀ v, v ≠ tmp.1 → openOf s' v = openOf t v)
      ∧ s'.closedPos = t.closedPos
      ∧ ((f = 1 ∧ tmp = tmpAfter hk (e.sender, dur)
            ∧ ∃ t0 t1, t0.openPos = s.openPos ∧ t0.closedPos = s.closedPos
                ∧ step c t0 (hk.env e) hk.inner = .ok t1 ∧ t.openPos = t1.openPos ∧ t.closedPos = t1.closedPos)
         ∨ (f ≠ 1 ∧ tmp = (e.sender, dur) ∧ t.openPos = s.openPos ∧ t.closedPos = s.closedPos)) := by
  obtain ⟨t, tmp, h4, -, hrow, hcase⟩ := reenterDeposit_reply hI hs hks h
  obtain ⟨r1, r2, r3, r4⟩ := hdReply_position h4
  rw [hrow 0, if_pos rfl] at r1
  refine ⟨t, tmp, r1, r2, r3, r4, hcase.imp ?_ ?_⟩
  · rintro ⟨hf, htmp, t0, t1, l0, hst, l1⟩
    exact ⟨hf, htmp, t0, t1, l0.openPos, l0.closedPos, hst, l1.openPos, l1.closedPos⟩
  · rintro ⟨hf, htmp, l⟩
    exact ⟨hf, htmp, l.openPos, l.closedPos⟩

/-- … hence **with no nested deposit going through the deposit is staked for ITS sender**: whatever else the hostile
    token nested into it (any operation of the incentive contract, gone through, refused or never triggered; a
    deposit of its own that was refused), the depositor's position of the stated duration grows by exactly the
    LP minted, on top of what the nested operation left. -/
theorem deposit_credits_its_sender_unless_nested_deposit {c : Cfg} {s s' : St} {e : Env} {hk : Hook}
    {a0 a1 dur f : Nat} (hI : HInv s) (hs : e.sender ≠ HELPER) (hks : hk.sender ≠ HELPER)
    (h : stepTx c s e (.reenter hk (.helperDeposit a0 a1 dur)) = .ok (s', f))
    (hnd : f = 1 → ∀ x y d, hk.inner ≠ .helperDeposit x y d) :
    ∃ t : St, amtAt (openOf s' e.sender) dur = amtAt (openOf t e.sender) dur + (a0 + a1)
      ∧ (∀ v, v ≠ e.sender → openOf s' v = openOf t v) ∧ s'.closedPos = t.closedPos
      ∧ (f ≠ 1 → t.openPos = s.openPos ∧ t.closedPos = s.closedPos) := by
  obtain ⟨t, tmp, r1, _, r3, r4, hcase⟩ := reentrant_deposit_reply hI hs hks h
  have htmp : tmp = (e.sender, dur) := by
    rcases hcase with ⟨hf, ht, _⟩ | ⟨_, ht, _⟩
    · rw [ht]
      unfold tmpAfter
      have := hnd hf
      split
      · rename_i x y d hx; exact absurd hx (this x y d)
      · rfl
    · exact ht
  subst htmp
  refine ⟨t, r1, r3, r4, ?_⟩
  intro hf
  rcases hcase with ⟨hf', _⟩ | ⟨_, _, h1, h2⟩
  · exact absurd hf' hf
  · exact ⟨h1, h2⟩

/-- **OBSERVATION (what the unchanged helper does, not a clause of C11): a nested deposit takes the outer LP.**
    When the nested operation is a helper `Deposit` of the token's account that went through, the outer reply
    finds the NESTED deposit's `TEMP_STATE` and stakes the outer depositor's LP — all `a0 + a1` of it — for the
    nested sender under the nested duration `d`; nobody else's positions are touched by the reply, so an outer
    depositor other than the token's account is credited nothing. The helper still ends with nothing
    (`helper_keeps_no_lp_reentrant`) and the custody equation holds (`custody_eq_tx`). -/
theorem nested_deposit_takes_outer_lp {c : Cfg} {s s' : St} {e : Env} {hk : Hook} {a0 a1 dur x y d : Nat}
    (hI : HInv s) (hs : e.sender ≠ HELPER) (hks : hk.sender ≠ HELPER) (hin : hk.inner = .helperDeposit x y d)
    (h : stepTx c s e (.reenter hk (.helperDeposit a0 a1 dur)) = .ok (s', 1)) :
    ∃ t : St, amtAt (openOf s' hk.sender) d = amtAt (openOf t hk.sender) d + (a0 + a1)
      ∧ (∀ v, v ≠ hk.sender → openOf s' v = openOf t v) := by
  obtain ⟨t, tmp, r1, _, r3, _, hcase⟩ := reentrant_deposit_reply hI hs hks h
  have htmp : tmp = (hk.sender, d) := by
    rcases hcase with ⟨_, ht, _⟩ | ⟨hf, _⟩
    · rw [ht]; unfold tmpAfter; rw [hin]
    · exact absurd rfl hf
  subst htmp
  exact ⟨t, r1, r3⟩

/-- the history of the observation: cw20 LP, unbonding 86 400 s; bob (2) has deposited 5000 + 5000 through the helper -/
def obsCfg : Cfg :=
  { lpNative := false, feeAsset := 1, feeAmt := 1000, maxFlows := 3, buffer := 5, minDur := 86400, maxDur := 31556926 }
def obsStart : St :=
  reachTx obsCfg
    (init 1 [((1, 1), 9000), ((1, 3), 9000), ((2, 1), 9000), ((2, 3), 9000), ((MALLORY, 1), 9000), ((MALLORY, 3), 9000),
             ((PAIR, 0), 100000)])
    [({ epoch := 1, time := 1700000000, sender := 2, offers := [(1, 5000), (3, 5000)] }, .plain (.helperDeposit 5000 5000 86400))]
/-- the hostile pool token is armed: inside the helper's pull mallory (6) deposits 1000 + 1000 of its own, plainly -/
def obsHook : Hook :=
  { trig := 1, catch_ := false, sender := MALLORY, offers := [(1, 1000), (3, 1000)], inner := .helperDeposit 1000 1000 86400 }
/-- alice (1) deposits 2000 + 2000 -/
def obsResult : Res (St × Nat) :=
  stepTx obsCfg obsStart { epoch := 1, time := 1700000010, sender := 1, offers := [(1, 2000), (3, 2000)] }
    (.reenter obsHook (.helperDeposit 2000 2000 86400))

/-- the exact history of the observation (engine `incentive`): `bob helper_deposit 5000 5000 86400`, then
    `alice reenter t1 plain helper_deposit 1000 1000 86400 1:1000 3:1000 -- helper_deposit 2000 2000 86400 1:2000
    3:2000`. The transaction goes through with the nested deposit (`fired = 1`); alice has paid 2000 + 2000 (7000
    of each left) and holds NO position, mallory holds 6000 = its own 2000 + alice's 4000 LP, bob his 10 000; the
    helper holds nothing and the contract's LP balance is exactly the staked 16 000. Replayed on the real
    contracts with the same outcome. -/
theorem nested_deposit_stakes_outer_lp_for_nested_sender :
    (obsResult.toOption.map (fun x => (x.2, openOf x.1 1, openOf x.1 MALLORY, openOf x.1 2, balOf x.1 1 1, balOf x.1 1 3)))
        = some (1, [], [{ dur := 86400, amt := 6000 }], [{ dur := 86400, amt := 10000 }], 7000, 7000)
    ∧ (obsResult.toOption.map (fun x => (balOf x.1 HELPER 0, balOf x.1 HELPER 1, balOf x.1 HELPER 3, balOf x.1 INC 0, staked x.1)))
        = some (0, 0, 0, 16000, 16000) :=
  ⟨by decide +kernel, by decide +kernel⟩

end WW.C11
