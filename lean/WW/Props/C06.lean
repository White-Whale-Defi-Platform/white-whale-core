/-
  C06 — Flash loans are repaid with all fees or the whole transaction reverts.
  Model: WW/Model/Vault.lean — the borrower's callback is an arbitrary finite
  tree `List Act` (repay any amount, deposit, withdraw, collect fees, transfer out, fail, take another
  loan with its own callback tree …), so every theorem below quantifies over ALL borrower behaviours
  of ANY depth, all loan amounts, all fee triples, native and cw20 assets.
  The vault-router path (router FlashLoan → vault.FlashLoan with the router as borrower → NextLoan =
  the payload's messages executed as the router → CompleteLoan → after_trade) is the second half of
  this file: the payload is an arbitrary `List RAct` (fund the router from the borrower contract, send
  out, pay the vault, collect, deposit, fail, run the borrower contract's whole alphabet, call
  CompleteLoan early, take another router loan with its own payload …).
  The third part (theorems `chain_…`) is the router in front of SEVERAL vaults (model:
  WW/Model/VaultChain.lean): the chain of `NextLoan`s over any number of vaults, the payload being ANY
  state transformer `run : St → Option St` (so every payload outcome is covered, not only an alphabet).
-/
import WW.Proofs.Vault
import WW.Proofs.VaultChain
namespace WW.C06
open WW WW.Vault

/-- All or nothing: a transaction that fails leaves every balance and ledger untouched … -/
theorem failed_changes_nothing (s : St) (op : Op) (h : step s op = none) : Vault.apply s op = s := by
  simp [Vault.apply, h]

/-- … and one that succeeds is exactly the model's successor state (there is no third outcome). -/
theorem all_or_nothing (s : St) (op : Op) :
    Vault.apply s op = s ∨ ∃ s', step s op = some s' ∧ Vault.apply s op = s' := by
  cases h : step s op with
  | none => left; simp [Vault.apply, h]
  | some s' => right; exact ⟨s', rfl, by simp [Vault.apply, h]⟩

/-- A successful loan ends with the vault's balance higher than before by at least the protocol and
    the flash-loan fee, whatever the callback tree did (re-entrant withdrawals and fee collections
    included), with the burn fee destroyed (total supply of the asset drops by exactly that fee). -/
theorem loan_balance_ge {s s' : St} {amount : Nat} {cb : List Act} (hI : Inv s)
    (h : loanFrom s amount cb = some s') :
    s.bal + fee s.fees.prot amount + fee s.fees.flash amount ≤ s'.bal ∧
    s'.burned = s.burned + fee s.fees.burn amount ∧
    s'.assetSupply + fee s.fees.burn amount = s.assetSupply :=
  let L := loan_spec hI h
  ⟨L.balGe, L.burned, L.assetSupply⟩

/-- Each fee is exactly `⌊share · loan⌋`; the protocol fee is what the ledgers record. -/
theorem fee_exact {s s' : St} {amount : Nat} {cb : List Act} (hI : Inv s)
    (h : loanFrom s amount cb = some s') :
    s'.allTime = s.allTime + amount * s.fees.prot / E18 ∧
    s'.burned = s.burned + amount * s.fees.burn / E18 ∧
    s'.pend ≤ s.pend + amount * s.fees.prot / E18 :=
  let L := loan_spec hI h
  ⟨L.allTime, L.burned, L.pendLe⟩

/-- No vault shares can be minted while a loan is outstanding: the share supply after a loan is at
    most what it was before … -/
theorem no_mint_during_loan {s s' : St} {amount : Nat} {cb : List Act} (hI : Inv s)
    (h : loanFrom s amount cb = some s') : s'.sup ≤ s.sup := (loan_spec hI h).supLe

/-- … and a callback that tries to deposit — at any position — makes the whole loan revert. -/
theorem deposit_in_callback_reverts {s : St} {amount n : Nat} {cb : List Act} (hI : Inv s)
    (hmem : Act.deposit n ∈ cb) : loanFrom s amount cb = none :=
  loanFrom_refused (fun _ ht => run_deposit_refused ht n) hI hmem

/-- A loan taken from inside a callback of the same vault — at any position, with any callback of
    its own — makes the whole transaction revert (the repaired guard: the vault refuses a
    loan while its loan counter is not zero). -/
theorem nested_loan_reverts {s : St} {amount n : Nat} {cb cb' : List Act} (hI : Inv s)
    (hmem : Act.loan n cb' ∈ cb) : loanFrom s amount cb = none :=
  loanFrom_refused (fun _ ht => run_loan_refused ht n cb') hI hmem

/-- The loan counter is back to zero afterwards. -/
theorem counter_restored {s s' : St} {amount : Nat} {cb : List Act} (hI : Inv s)
    (h : loanFrom s amount cb = some s') : s'.ctr = 0 := (loan_spec hI h).ctr

/-- preconditions under which nothing but the repayment decides the outcome of a repay-only loan:
    loans enabled, a non-zero loan the vault can fund, the borrower can fund the repayment, and the
    128-bit ledgers do not overflow -/
structure PaybackPre (s : St) (amount x : Nat) : Prop where
  flOn : s.flOn = true
  pos : 0 < amount
  funded : amount ≤ s.bal
  xpos : 0 < x
  canPay : x ≤ getN s.ab 3 + amount
  noOverflow : s.bal + x ≤ U128MAX ∧ s.pend + amount ≤ U128MAX ∧ s.allTime + amount ≤ U128MAX
    ∧ s.burned + amount ≤ U128MAX

/-- Repaying exactly the quoted payback amount always suffices, and one unit less never does:
    a callback that only repays `x` succeeds **iff** `x ≥ GetPaybackAmount(amount)`. -/
theorem payback_exact {s : St} {amount x : Nat} (hI : Inv s) (hv : s.fees.valid = true)
    (hp : PaybackPre s amount x) :
    (loanFrom s amount [.pay x]).isSome = true ↔ payback s amount ≤ x := by
  obtain ⟨n1, n2, n3, n4⟩ := hp.noOverflow
  have hfs := fees_le hv amount
  have hfunded := hp.funded
  have hxpos := hp.xpos
  have hcan := hp.canPay
  have hpos := hp.pos
  -- the loan leaves the vault, the callback repays x
  obtain ⟨t1, t2, hpo, hr, hb2⟩ := pay_only (amount := amount) (x := x) hI.abLen (by omega) (by omega)
  obtain ⟨hI1, r1⟩ := payOut_cb hI.cbStart (by omega) hpo
  obtain ⟨_, r2⟩ := runs_cb hI1 hr
  have R := r1.trans r2
  -- after_trade decides
  have key : afterTradeOk t2 s.bal amount = true ↔ payback s amount ≤ x := by
    rw [afterTradeOk_iff, show t2.fees = s.fees from R.fees, show t2.allTime = s.allTime from R.allTime,
      show t2.burned = s.burned from R.burned]
    have : t2.pend ≤ s.pend := R.pend
    unfold payback
    constructor
    · intro h; omega
    · intro h; omega
  constructor
  · intro h
    obtain ⟨s', hs'⟩ := Option.isSome_iff_exists.mp h
    obtain ⟨_, _, u1, u2, up, ur, uat⟩ := loanFrom_eq_some.mp hs'
    obtain rfl : t1 = u1 := Option.some.inj (hpo.symm.trans up)
    obtain rfl : t2 = u2 := Option.some.inj (hr.symm.trans ur)
    exact key.mp (afterTrade_eq_some.mp uat).1
  · intro hx
    rw [loanFrom_eq_some.mpr ⟨hp.flOn, hI.ctr0, _, _, hpo, hr, afterTrade_eq_some.mpr ⟨key.mpr hx, rfl⟩⟩]
    rfl

/-! ### through the vault router -/

/-- Router path, all or nothing: a router transaction that fails leaves every balance and ledger
    untouched (the general `failed_changes_nothing` instantiated, for the record). -/
theorem router_failed_changes_nothing (s : St) (i amount : Nat) (payload : List RAct)
    (h : step s (.routerLoan i amount payload) = none) :
    Vault.apply s (.routerLoan i amount payload) = s := failed_changes_nothing s _ h

/-- A successful flash loan through the router ends with the vault's balance higher than before by
    at least the protocol and the flash-loan fee, whatever the payload did, with the burn fee
    destroyed — the router loan satisfies the same `LoanSpec` as a direct loan. -/
theorem router_loan_balance_ge {s s' : St} {i amount : Nat} {payload : List RAct} (hI : Inv s)
    (hi : i < 4) (h : routerLoanFrom s i amount payload = some s') :
    s.bal + fee s.fees.prot amount + fee s.fees.flash amount ≤ s'.bal ∧
    s'.burned = s.burned + fee s.fees.burn amount ∧
    s'.assetSupply + fee s.fees.burn amount = s.assetSupply :=
  let L := router_loan_spec hI (by omega) h
  ⟨L.balGe, L.burned, L.assetSupply⟩

/-- Router path: each fee is exactly `⌊share · loan⌋`. -/
theorem router_fee_exact {s s' : St} {i amount : Nat} {payload : List RAct} (hI : Inv s)
    (hi : i < 4) (h : routerLoanFrom s i amount payload = some s') :
    s'.allTime = s.allTime + amount * s.fees.prot / E18 ∧
    s'.burned = s.burned + amount * s.fees.burn / E18 ∧
    s'.pend ≤ s.pend + amount * s.fees.prot / E18 :=
  let L := router_loan_spec hI (by omega) h
  ⟨L.allTime, L.burned, L.pendLe⟩

/-- Router path: no vault shares are minted while the loan is outstanding … -/
theorem router_no_mint_during_loan {s s' : St} {i amount : Nat} {payload : List RAct} (hI : Inv s)
    (hi : i < 4) (h : routerLoanFrom s i amount payload = some s') : s'.sup ≤ s.sup :=
  (router_loan_spec hI (by omega) h).supLe

/-- … a payload that tries to deposit — at any position — makes the whole router loan revert … -/
theorem deposit_in_payload_reverts {s : St} {i amount n : Nat} {payload : List RAct} (hI : Inv s)
    (hmem : RAct.deposit n ∈ payload) : routerLoanFrom s i amount payload = none :=
  routerLoanFrom_refused (fun _ ht => rrun_deposit_refused ht n) hI hmem

/-- … and so does a further router flash loan from inside the payload, whatever its own payload
    (the router is the borrower of the outer loan; the vault refuses a loan while one is in flight). -/
theorem nested_router_loan_reverts {s : St} {i amount j n : Nat} {payload p' : List RAct} (hI : Inv s)
    (hmem : RAct.routerLoan j n p' ∈ payload) : routerLoanFrom s i amount payload = none :=
  routerLoanFrom_refused (fun _ ht => rrun_routerLoan_refused ht j n p') hI hmem

/-- Router path: the loan counter is back to zero afterwards. -/
theorem router_counter_restored {s s' : St} {i amount : Nat} {payload : List RAct} (hI : Inv s)
    (hi : i < 4) (h : routerLoanFrom s i amount payload = some s') : s'.ctr = 0 :=
  (router_loan_spec hI (by omega) h).ctr

/-- **The router keeps nothing**: after a successful router flash loan the router's balance of the
    asset is zero — whatever it held before the loan (stray funds included) and whatever the payload
    did. -/
theorem router_keeps_nothing {s s' : St} {i amount : Nat} {payload : List RAct} (hI : Inv s)
    (hi : i < 4) (h : routerLoanFrom s i amount payload = some s') : getN s'.ab 5 = 0 := by
  obtain ⟨_, _, s1, s2, s3, hp, hr, hcl, hat⟩ := routerLoanFrom_eq_some.mp h
  obtain ⟨hI1, r1⟩ := payOut_cb hI.cbStart (by omega) hp
  obtain ⟨hI2, r2⟩ := rruns_cb hI1 hr
  exact (completeLoan_settle (s := s) hI2.abLen (r1.trans r2).fees (by omega) hcl hat).2.2.2.2.2.1

/-- **It pays the vault the quoted amount and forwards all remaining proceeds to the initiator**:
    with `s2` the state when the payload has finished and `s3` the state after `CompleteLoan`,
    the quote is `GetPaybackAmount(amount)` under the fee configuration in force (unchanged since the
    loan was taken), the router held at least that, the vault's balance rose by exactly the quote,
    the initiator received exactly `router balance − quote`, nobody else's balance moved, and
    `after_trade` (which only burns the burn fee out of the vault) leads to the final state. -/
theorem router_pays_quote_forwards_rest {s s' : St} {i amount : Nat} {payload : List RAct}
    (hI : Inv s) (hi : i < 4) (h : routerLoanFrom s i amount payload = some s') :
    ∃ s2 s3, completeLoan s2 i amount = some s3 ∧ afterTrade s3 s.bal amount = some s' ∧
      payback s2 amount = payback s amount ∧
      payback s amount ≤ getN s2.ab 5 ∧
      s3.bal = s2.bal + payback s amount ∧
      s'.bal + fee s.fees.burn amount = s2.bal + payback s amount ∧
      getN s'.ab i = getN s2.ab i + (getN s2.ab 5 - payback s amount) ∧
      getN s'.ab 5 = 0 ∧
      (∀ j, j ≠ 5 → j ≠ i → getN s'.ab j = getN s2.ab j) := by
  obtain ⟨_, _, s1, s2, s3, hp, hr, hcl, hat⟩ := routerLoanFrom_eq_some.mp h
  obtain ⟨hI1, r1⟩ := payOut_cb hI.cbStart (by omega) hp
  obtain ⟨hI2, r2⟩ := rruns_cb hI1 hr
  exact ⟨s2, s3, hcl, hat, completeLoan_settle (s := s) hI2.abLen (r1.trans r2).fees (by omega) hcl hat⟩

/-- preconditions under which nothing but the funds reaching the router decides the outcome of a
    router loan whose payload only funds the router with `x` from the borrower contract -/
structure RouterPaybackPre (s : St) (amount x : Nat) : Prop where
  flOn : s.flOn = true
  pos : 0 < amount
  funded : amount ≤ s.bal
  xpos : 0 < x
  canFund : x ≤ getN s.ab 3
  noOverflow : s.bal + getN s.ab 5 + x ≤ U128MAX ∧ s.pend + amount ≤ U128MAX
    ∧ s.allTime + amount ≤ U128MAX ∧ s.burned + amount ≤ U128MAX

/-- Router path, exact payback: a payload that only funds the router with `x` succeeds **iff**
    what the router then holds — its balance before the loan, the loan, and `x` — covers
    `GetPaybackAmount(amount)`; so exactly the quote suffices and one unit less never does. -/
theorem router_payback_exact {s : St} {i amount x : Nat} (hI : Inv s) (hv : s.fees.valid = true)
    (hi : i < 4) (hp : RouterPaybackPre s amount x) :
    (routerLoanFrom s i amount [.fund x]).isSome = true ↔
      payback s amount ≤ getN s.ab 5 + amount + x := by
  obtain ⟨n1, n2, n3, n4⟩ := hp.noOverflow
  have hfs := fees_le hv amount
  have hfunded := hp.funded
  have hxpos := hp.xpos
  have hcan := hp.canFund
  have hpos := hp.pos
  -- the loan reaches the router and the borrower contract adds x
  obtain ⟨t1, t2, hpo, hr⟩ := fund_only_some (amount := amount) (x := x) (s := s) (by omega) (by omega)
  obtain ⟨hb2, hlen2, g5, _, _⟩ := fund_only_spec hI.abLen hpo hr
  obtain ⟨hI1, r1⟩ := payOut_cb hI.cbStart (by omega) hpo
  obtain ⟨hI2, r2⟩ := rruns_cb hI1 hr
  have hf2 : t2.fees = s.fees := (r1.trans r2).fees
  constructor
  · intro h
    obtain ⟨s', hs'⟩ := Option.isSome_iff_exists.mp h
    obtain ⟨_, _, u1, u2, u3, up, ur, ucl, uat⟩ := routerLoanFrom_eq_some.mp hs'
    obtain rfl : t1 = u1 := Option.some.inj (hpo.symm.trans up)
    obtain rfl : t2 = u2 := Option.some.inj (hr.symm.trans ur)
    have := (completeLoan_settle hlen2 hf2 (by omega) ucl uat).2.1
    rwa [g5] at this
  · intro hx
    have hpb := payback_congr hf2 amount
    have hpbdef : payback s amount =
        amount + fee s.fees.prot amount + fee s.fees.flash amount + fee s.fees.burn amount := rfl
    obtain ⟨s3, hcl⟩ := completeLoan_some (s := t2) (i := i) (n := amount) hlen2
      (by rw [hpb]; omega) (by rw [hpb, g5]; exact hx) (by rw [hpb]; omega)
    obtain ⟨_, r3⟩ := completeLoan_cb hI2 (by omega) hcl
    have R := (r1.trans r2).trans r3
    have e_bal3 : s3.bal = t2.bal + payback s amount := by
      rw [(completeLoan_spec hlen2 (by omega) hcl).2.1, hpb]
    have hok : afterTradeOk s3 s.bal amount = true := by
      rw [afterTradeOk_iff, show s3.fees = s.fees from R.fees, show s3.allTime = s.allTime from R.allTime,
        show s3.burned = s.burned from R.burned, e_bal3]
      have : s3.pend ≤ s.pend := R.pend
      omega
    rw [routerLoanFrom_eq_some.mpr
      ⟨hp.flOn, hI.ctr0, _, _, _, hpo, hr, hcl, afterTrade_eq_some.mpr ⟨hok, rfl⟩⟩]
    rfl

/-- Sender guard: `NextLoan` only by a factory-registered vault — called directly by any account
    (users, the borrower contract) it is refused and nothing changes. -/
theorem next_loan_guarded (s : St) (who amount : Nat) (payload : List RAct) :
    step s (.nextLoanBy who amount payload) = none ∧ Vault.apply s (.nextLoanBy who amount payload) = s :=
  ⟨rfl, rfl⟩

/-- Sender guard: `CompleteLoan` only by the router itself — called directly by any account it is
    refused and nothing changes. -/
theorem complete_loan_guarded (s : St) (who i amount : Nat) :
    step s (.completeLoanBy who i amount) = none ∧ Vault.apply s (.completeLoanBy who i amount) = s :=
  ⟨rfl, rfl⟩

/-- More than one asset is refused (`NestedFlashLoansDisabled`); zero assets do nothing at all (the
    payload is not run). -/
theorem router_multi_refused_none_noop (s : St) (who a1 a2 : Nat) (payload : List RAct) :
    step s (.routerLoanMulti who a1 a2 payload) = none ∧ step s (.routerLoanNone who payload) = some s :=
  ⟨rfl, rfl⟩

/-! ### coins ATTACHED to the flash-loan messages (`Op.attach`)

`failed_changes_nothing` / `all_or_nothing` quantify over all operations, the ones carrying stray
coins included: a failed message returns the attached coins with everything else. -/

/-- Coins of the asset's denom attached to the vault's own `FlashLoan` are in the vault BEFORE
    `old_balance` is read: a donation. The loan then runs from the state after a plain transfer of `n`
    to the vault and has to leave the vault with at least `balance + n + protocol fee + flash-loan fee`:
    the attached coins cannot be used to pay the fees, and they stay in the vault. -/
theorem loan_attached_is_donation {s s' : St} {who n amount : Nat} {cb : List Act} (hI : Inv s)
    (h : step s (.attach who 0 n (.loan amount cb)) = some s') :
    ∃ s1, payIn s who n = some s1 ∧ loanFrom s1 amount cb = some s' ∧ s1.bal = s.bal + n ∧
      s.bal + n + fee s.fees.prot amount + fee s.fees.flash amount ≤ s'.bal := by
  obtain ⟨dst, s1, hr, _, ha, hs⟩ := attach_parts h
  have hd : dst = 0 := by simp only [Op.recv, Option.some.injEq] at hr; omega
  subst hd
  obtain ⟨hp, hw, _, _⟩ : payIn s who n = some s1 ∧ _ := arrive_own ha
  have A := arrive_spec hI ha
  simp only [step] at hs
  have L := loan_spec A.inv hs
  obtain ⟨hs1, _⟩ := payIn_spec hI.abLen (by omega) hp
  have hb : s1.bal = s.bal + n := by rw [hs1]
  have hf := A.fees
  have := L.balGe
  rw [hf, hb] at this
  exact ⟨s1, hp, hs, hb, this⟩

/-- Coins attached to the ROUTER's `FlashLoan` (`flash_loan.rs` passes `funds: vec![]` on to the vault)
    are the router's for the duration of the transaction: the loan runs from the state `s1` after a
    plain transfer of the coins to the router (asset denom) resp. after the router's balance of the
    unrelated denom grew — the vault's balance and every ledger are those of `s` when it records
    `old_balance`, so all `router_…` theorems above apply from `s1` with the fees and balance of `s`. -/
theorem router_attached_is_routers {s s' : St} {who sel n i amount : Nat} {payload : List RAct}
    (hI : Inv s) (h : step s (.attach who sel n (.routerLoan i amount payload)) = some s') :
    ∃ s1, arrive s who sel n 1 = some s1 ∧ routerLoanFrom s1 i amount payload = some s' ∧ i < 4 ∧
      Inv s1 ∧ s1.bal = s.bal ∧ s1.fees = s.fees ∧ s1.pend = s.pend ∧ getN s'.ab 5 = 0 := by
  obtain ⟨dst, s1, hr, _, ha, hs⟩ := attach_parts h
  have hd : dst = 1 := by simp only [Op.recv, Option.some.injEq] at hr; omega
  subst hd
  have A := arrive_spec hI ha
  simp only [step] at hs
  split at hs
  · cases hs
  rename_i hi
  have hb : s1.bal = s.bal := by
    by_cases hsel : sel = 0
    · subst hsel
      obtain ⟨hm, _⟩ : move s who 5 n = some s1 ∧ _ := arrive_own ha
      obtain ⟨_, rfl⟩ := move_eq_some.mp hm
      rfl
    · obtain ⟨rfl, _⟩ := arrive_junk hsel ha
      rfl
  exact ⟨s1, ha, hs, by omega, A.inv, hb, A.fees, A.pend, router_keeps_nothing A.inv (by omega) hs⟩

/-- the state in which a router loan with coins of the asset's denom attached starts -/
private theorem attached_router_start {s s' : St} {i n amount : Nat} {payload : List RAct} (hI : Inv s)
    (h : step s (.attach i 0 n (.routerLoan i amount payload)) = some s') :
    ∃ s1, move s i 5 n = some s1 ∧ routerLoanFrom s1 i amount payload = some s' ∧ i < 4 ∧ Inv s1 ∧
      s1.bal = s.bal ∧ s1.fees = s.fees ∧ getN s1.ab 5 = getN s.ab 5 + n ∧
      getN s1.ab i + n = getN s.ab i ∧ (∀ j, j ≠ 5 → j ≠ i → getN s1.ab j = getN s.ab j) := by
  obtain ⟨s1, ha, hs, hi, hI1, hb, hf, _, _⟩ := router_attached_is_routers hI h
  obtain ⟨hm, _, _, _⟩ : move s i 5 n = some s1 ∧ _ := arrive_own ha
  obtain ⟨hg, hs1⟩ := move_eq_some.mp hm
  have hab : s1.ab = lmove s.ab i 5 n := by rw [hs1]
  have hlen := hI.abLen
  refine ⟨s1, hm, hs, hi, hI1, hb, hf, ?_, ?_, fun j h5 hji => ?_⟩
  · rw [hab, lmove_dst _ _ _ _ (by omega) (by omega)]
  · rw [hab, lmove_src _ _ _ _ (by omega) (by omega)]; omega
  · rw [hab, lmove_other _ _ _ _ _ hji h5]

/-- **Coins of the loaned asset's denom attached to the router's `FlashLoan` are never left in the
    router nor in the vault**: with `s2` the state when the payload has finished, the router held the
    quote, the vault's balance is what the payload left it plus exactly the quote minus the burn fee,
    the initiator receives the router's WHOLE remaining balance (the attached coins are part of it),
    and the router ends with nothing. -/
theorem router_attached_coins_return {s s' : St} {i n amount : Nat} {payload : List RAct} (hI : Inv s)
    (h : step s (.attach i 0 n (.routerLoan i amount payload)) = some s') :
    ∃ s1 s2 : St, move s i 5 n = some s1 ∧ routerLoanFrom s1 i amount payload = some s' ∧
      s1.bal = s.bal ∧ getN s1.ab 5 = getN s.ab 5 + n ∧ getN s1.ab i + n = getN s.ab i ∧
      payback s amount ≤ getN s2.ab 5 ∧
      s'.bal + fee s.fees.burn amount = s2.bal + payback s amount ∧
      getN s'.ab i = getN s2.ab i + (getN s2.ab 5 - payback s amount) ∧
      getN s'.ab 5 = 0 := by
  obtain ⟨s1, hm, hs, hi, hI1, hb, hf, h5, h_i, _⟩ := attached_router_start hI h
  obtain ⟨s2, s3, _, _, _, hge, _, hbal, hini, h0, _⟩ := router_pays_quote_forwards_rest hI1 hi hs
  have hpb := payback_congr hf amount
  rw [hpb] at hge hbal hini
  rw [hf] at hbal
  exact ⟨s1, s2, hm, hs, hb, h5, h_i, hge, hbal, hini, h0⟩

/-- … made explicit for a payload that only lets the borrower contract fund the router with `x`: the
    transaction succeeds only if `router balance + n + loan + x` covers the quote, the VAULT GAINS
    EXACTLY ITS RETAINED FEES (protocol + flash-loan fee; nothing of the `n` attached coins), the
    initiator's balance changes by exactly `router balance + loan + x − quote` — the `n` coins it
    attached are back —, the router ends with nothing, the borrower contract paid `x`. -/
theorem router_attached_returned_exact {s s' : St} {i n amount x : Nat} (hI : Inv s) (hi3 : i ≠ 3)
    (h : step s (.attach i 0 n (.routerLoan i amount [.fund x])) = some s') :
    payback s amount ≤ getN s.ab 5 + n + amount + x ∧
    s'.bal + amount + fee s.fees.burn amount = s.bal + payback s amount ∧
    getN s'.ab i + payback s amount = getN s.ab i + (getN s.ab 5 + amount + x) ∧
    getN s'.ab 5 = 0 ∧ getN s'.ab 3 + x = getN s.ab 3 := by
  obtain ⟨s1, hm, hs, hi, hI1, hb, hf, h5, h_i, hoth1⟩ := attached_router_start hI h
  have h3 : getN s1.ab 3 = getN s.ab 3 := hoth1 3 (by omega) (by omega)
  obtain ⟨_, _, t1, t2, t3, tp, tr, tcl, tat⟩ := routerLoanFrom_eq_some.mp hs
  -- the loan reaches the router, the borrower contract funds it
  obtain ⟨hb2, hlen2, g5, g3, goth⟩ := fund_only_spec hI1.abLen tp tr
  have gi := goth i hi3 (by omega)
  obtain ⟨hI1', r1⟩ := payOut_cb hI1.cbStart (by omega) tp
  obtain ⟨_, r2⟩ := rruns_cb hI1' tr
  -- CompleteLoan and after_trade
  obtain ⟨_, hge, _, hb', hini, h0, hoth⟩ :=
    completeLoan_settle (s := s) hlen2 ((r1.trans r2).fees.trans hf) (by omega) tcl tat
  have g33 := hoth 3 (by omega) (by omega)
  exact ⟨by omega, by omega, by omega, h0, by omega⟩

/-- Coins of an UNRELATED denom attached to the router's `FlashLoan` do not take part in the loan at
    all (it runs as without them) and are NOT returned: `CompleteLoan` forwards the loaned asset only,
    so they stay on the router's balance (entry 5 of the unrelated denom grows by `n`, the sender's
    falls by `n`) — like any other coins parked on the router. -/
theorem router_foreign_coins_stay_in_router {s s' : St} {who sel n i amount : Nat} {payload : List RAct}
    (hI : Inv s) (hj : s.jb.length = 8) (hsel : sel ≠ 0)
    (h : step s (.attach who sel n (.routerLoan i amount payload)) = some s') :
    (∃ s1, s1 = { s with jb := s1.jb } ∧ routerLoanFrom s1 i amount payload = some s') ∧
    getN s'.jb 5 = getN s.jb 5 + n ∧ getN s'.jb who + n = getN s.jb who ∧ getN s'.jb 7 = getN s.jb 7 := by
  obtain ⟨s1, ha, hs, hi, hI1, _, _, _, _⟩ := router_attached_is_routers hI h
  obtain ⟨hs1, hn, hw, _⟩ := arrive_junk hsel ha
  have hjb : s'.jb = s1.jb := (router_loan_spec hI1 (by omega) hs).jb
  have e1 : s1.jb = lmove s.jb who 5 n := by rw [hs1]; rfl
  refine ⟨⟨s1, by rw [hs1], hs⟩, ?_, ?_, ?_⟩
  · rw [hjb, e1, lmove_dst _ _ _ _ (by rw [hj]; omega) (by omega)]
  · rw [hjb, e1, lmove_src _ _ _ _ (by rw [hj]; omega) (by omega)]; omega
  · rw [hjb, e1, lmove_other _ _ _ _ _ (by omega) (by omega)]

/-! ### the vault router over several vaults: the chain of `NextLoan`s

  `VaultChain.chainGo c run I L s L` is the router borrowing from every vault of `L` (pairs
  (vault, amount), in `to_loan` order), running the payload `run`, `CompleteLoan{I, L}` and every vault's
  `after_trade`. `s1` = the state in which the payload starts (`VaultChain.lends`, a function of `s` and
  `L`), `s2` = the state it leaves. Account 5 is the router, `6 + j` vault `j`, `I < 5` an ordinary
  account. On the real code the router's own `FlashLoan` starts it for one vault (`chain_rloan_single`),
  a hand-built `NextLoan` message in a payload for several (`chain_in_payload`). -/

/-- All or nothing, chained router transactions: a failed one leaves every balance and ledger of
    every vault untouched … -/
theorem chain_failed_changes_nothing (c : VaultChain.Cfg) (s : VaultChain.St) (op : VaultChain.Op)
    (h : VaultChain.step c s op = none) : VaultChain.apply c s op = s := by
  simp [VaultChain.apply, h]

/-- … and a successful one is exactly the model's successor state (no third outcome). -/
theorem chain_all_or_nothing (c : VaultChain.Cfg) (s : VaultChain.St) (op : VaultChain.Op) :
    VaultChain.apply c s op = s ∨ ∃ s', VaultChain.step c s op = some s' ∧ VaultChain.apply c s op = s' := by
  cases h : VaultChain.step c s op with
  | none => left; simp [VaultChain.apply, h]
  | some s' => right; exact ⟨s', rfl, by simp [VaultChain.apply, h]⟩

/-- A chain that succeeds borrowed from pairwise different, factory-registered vaults (an asset listed
    twice, or one without a vault, makes everything fail). -/
theorem chain_vaults_distinct_known {c : VaultChain.Cfg} {run : VaultChain.St → Option VaultChain.St}
    {I : Nat} {L : List (Nat × Nat)} {s s' : VaultChain.St} (hI : I < 5)
    (h : VaultChain.chainGo c run I L s L = some s') :
    (L.map (·.1)).Nodup ∧ ∀ e ∈ L, e.1 < c.nv := by
  obtain ⟨_, _, _, _, S⟩ := VaultChain.chain_spec hI h
  exact ⟨S.nodup, S.known⟩

/-- When the payload starts the router holds, of every borrowed asset, what it held before plus the
    loan; each vault is short of exactly its loan; nothing else has moved. -/
theorem chain_payload_starts_with_loans {c : VaultChain.Cfg} {run : VaultChain.St → Option VaultChain.St}
    {I : Nat} {L : List (Nat × Nat)} {s s' : VaultChain.St} (hI : I < 5)
    (h : VaultChain.chainGo c run I L s L = some s') :
    ∃ s1 s2, VaultChain.lends c s L = some s1 ∧ run s1 = some s2 ∧
      (∀ e ∈ L, s1.bal e.1 5 = s.bal e.1 5 + e.2 ∧ s1.bal e.1 (6 + e.1) + e.2 = s.bal e.1 (6 + e.1) ∧
        ∀ y, y ≠ 5 → y ≠ 6 + e.1 → s1.bal e.1 y = s.bal e.1 y) ∧
      (∀ x, x ∉ L.map (·.1) → ∀ y, s1.bal x y = s.bal x y) := by
  obtain ⟨s1, s2, h1, h2, S⟩ := VaultChain.chain_spec hI h
  exact ⟨s1, s2, h1, h2, fun e he => ⟨S.lentRouter e he, S.lentVault e he, S.lentOtherAcct e he⟩, S.lentOtherAsset⟩

/-- **Every vault of the chain receives exactly its quoted payback** — the loan plus its three
    fees, each `⌊share · loan⌋` under that vault's own fee triple: the router held at least that much
    of the asset when the payload finished, the vault's balance ends at its balance at that moment
    plus the quote minus the burn fee (which `after_trade` destroys), and its fee ledgers record exactly
    the protocol and the burn fee. For EVERY number of vaults, every payload, all amounts. -/
theorem chain_pays_each_quote {c : VaultChain.Cfg} {run : VaultChain.St → Option VaultChain.St}
    {I : Nat} {L : List (Nat × Nat)} {s s' : VaultChain.St} (hI : I < 5)
    (h : VaultChain.chainGo c run I L s L = some s') :
    ∃ s1 s2, VaultChain.lends c s L = some s1 ∧ run s1 = some s2 ∧
      ∀ e ∈ L,
        VaultChain.payback c e.1 e.2 = e.2 + e.2 * (c.fees e.1).prot / E18 + e.2 * (c.fees e.1).flash / E18
          + e.2 * (c.fees e.1).burn / E18 ∧
        VaultChain.payback c e.1 e.2 ≤ s2.bal e.1 5 ∧
        s'.bal e.1 (6 + e.1) + e.2 * (c.fees e.1).burn / E18 = s2.bal e.1 (6 + e.1) + VaultChain.payback c e.1 e.2 ∧
        s'.allTime e.1 = s2.allTime e.1 + e.2 * (c.fees e.1).prot / E18 ∧
        s'.pend e.1 = s2.pend e.1 + e.2 * (c.fees e.1).prot / E18 ∧
        s'.burned e.1 = s2.burned e.1 + e.2 * (c.fees e.1).burn / E18 := by
  obtain ⟨s1, s2, h1, h2, S⟩ := VaultChain.chain_spec hI h
  exact ⟨s1, s2, h1, h2, fun e he => ⟨rfl, S.covered e he, S.vault e he, S.allTime e he, S.pend e he, S.burned e he⟩⟩

/-- Whatever the payload did (payments to the vaults, transfers, further loans elsewhere), every vault of
    the chain ends with at least its balance before the transaction plus its protocol and flash-loan fee. -/
theorem chain_vault_balance_ge {c : VaultChain.Cfg} {run : VaultChain.St → Option VaultChain.St}
    {I : Nat} {L : List (Nat × Nat)} {s s' : VaultChain.St} (hI : I < 5)
    (h : VaultChain.chainGo c run I L s L = some s') :
    ∀ e ∈ L, s.bal e.1 (6 + e.1) + e.2 * (c.fees e.1).prot / E18 + e.2 * (c.fees e.1).flash / E18
      ≤ s'.bal e.1 (6 + e.1) := by
  obtain ⟨_, _, _, _, S⟩ := VaultChain.chain_spec hI h
  exact S.balGe

/-- **The router keeps nothing**: of every borrowed asset its balance is zero afterwards — stray
    funds it held before and whatever the payload brought in included — and its balance of every other
    asset is exactly what the payload left there (CompleteLoan and the after_trades do not touch it).
    In particular a router that holds nothing before a transaction whose payload leaves it nothing of
    the other assets holds nothing afterwards: its balances are unchanged. -/
theorem chain_router_keeps_nothing {c : VaultChain.Cfg} {run : VaultChain.St → Option VaultChain.St}
    {I : Nat} {L : List (Nat × Nat)} {s s' : VaultChain.St} (hI : I < 5)
    (h : VaultChain.chainGo c run I L s L = some s') :
    ∃ s1 s2, VaultChain.lends c s L = some s1 ∧ run s1 = some s2 ∧
      (∀ e ∈ L, s'.bal e.1 5 = 0) ∧ (∀ x, x ∉ L.map (·.1) → s'.bal x 5 = s2.bal x 5) := by
  obtain ⟨s1, s2, h1, h2, S⟩ := VaultChain.chain_spec hI h
  exact ⟨s1, s2, h1, h2, S.router, fun x hx => S.otherAsset x hx 5⟩

/-- **Everything the payload left over goes to the initiator, nobody else**: of every borrowed asset
    the initiator `I` — the account named when the chain was started, forwarded unchanged through every
    `NextLoan` — receives exactly `router balance − quote`; no other account (users, the funding contract,
    the fee collector, the OTHER vaults) changes its balance of a borrowed asset between the end of the
    payload and the end of the transaction, and no balance of any other asset moves at all. -/
theorem chain_rest_to_initiator {c : VaultChain.Cfg} {run : VaultChain.St → Option VaultChain.St}
    {I : Nat} {L : List (Nat × Nat)} {s s' : VaultChain.St} (hI : I < 5)
    (h : VaultChain.chainGo c run I L s L = some s') :
    ∃ s1 s2, VaultChain.lends c s L = some s1 ∧ run s1 = some s2 ∧
      (∀ e ∈ L, s'.bal e.1 I = s2.bal e.1 I + (s2.bal e.1 5 - VaultChain.payback c e.1 e.2)) ∧
      (∀ e ∈ L, ∀ y, y ≠ 5 → y ≠ I → y ≠ 6 + e.1 → s'.bal e.1 y = s2.bal e.1 y) ∧
      (∀ x, x ∉ L.map (·.1) → ∀ y, s'.bal x y = s2.bal x y) := by
  obtain ⟨s1, s2, h1, h2, S⟩ := VaultChain.chain_spec hI h
  exact ⟨s1, s2, h1, h2, S.initiator, S.otherAcct, S.otherAsset⟩

/-- **If the payload leaves less than some vault's payback the whole transaction fails**: a payload
    that — in whatever state it is started — ends with the router holding less of some borrowed asset
    than that vault's quote makes the chain fail (so nothing changes), for any number of vaults. -/
theorem chain_short_reverts {c : VaultChain.Cfg} {run : VaultChain.St → Option VaultChain.St}
    {I : Nat} {L : List (Nat × Nat)} (s : VaultChain.St)
    (hshort : ∀ s1 s2, run s1 = some s2 → ∃ e ∈ L, s2.bal e.1 5 < VaultChain.payback c e.1 e.2) :
    VaultChain.chainGo c run I L s L = none :=
  VaultChain.chainGo_short hshort L s

/-- The router's own `FlashLoan{[asset], msgs}` by account `who` is the chain over that one vault with
    `who` as initiator, … -/
theorem chain_rloan_single (c : VaultChain.Cfg) (s : VaultChain.St) (who : Nat) (e : Nat × Nat)
    (p : List VaultChain.RAct) (hw : who < 4) :
    VaultChain.step c s (.rloan who [e] p) = VaultChain.chainGo c (fun t => VaultChain.rruns c t p) who [e] s [e] := by
  simp only [VaultChain.step]
  rw [if_neg (by omega)]

/-- … more than one asset is refused (`NestedFlashLoansDisabled`), zero assets do nothing (the payload
    is not run), … -/
theorem chain_multi_refused_none_noop (c : VaultChain.Cfg) (s : VaultChain.St) (who : Nat) (e1 e2 : Nat × Nat)
    (es : List (Nat × Nat)) (p : List VaultChain.RAct) (hw : who < 4) :
    VaultChain.step c s (.rloan who (e1 :: e2 :: es) p) = none ∧ VaultChain.step c s (.rloan who [] p) = some s := by
  simp only [VaultChain.step]
  rw [if_neg (by omega), if_neg (by omega)]
  exact ⟨rfl, rfl⟩

/-- … and the chain over several vaults is what the hand-built `NextLoan` message in a payload starts
    (the router is the borrower): all `chain_…` theorems apply to it with `run` = the inner payload. -/
theorem chain_in_payload (c : VaultChain.Cfg) (s : VaultChain.St) (I : Nat) (e : Nat × Nat) (es : List (Nat × Nat))
    (p : List VaultChain.RAct) (hI : I < 6 + c.nv) :
    VaultChain.rrun c s (.chain I (e :: es) p)
      = VaultChain.chainGo c (fun t => VaultChain.rruns c t p) I (e :: es) s (e :: es) := by
  rw [VaultChain.rrun]
  rw [if_neg (by omega)]

/-- Sender guards: `NextLoan` (also in its chained shape) and `CompleteLoan` sent by an ordinary account
    are refused and nothing changes. -/
theorem chain_callbacks_guarded (c : VaultChain.Cfg) (s : VaultChain.St) (who I : Nat) (L : List (Nat × Nat))
    (p : List VaultChain.RAct) :
    VaultChain.step c s (.xnext who I L p) = none ∧ VaultChain.step c s (.xcomplete who I L) = none ∧
    VaultChain.apply c s (.xnext who I L p) = s ∧ VaultChain.apply c s (.xcomplete who I L) = s :=
  ⟨rfl, rfl, rfl, rfl⟩

/-! #### coins attached to the router's / a vault's messages, several vaults

`chain_failed_changes_nothing` / `chain_all_or_nothing` quantify over all operations, the ones carrying
stray coins (`VaultChain.Op.attach`) included. -/

/-- Stray coins go to the contract the message is sent to and nowhere else: a message with `n` coins of
    asset `sel` attached by `who` runs exactly as the same message without coins from the state `s0`
    after a plain transfer of the coins from `who` to the receiving contract (`dst` = 5 for the router's
    `FlashLoan` / `NextLoan` / `CompleteLoan`, `6 + j` for vault `j`'s `CollectProtocolFees`: a donation
    to that vault); no fee ledger or loan counter is touched by their arrival. -/
theorem chain_stray_coins_go_to_receiver {c : VaultChain.Cfg} {s s' : VaultChain.St} {who sel n : Nat}
    {op : VaultChain.Op} (h : VaultChain.step c s (.attach who sel n op) = some s') :
    ∃ dst s0, op.recv = some dst ∧ VaultChain.move c s sel who dst n = some s0 ∧
      VaultChain.step c s0 op = some s' ∧
      s0.bal sel dst = s.bal sel dst + n ∧ s0.bal sel who + n = s.bal sel who ∧
      (∀ y, y ≠ dst → y ≠ who → s0.bal sel y = s.bal sel y) ∧ (∀ x y, x ≠ sel → s0.bal x y = s.bal x y) ∧
      s0.pend = s.pend ∧ s0.allTime = s.allTime ∧ s0.burned = s.burned ∧ s0.ctr = s.ctr := by
  obtain ⟨dst, s0, hr, hm, hw, _, _, _, hd, hs⟩ := VaultChain.attach_parts h
  have M := VaultChain.move_spec hm
  have hne : who ≠ dst := by
    have := VaultChain.Op.recv_ge hr
    omega
  have h1 := M.dstBal hne
  have h2 := M.srcBal hne
  have h3 := M.funded
  exact ⟨dst, s0, hr, hm, hs, h1, by omega, fun y g1 g2 => M.otherAcct y g2 g1,
    fun x y hx => M.otherAsset x y hx, M.pend, M.allTime, M.burned, M.ctr⟩

/-- **Coins attached to the router's `FlashLoan` are never left in a vault, and of the borrowed asset
    never in the router**: they are the router's when the chain starts (`s0`); with `s2` the state when
    the payload has finished, the vault of the borrowed asset receives exactly its quote, the router ends
    with nothing of the borrowed asset and the initiator (= the sender) receives the router's WHOLE
    remaining balance of it — attached coins of that denom included. Attached coins of ANY OTHER asset
    (another vault's asset, the denom without a vault) do not move after the payload: they stay where
    the payload left them, i.e. with the router unless the payload sends them on. -/
theorem chain_attached_coins_return {c : VaultChain.Cfg} {s s' : VaultChain.St} {who sel n : Nat}
    {e : Nat × Nat} {p : List VaultChain.RAct}
    (h : VaultChain.step c s (.attach who sel n (.rloan who [e] p)) = some s') :
    ∃ s0 s1 s2 : VaultChain.St, VaultChain.move c s sel who 5 n = some s0 ∧
      s0.bal sel 5 = s.bal sel 5 + n ∧ s0.bal sel who + n = s.bal sel who ∧
      (∀ y, y ≠ 5 → y ≠ who → s0.bal sel y = s.bal sel y) ∧ (∀ x y, x ≠ sel → s0.bal x y = s.bal x y) ∧
      VaultChain.chainGo c (fun t => VaultChain.rruns c t p) who [e] s0 [e] = some s' ∧
      VaultChain.lends c s0 [e] = some s1 ∧ VaultChain.rruns c s1 p = some s2 ∧
      s1.bal e.1 5 = s0.bal e.1 5 + e.2 ∧
      VaultChain.payback c e.1 e.2 ≤ s2.bal e.1 5 ∧
      s'.bal e.1 5 = 0 ∧
      s'.bal e.1 who = s2.bal e.1 who + (s2.bal e.1 5 - VaultChain.payback c e.1 e.2) ∧
      s'.bal e.1 (6 + e.1) + e.2 * (c.fees e.1).burn / E18 = s2.bal e.1 (6 + e.1) + VaultChain.payback c e.1 e.2 ∧
      (∀ x, x ≠ e.1 → ∀ y, s'.bal x y = s2.bal x y) := by
  obtain ⟨dst, s0, hr, hm, hs, h1, h2, h3, h4, _⟩ := chain_stray_coins_go_to_receiver h
  have hd : dst = 5 := by simp only [VaultChain.Op.recv, Option.some.injEq] at hr; omega
  subst hd
  obtain ⟨_, _, _, _, hw, _, _, _, _, _⟩ := VaultChain.attach_parts h
  rw [chain_rloan_single c s0 who e p hw] at hs
  obtain ⟨s1, s2, hl, hrun, S⟩ := VaultChain.chain_spec (by omega) hs
  have he : e ∈ [e] := List.mem_singleton.mpr rfl
  refine ⟨s0, s1, s2, hm, h1, h2, h3, h4, hs, hl, hrun, S.lentRouter e he, S.covered e he, S.router e he,
    S.initiator e he, S.vault e he, fun x hx y => S.otherAsset x (by simpa using hx) y⟩

/-- non-vacuity + the exact numbers: loan 500 000 at fees 1 % / 0.3 % / 0.1 %: payback 507 000;
    repaying 507 000 succeeds, 506 999 reverts, a nested loan reverts, a deposit reverts. -/
example :
    let s0 := Vault.init 0 ⟨10000000000000000, 3000000000000000, 1000000000000000⟩ [5000000, 5000000, 0, 100000, 0, 0]
    let s := reach s0 [.deposit 0 1000000 1000000]
    (payback s 500000 = 507000) ∧ (loanFrom s 500000 [.pay 507000]).isSome = true
      ∧ loanFrom s 500000 [.pay 506999] = none
      ∧ loanFrom s 10000 [.loan 990000 [.pay 999900], .pay 200] = none
      ∧ loanFrom s 500000 [.deposit 5, .pay 507000] = none := by
  decide +kernel

/-- non-vacuity + the exact numbers, router path: same vault, router pre-funded with 300 stray units,
    loan 500 000 through the router for user 1: payback 507 000. Funding 6 700 (300 + 500 000 + 6 700 =
    507 000) succeeds and leaves the router with 0 and user 1 unchanged; funding 6 699 reverts; funding
    8 000 forwards 1 300 to user 1; vault balance 1 000 000 → 1 006 500 (fees 5 000 + 1 500, 500 burned);
    a nested router loan, a deposit in the payload, an early CompleteLoan that sends the loan to user 0,
    a stranger's NextLoan all revert. -/
example :
    let s0 := Vault.init 0 ⟨10000000000000000, 3000000000000000, 1000000000000000⟩ [5000000, 5000000, 300, 100000, 0, 0]
    let s := reach s0 [.deposit 0 1000000 1000000, .fundRouter 2 300]
    let a := Vault.apply s (.routerLoan 1 500000 [.fund 6700])
    let b := Vault.apply s (.routerLoan 1 500000 [.fund 8000])
    (getN s.ab 5 = 300) ∧ (payback s 500000 = 507000)
      ∧ (a.bal, a.pend, a.burned, getN a.ab 5, getN a.ab 1, getN a.ab 3, a.ctr) = (1006500, 5000, 500, 0, 5000000, 93300, 0)
      ∧ (b.bal, getN b.ab 5, getN b.ab 1, getN b.ab 3) = (1006500, 0, 5001300, 92000)
      ∧ routerLoanFrom s 1 500000 [.fund 6699] = none
      ∧ routerLoanFrom s 1 500000 [.fund 8000, .routerLoan 5 7 [.fund 1]] = none
      ∧ routerLoanFrom s 1 500000 [.deposit 5, .fund 8000] = none
      ∧ (routerLoanFrom s 1 500000 [.adv [.collect, .pay 5], .fund 7000, .out 2 100]).isSome = true
      ∧ routerLoanFrom s 1 500000 [.fund 7000, .complete 0 100] = none
      ∧ step s (.nextLoanBy 1 0 [.out 1 300]) = none := by
  decide +kernel

/-- non-vacuity + the exact numbers, coins attached: the state of the previous example (router holding
    300 stray units). User 1 attaches 77 units of the asset to the same router loan (payload funds
    8 000): vault 1 006 500 as without them, router 0, user 1 ends with 5 001 300 exactly as without
    them (−77 + 1 377 forwarded) — the coins are back. Attaching 55 units of the unrelated denom leaves
    them on the router (entry 5 of `jb`) and changes nothing else. The borrower contract attaching 9
    units to its own direct `FlashLoan` of 1 000 (payback 1 014) donates them: vault balance + 9 + 13.
    With the payload funding only 6 623 the 77 attached units complete the quote (300 + 77 + 500 000 +
    6 623 = 507 000); 76 do not. On a cw20 vault a coin of the asset's denom cannot be attached at all. -/
example :
    let s0 := Vault.init 0 ⟨10000000000000000, 3000000000000000, 1000000000000000⟩ [5000000, 5000000, 300, 100000, 0, 0]
    let s := reach s0 [.deposit 0 1000000 1000000, .fundRouter 2 300]
    let a := Vault.apply s (.attach 1 0 77 (.routerLoan 1 500000 [.fund 8000]))
    let b := Vault.apply s (.attach 1 1 55 (.routerLoan 1 500000 [.fund 8000]))
    let d := Vault.apply s (.attach 3 0 9 (.loan 1000 [.pay 1014]))
    (a.bal, getN a.ab 5, getN a.ab 1, getN a.ab 3) = (1006500, 0, 5001300, 92000) ∧ a.jb = s.jb
      ∧ (b.bal, getN b.ab 5, getN b.ab 1, getN b.jb 5, getN b.jb 7) = (1006500, 0, 5001300, 55, 0)
      ∧ getN b.jb 1 + 55 = getN s.jb 1
      ∧ (d.bal, getN d.ab 3, d.pend, d.burned) = (1000022, 99977, 10, 1)
      ∧ (step s (.attach 1 0 77 (.routerLoan 1 500000 [.fund 6623]))).isSome = true
      ∧ step s (.attach 1 0 76 (.routerLoan 1 500000 [.fund 6623])) = none
      ∧ step s (.attach 1 0 0 (.routerLoan 1 500000 [.fund 8000])) = none
      ∧ step { s with kind := 1 } (.attach 1 0 77 (.routerLoan 1 500000 [.fund 8000])) = none
      ∧ step s (.attach 1 0 5 (.deposit 1 100 95)) = none
      ∧ (step s (.attach 1 1 5 (.deposit 1 100 100))).isSome = true
      ∧ step s (.attach 1 1 5 (.nextLoanBy 1 0 [])) = none := by
  decide +kernel

/-- non-vacuity + the exact numbers, three vaults (0: native, fees 1 % / 0.3 % / 0.1 %; 1: cw20, no fees;
    2: native, 2 % protocol fee), 1 000 000 in each, the router holding 7 stray units of asset 1.
    User 1 borrows 1 000 from vault 0 through the router's FlashLoan and, in the payload, 500 from
    vault 1 and 300 from vault 2 through the NextLoan chain (paybacks 1 014, 500, 306): funding 7 of
    asset 2 and 14 of asset 0 succeeds — vault balances 1 000 013 (1 burned), 1 000 000, 1 000 006, the
    router ends with nothing of any asset, user 1 receives the 7 stray units of asset 1 and 1 unit of
    asset 2, no vault holds a foreign asset. One unit less for vault 2 (fund 5) reverts everything;
    so do the same vault twice, an asset without a vault, a loan above a vault's balance, a failing
    payload, two assets sent to FlashLoan directly. -/
example :
    let c : VaultChain.Cfg := ⟨3, fun j => if j = 1 then 1 else 0,
      fun j => if j = 0 then ⟨10000000000000000, 3000000000000000, 1000000000000000⟩
        else if j = 1 then ⟨0, 0, 0⟩ else ⟨20000000000000000, 0, 0⟩⟩
    let z : Nat → Nat := fun _ => 0
    let s : VaultChain.St := ⟨z, z, z, z,
      fun j a => if a = 3 then 100000 else if a = 6 + j then 1000000 else if a = 5 ∧ j = 1 then 7 else 0⟩
    let a := VaultChain.apply c s (.rloan 1 [(0, 1000)] [.chain 1 [(1, 500), (2, 300)] [.fund 2 7], .fund 0 14])
    (VaultChain.payback c 0 1000, VaultChain.payback c 1 500, VaultChain.payback c 2 300) = (1014, 500, 306)
      ∧ (a.bal 0 6, a.bal 1 7, a.bal 2 8) = (1000013, 1000000, 1000006)
      ∧ (a.bal 0 5, a.bal 1 5, a.bal 2 5) = (0, 0, 0)
      ∧ (a.bal 0 1, a.bal 1 1, a.bal 2 1) = (0, 7, 1)
      ∧ (a.bal 1 6, a.bal 2 6, a.bal 0 7, a.bal 2 7, a.bal 0 8, a.bal 1 8) = (0, 0, 0, 0, 0, 0)
      ∧ (a.pend 0, a.burned 0, a.pend 2, a.ctr 0, a.ctr 1, a.ctr 2) = (10, 1, 6, 0, 0, 0)
      ∧ (VaultChain.step c s (.rloan 1 [(0, 1000)] [.chain 1 [(1, 500), (2, 300)] [.fund 2 5], .fund 0 14])).isNone = true
      ∧ (VaultChain.step c s (.rloan 1 [(0, 1000)] [.chain 1 [(1, 500), (1, 300)] [], .fund 0 14])).isNone = true
      ∧ (VaultChain.step c s (.rloan 1 [(0, 1000)] [.chain 1 [(1, 500), (0, 300)] [], .fund 0 14])).isNone = true
      ∧ (VaultChain.step c s (.rloan 1 [(0, 1000)] [.chain 1 [(1, 500), (3, 300)] [], .fund 0 14])).isNone = true
      ∧ (VaultChain.step c s (.rloan 1 [(0, 1000)] [.chain 1 [(1, 500), (2, 1000001)] [.fund 2 30000], .fund 0 14])).isNone = true
      ∧ (VaultChain.step c s (.rloan 1 [(0, 1000)] [.chain 1 [(1, 500), (2, 300)] [.fund 2 7, .fail], .fund 0 14])).isNone = true
      ∧ (VaultChain.step c s (.rloan 1 [(0, 1000), (1, 500)] [.fund 0 14])).isNone = true := by
  -- (the states hold balances as functions: evaluated by the kernel directly, without the elaborator's pass)
  decide +kernel

end WW.C06
