/-
  C02 — Constant-product swap: exact price, exact fee split, no free money.
  Property theorems only (helpers live in WW/Proofs). The model `cpSwap` is the replica of
  `terraswap_pair::helpers::compute_swap` (ConstantProduct arm); it is tied to the Rust by the
  `swapmath` correspondence engine.
-/
import WW.Proofs.CpSwap
namespace WW.C02
open WW

/-- The property's quantifier: reserves and offer in `[1, 2^128)`, fee triple valid
    (each share and the total below 100 %). Decimal settings do not enter the computation. -/
structure Dom (op ap off : Nat) (f : Fees) : Prop where
  op1 : 1 ≤ op
  ap1 : 1 ≤ ap
  off1 : 1 ≤ off
  op128 : op ≤ U128MAX
  ap128 : ap ≤ U128MAX
  off128 : off ≤ U128MAX
  fees : f.valid = true

/-- The swap computation never aborts (no panic) anywhere on the domain. -/
theorem never_panics {op ap off : Nat} {f : Fees} (h : Dom op ap off f) :
    cpSwap op ap off f ≠ .panic := by
  rw [cpSwap_closed h.op128 h.ap128 h.off128 h.op1 h.fees]
  split <;> simp

/-- It is computed (returns `Ok`) exactly when the result — whose only field that can exceed the
    ask reserve is the spread — fits in 128 bits; otherwise it returns an error, never a panic. -/
theorem ok_iff_fits {op ap off : Nat} {f : Fees} (h : Dom op ap off f) :
    (∃ c, cpSwap op ap off f = .ok c) ↔ cpSpread op ap off ≤ U128MAX := by
  rw [cpSwap_closed h.op128 h.ap128 h.off128 h.op1 h.fees]
  constructor
  · rintro ⟨c, hc⟩
    by_contra hn
    rw [if_neg hn] at hc
    cases hc
  · intro hs
    exact ⟨_, if_pos hs⟩

/-- proceeds + swap fee + protocol fee + burn fee = ⌊ask·offer/(offer_reserve+offer)⌋ exactly -/
theorem gross_identity {op ap off : Nat} {f : Fees} (h : Dom op ap off f) {c : SwapComp}
    (hc : cpSwap op ap off f = .ok c) :
    c.ret + c.swapFee + c.protFee + c.burnFee = ap * off / (op + off) := by
  obtain ⟨-, -, -, -, hsum, -⟩ := cpSwap_ok hc
  exact hsum

theorem fee_exact {op ap off : Nat} {f : Fees} (h : Dom op ap off f) {c : SwapComp}
    (hc : cpSwap op ap off f = .ok c) :
    c.swapFee = (ap * off / (op + off)) * f.swap / E18 ∧
    c.protFee = (ap * off / (op + off)) * f.prot / E18 ∧
    c.burnFee = (ap * off / (op + off)) * f.burn / E18 :=
  have ⟨_, hs, hp, hb, _⟩ := cpSwap_ok hc
  ⟨hs, hp, hb⟩

theorem proceeds_lt_reserve {op ap off : Nat} {f : Fees} (h : Dom op ap off f) {c : SwapComp}
    (hc : cpSwap op ap off f = .ok c) : c.ret < ap := by
  obtain ⟨-, -, -, -, hsum, -⟩ := cpSwap_ok hc
  have := cpGross_lt_ask (off := off) h.op1 h.ap1
  omega

/-- Swapping there and straight back (the pool state in between being what the pair contract
    reports: offer reserve + offer, ask reserve − proceeds − protocol fee − burn fee) never returns
    more than was put in — even gross of the second swap's fees — for any valid fees incl. zero.
    `hpool`: the intermediate offer reserve is itself a `Uint128` (it is a token balance). -/
theorem round_trip_no_profit {op ap off : Nat} {f : Fees} (h : Dom op ap off f)
    (hpool : op + off ≤ U128MAX) {c c2 : SwapComp}
    (hc : cpSwap op ap off f = .ok c)
    (hc2 : cpSwap (ap - c.ret - c.protFee - c.burnFee) (op + off) c.ret f = .ok c2) :
    c2.ret + c2.swapFee + c2.protFee + c2.burnFee ≤ off := by
  obtain ⟨-, -, -, -, hsum, -⟩ := cpSwap_ok hc
  obtain ⟨-, -, -, -, hsum2, -⟩ := cpSwap_ok hc2
  rw [hsum2]
  exact round_trip_back (g := cpGross op ap off) (Nat.div_mul_le_self _ _) (by omega)
    (cpGross_le_ask op ap off)

/-- non-vacuity: a concrete swap with non-zero fees inside the domain, and its exact outcome -/
example : cpSwap 1000000 2000000 1000 ⟨1000000000000000, 3000000000000000, 500000000000000⟩
    = .ok ⟨1992, 2, 5, 1, 0⟩ := by decide +kernel

end WW.C02
