/-
  C05 — Flash-loan vault: depositor share price never decreases.
  Model: WW/Model/Vault.lean (tied to the real vault contract by the `vault`
  correspondence engine); helpers: WW/Proofs/Vault.lean.

  `backing s = balance − pending protocol fees`, `s.sup` = share (LP) supply. "Share price never
  decreases" is stated cross-multiplied and exact in ℕ:  backing s · sup' ≤ backing s' · sup.
  All theorems hold for native and cw20 vault assets alike (`s.kind` is arbitrary), for every valid
  or invalid stored fee triple, for every amount, and for every borrower callback tree.
-/
import WW.Proofs.Vault
namespace WW.C05
open WW WW.Vault

/-- Every successful operation — deposit, withdrawal, fee collection, fee / toggle change, donation,
    flash loan with an arbitrary callback tree, flash loan through the vault router with an arbitrary
    payload, plain transfers to the router, refused router calls, refused foreign entry points
    (direct `Withdraw {}`, hooks from other tokens, `Callback` from outside) — preserves the vault invariant and
    does not lower the assets backing one share. -/
theorem price_step {s s' : St} (op : Op) (hI : Inv s) (h : step s op = some s') :
    Inv s' ∧ (0 < s.sup → backing s * s'.sup ≤ backing s' * s.sup) :=
  step_price hI h

/-- The invariant holds in every reachable state (failed operations leave the state untouched). -/
theorem inv_reach {s : St} (hI : Inv s) (ops : List Op) : Inv (reach s ops) :=
  Vault.inv_reach hI ops

/-- the vault's own stake never moves once it exists -/
private theorem lpVault_keep {s s' : St} (op : Op) (hI : Inv s) (h : step s op = some s') :
    s'.lpVault = s.lpVault ∨ s.sup = 0 := by
  have hS := Step.of_step h
  clear h
  induction hS with
  | @deposit s _ _ _ _ _ h =>
    obtain ⟨_, rfl⟩ := deposit_eq_some.mp h
    by_cases h0 : s.sup = 0
    · exact .inr h0
    · exact .inl (by simp only [depositRes, if_neg h0, Nat.add_zero])
  | withdraw _ h => obtain ⟨_, _, _, rfl⟩ := withdraw_some h; exact .inl rfl
  | collect h => rcases collect_eq_some.mp h with ⟨_, rfl⟩ | ⟨_, _, rfl⟩ <;> exact .inl rfl
  | setFees | setToggles | routerLoanNone => exact .inl rfl
  | loan h => exact .inl (loan_spec hI h).lpVault
  | routerLoan hi h => exact .inl (router_loan_spec hI (by omega) h).lpVault
  | donate hw h => exact .inl (payIn_donated hI (by omega) h).lpVault
  | fundRouter hw h => exact .inl (move_donated hI (by omega) (by omega) h).lpVault
  | attach ha _ ih =>
    have A := arrive_spec hI ha
    rcases ih A.inv with h1 | h1
    · left; rw [h1, A.lpVault]
    · right; rw [← A.sup]; exact h1

/-- Once shares exist they exist forever (the locked minimum can never be withdrawn). -/
theorem supply_stays_positive {s s' : St} (op : Op) (hI : Inv s) (h : step s op = some s')
    (hpos : 0 < s.sup) : 0 < s'.sup := by
  have hI' := (price_step op hI h).1
  rcases hI'.locked with ⟨h0, h1⟩ | h1
  · -- s'.sup = 0 ∧ s'.lpVault = 0 is impossible: the vault's own stake never moves once created
    exfalso
    have hv := hI.sup_pos_locked (by omega)
    have hkeep := lpVault_keep op hI h
    have := min_liq_pos
    rcases hkeep with hk | hk <;> omega
  · have := hI'.lpSum
    have := min_liq_pos
    omega

/-- **Share price is monotone over every history**: from any invariant state with shares
    outstanding, after any finite sequence of operations by any users (failed ones skipped),
    assets per share have not decreased. -/
theorem price_reach {s : St} (hI : Inv s) (hpos : 0 < s.sup) (ops : List Op) :
    0 < (reach s ops).sup ∧ backing s * (reach s ops).sup ≤ backing (reach s ops) * s.sup := by
  refine (reach_induction (P := fun t => Inv t ∧ 0 < t.sup ∧ backing s * t.sup ≤ backing t * s.sup) ?_
    ⟨hI, hpos, le_refl _⟩ ops).2
  intro t op t' ⟨hIt, hpt, hle⟩ h
  obtain ⟨hI', hp⟩ := price_step op hIt h
  exact ⟨hI', supply_stays_positive op hIt h hpt, price_trans hle (hp hpt) hpt⟩

/-- A deposit mints at most the pro-rata number of shares: `minted · backing ≤ amount · supply`. -/
theorem deposit_le_pro_rata {s s' : St} {who amount sent : Nat} (hI : Inv s) (hpos : 0 < s.sup)
    (h : deposit s who amount sent = some s') :
    depositMint s amount * backing s ≤ amount * s.sup ∧
    getN s'.lb who = getN s.lb who + depositMint s amount ∨ 4 ≤ who := by
  by_cases hw : who < 4
  · left
    obtain ⟨_, rfl⟩ := deposit_eq_some.mp h
    constructor
    · exact depositMint_le amount (by omega)
    · simp only [depositRes]
      exact getN_setN_same _ _ _ (by rw [hI.lbLen]; exact hw)
  · right; omega

/-- A withdrawal pays at most the pro-rata amount: `paid · supply ≤ backing · shares`. -/
theorem withdraw_le_pro_rata {s s' : St} {who lp : Nat} (hI : Inv s) (hw : who < 4)
    (h : withdraw s who lp = some s') :
    shareOf s lp * s.sup ≤ backing s * lp ∧ s'.bal + shareOf s lp = s.bal := by
  refine ⟨shareOf_le s lp, ?_⟩
  obtain ⟨hok, out, hout, rfl⟩ := withdraw_some h
  have hle := (withdrawOk_iff.mp hok).2.2.2.2.2
  rw [← hout] at hle ⊢
  exact Nat.sub_add_cancel hle

/-- The first deposit locks exactly `MINIMUM_LIQUIDITY_AMOUNT` (= 1000) shares in the vault itself
    and gives the depositor the rest. -/
theorem first_deposit_locks {s s' : St} {who amount sent : Nat} (hI : Inv s) (hw : who < 4)
    (h0 : s.sup = 0) (h : deposit s who amount sent = some s') :
    s'.lpVault = 1000 ∧ s'.sup = amount ∧ getN s'.lb who = getN s.lb who + (amount - 1000) := by
  have hsup := (deposit_sup h).trans (if_pos h0)
  obtain ⟨_, rfl⟩ := deposit_eq_some.mp h
  have hmin : Gen.MINIMUM_LIQUIDITY_AMOUNT = 1000 := by decide
  have hv := hI.sup_zero_lpVault h0
  refine ⟨?_, hsup, ?_⟩
  · simp only [depositRes, if_pos h0]; omega
  · simp only [depositRes, depositMint, if_pos h0, hmin]
    exact getN_setN_same _ _ _ (by rw [hI.lbLen]; exact hw)

/-- …and it stays locked: in every reachable state with shares outstanding the vault holds exactly
    1000 of its own shares. -/
theorem locked_forever {s : St} (hI : Inv s) (ops : List Op) (h : (reach s ops).sup ≠ 0) :
    (reach s ops).lpVault = 1000 := by
  have := (inv_reach hI ops).sup_pos_locked h
  rw [this]; decide

/-- arithmetic core of deposit-then-withdraw -/
private theorem dtw_core (T S a lp out : Nat) (hS : 0 < S) (hlp : lp * T ≤ a * S)
    (hout : out * (S + lp) ≤ (T + a) * lp) : out ≤ a := by
  refine Nat.le_of_mul_le_mul_right (hout.trans ?_) (Nat.add_pos_left hS lp)
  rw [Nat.add_mul, Nat.mul_add, Nat.mul_comm T]
  exact Nat.add_le_add_right hlp _

/-- Deposit-then-withdraw never returns more than was deposited.
    `hempty`: an empty vault holds nothing (true in every state reachable by the vault's own
    operations; somebody who *donates* to an empty vault makes a gift to the first depositor —
    outside the property's operation set, exercised separately by the harness). -/
theorem deposit_then_withdraw_le {s s1 s2 : St} {who amount sent lp : Nat} (hI : Inv s) (hw : who < 4)
    (hempty : s.sup = 0 → backing s = 0)
    (hd : deposit s who amount sent = some s1) (hlp : lp ≤ depositMint s amount)
    (hwd : withdraw s1 who lp = some s2) : shareOf s1 lp ≤ amount := by
  obtain ⟨hI1, hbal, hpend, _⟩ := deposit_spec hI hw hd
  obtain ⟨_, _, _, _, hfirst, _⟩ := depositOk_iff.mp (deposit_eq_some.mp hd).1
  have hshare := shareOf_le s1 lp
  have hb1 : backing s1 = backing s + amount := by
    have := hI.pendLe; unfold backing; omega
  by_cases h0 : s.sup = 0
  · -- first deposit: everything backing the vault is this deposit
    have hmin := hfirst h0
    have hs : s1.sup = amount := (deposit_sup hd).trans (if_pos h0)
    have hm : depositMint s amount ≤ amount := by
      unfold depositMint; rw [if_pos h0]; exact Nat.sub_le ..
    rw [hb1, hempty h0, hs, Nat.zero_add] at hshare
    exact Nat.le_of_mul_le_mul_right (hshare.trans (Nat.mul_le_mul_left _ (hlp.trans hm)))
      (Nat.zero_lt_of_lt hmin)
  · have hs : s1.sup = s.sup + depositMint s amount := (deposit_sup hd).trans (if_neg h0)
    have hmint := depositMint_le amount h0
    rw [hb1, hs] at hshare
    apply dtw_core (backing s) s.sup amount lp (shareOf s1 lp) (Nat.pos_of_ne_zero h0)
    · exact le_trans (Nat.mul_le_mul_right _ hlp) hmint
    · -- monotone in the share count: withdrawing lp ≤ minted of (S + minted)
      exact (Nat.mul_le_mul_left _ (Nat.add_le_add_left hlp _)).trans hshare

/-! ### coins attached to a message that does not ask for them

`price_step`, `inv_reach`, `price_reach`, `locked_forever` quantify over ALL operations, the ones
carrying stray coins (`Op.attach`) included. -/

/-- **Stray coins never lower the share price and never touch the share ledgers**: a message sent to
    the vault or the router with coins attached that it does not ask for (any sender, the vault asset's
    own denom or an unrelated one, any amount) runs exactly as the same message without coins from a
    state `s1` that differs from `s` by at most a donation — the vault's balance did not fall, pending
    fees, share supply, every share balance and the locked minimum are those of `s`, the invariant
    holds — so (by `price_step` for the message itself) assets per share did not fall. -/
theorem stray_coins_never_lower_price {s s' : St} {who sel n : Nat} {op : Op} (hI : Inv s)
    (h : step s (.attach who sel n op) = some s') :
    ∃ s1, step s1 op = some s' ∧ Inv s1 ∧ backing s ≤ backing s1 ∧ s1.sup = s.sup ∧ s1.lb = s.lb ∧
      s1.lpVault = s.lpVault ∧ s1.pend = s.pend ∧
      (0 < s.sup → backing s * s'.sup ≤ backing s' * s.sup) := by
  obtain ⟨dst, s1, _, _, ha, hs⟩ := attach_parts h
  have A := arrive_spec hI ha
  exact ⟨s1, hs, A.inv, A.backing_le, A.sup, A.lb, A.lpVault, A.pend, (price_step _ hI h).2⟩

/-- `Deposit` on a vault accepts exactly the announced amount of the asset (native: the coins of the
    asset's denom attached; cw20: the allowance): one unit more or less attached is refused
    (`FundsMismatch`) — extra coins of the asset's denom can never be credited or swallowed. -/
theorem deposit_exact_funds {s s' : St} {who amount sent : Nat}
    (h : step s (.deposit who amount sent) = some s') : sent = amount := by
  cases Step.of_step h with
  | deposit _ hd => exact (depositOk_iff.mp (deposit_eq_some.mp hd).1).2.2.2.1

/-- Coins of an unrelated denom attached to a `Deposit` do not change what the deposit mints or moves:
    the depositor gets exactly the shares of the same deposit without them. -/
theorem deposit_with_foreign_coins {s s' : St} {who sel n w amount sent : Nat} (hsel : sel ≠ 0)
    (h : step s (.attach who sel n (.deposit w amount sent)) = some s') :
    ∃ s1, step s1 (.deposit w amount sent) = some s' ∧ s1.bal = s.bal ∧ s1.ab = s.ab ∧ s1.lb = s.lb ∧
      s1.sup = s.sup ∧ s1.pend = s.pend ∧ depositMint s1 amount = depositMint s amount := by
  obtain ⟨dst, s1, _, _, ha, hs⟩ := attach_parts h
  obtain ⟨rfl, _⟩ := arrive_junk hsel ha
  exact ⟨_, hs, rfl, rfl, rfl, rfl, rfl, rfl⟩

/-- non-vacuity: a concrete history (deposit, loan with fees, collect, partial withdrawal) from the
    initial state satisfies the invariant, has shares outstanding, and its share price moved up. -/
example :
    let s0 := Vault.init 0 ⟨10000000000000000, 3000000000000000, 1000000000000000⟩ [5000000, 5000000, 0, 100000, 0, 0]
    let s := reach s0 [.deposit 0 1000000 1000000, .loan 500000 [.pay 507000], .collect, .withdraw 0 400000]
    (s.bal, s.pend, s.sup, s.lpVault, s.burned, shareOf s 1000000) = (600900, 0, 600000, 1000, 500, 1001499) := by
  decide +kernel

end WW.C05
