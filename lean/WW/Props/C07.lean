/-
  C07 — Protocol and burn fees: every unit charged is accounted, nothing else moves.
  The property spans four contract families; the pool, vault and pair models carry GHOST
  sums next to the real ledgers — what was charged, what collections transferred to the collector, what
  was burned (3pool: `charged` / `sent` / `burnedSum`; pair: `chg` / `sent` / `brn`; vault: `sent` only,
  its real `allTime` and `burned` counters being the sums of the charges) — and the theorems say the
  real ledgers equal these sums in every reachable state:

    * three-asset stableswap pool — model WW/Model/Trio.lean (engine `trio`), lemmas in WW/Proofs/Trio.lean
    * flash-loan vault           — model WW/Model/Vault.lean (engine `vault`), lemmas in WW/Proofs/VaultLedger.lean
    * constant-product / two-asset stableswap pair — model WW/Model/Pair.lean (engine `pair`), lemmas
      in WW/Proofs/Pair.lean.  The pair theorems are stated for an
      ARBITRARY `Curve` (swap computation + LP mint rule), so they cover the constant-product and the
      two-asset stableswap pair alike: the ledger code in `commands.rs` is shared by both.
    * the fee collector's `CollectFees` — the message that TRIGGERS the collections of pairs and vaults —
      model WW/Model/{Collector,Feeflow}.lean (engine `feeflow`, also with coins attached to the message):
      the theorems are those of WW/Props/C10.lean.  A collection can reach a vault while
      one of its flash loans is in flight (the borrower sends `NewEpoch` / `CollectFees` from its callback:
      `Feeflow.Op.inloan`): `vault_ledger_across_inloan`.
-/
import WW.Proofs.Trio
import WW.Proofs.VaultLedger
import WW.Proofs.Pair
import WW.Props.C01
import WW.Props.C10
namespace WW.C07
open WW

/-! ## three-asset stableswap pool -/

/-- pending ledger = charged − transferred to the collector, for each of the three assets, after
    ANY history of provide / withdraw / swap / collect / config / donate operations -/
theorem trio_ledger_eq {s : Trio.St} (hi : Trio.Inv s) (ops : List (Nat × Nat × Trio.Op)) (i : Nat) :
    (Trio.run s ops).pend i = (Trio.run s ops).charged i - (Trio.run s ops).sent i ∧
    (Trio.run s ops).sent i ≤ (Trio.run s ops).charged i := Trio.trio_ledger_eq hi ops i

/-- the all-time collected counter equals the sum of the individual protocol-fee charges -/
theorem trio_all_time_eq {s : Trio.St} (hi : Trio.Inv s) (ops : List (Nat × Nat × Trio.Op)) (i : Nat) :
    (Trio.run s ops).allTime i = (Trio.run s ops).charged i := Trio.trio_all_time_eq hi ops i

/-- the all-time burned counter equals the sum of the individual burn charges -/
theorem trio_burned_eq {s : Trio.St} (hi : Trio.Inv s) (ops : List (Nat × Nat × Trio.Op)) (i : Nat) :
    (Trio.run s ops).burned i = (Trio.run s ops).burnedSum i := Trio.trio_burned_eq hi ops i

/-- counters only grow, and burned amounts really leave circulation (the asset's total supply drops
    by exactly the growth of the burn sum) -/
theorem trio_counters_step {s s' : Trio.St} {h u : Nat} {op : Trio.Op} (hs : Trio.step h u s op = .ok s')
    (i : Nat) :
    s.allTime i ≤ s'.allTime i ∧ s.burned i ≤ s'.burned i ∧ s.charged i ≤ s'.charged i ∧
    s.burnedSum i ≤ s'.burnedSum i ∧ s'.sup i = s.sup i - (s'.burnedSum i - s.burnedSum i) :=
  Trio.trio_counters_step hs i

/-- collecting transfers exactly the pending entries above the collectable threshold, to the
    configured collector and to no one else, zeroes exactly those entries (smaller ones stay on the
    ledger) and leaves every reported reserve, the counters and the LP supply unchanged -/
theorem trio_collect_exact {s s' : Trio.St} (hc : Trio.collect s = .ok s') (hi : Trio.Inv s) (j : Nat) :
    (s'.ub s.collector j = s.ub s.collector j + (if Trio.collectable s j then s.pend j else 0)) ∧
    (∀ a, a ≠ s.collector → s'.ub a j = s.ub a j) ∧
    (s'.pend j = if Trio.collectable s j then 0 else s.pend j) ∧
    (s'.bal j - s'.pend j = s.bal j - s.pend j) ∧
    (s.bal j - s'.bal j = if Trio.collectable s j then s.pend j else 0) ∧
    s'.allTime j = s.allTime j ∧ s'.burned j = s.burned j ∧ s'.lpSup = s.lpSup ∧
    s'.collector = s.collector := Trio.trio_collect_exact hc hi j

/-! ## flash-loan vault -/

/-- what one successful vault transaction does to the ledgers: it charges `pf` (only a flash loan —
    direct or through the router — charges anything, and then exactly `⌊share·loan⌋`), burns `bf`
    (supply drops by exactly `bf`), and moves `c` from the pending ledger to the collector.
    `op.core` = the message itself without stray coins that may be attached to it (`Op.attach`): the
    statement covers every message sent WITH coins it does not ask for. -/
theorem vault_step_ledger {s s' : Vault.St} (op : Vault.Op) (hI : Vault.Inv s)
    (h : Vault.step s op = some s') :
    ∃ pf bf c, Vault.LedgerStep s s' pf bf c ∧
      (pf ≠ 0 ∨ bf ≠ 0 →
        ∃ amount, (∃ cb, op.core = .loan amount cb) ∨ (∃ i p, op.core = .routerLoan i amount p)) :=
  Vault.step_ledger hI h

/-- pending = charged − transferred (`allTime` is the sum of all charges, `sent` the ghost sum of
    all collections), and burned + circulating supply is constant, after ANY history of vault
    operations incl. flash loans with arbitrary (re-entrant, collecting) callback trees -/
theorem vault_ledger_eq {K : Nat} {s : Vault.St} (hI : Vault.Inv s) (hL : Vault.LedgerInv K s)
    (ops : List Vault.Op) :
    let s' := Vault.reach s ops
    s'.pend = s'.allTime - s'.sent ∧ s'.sent ≤ s'.allTime ∧ s'.burned + s'.assetSupply = K := by
  intro s'
  have key : Vault.Inv s' ∧ Vault.LedgerInv K s' :=
    Vault.reach_induction (P := fun t => Vault.Inv t ∧ Vault.LedgerInv K t)
      (fun _ op _ ⟨hI, hL⟩ h => ⟨(Vault.step_price hI h).1, Vault.ledgerInv_step hI hL h⟩) ⟨hI, hL⟩ ops
  have := key.2.ledger
  exact ⟨by omega, by omega, key.2.supply⟩

/-- the ledger invariant holds right after instantiation (nothing charged, nothing sent) -/
theorem vault_ledger_init (kind : Nat) (f : Vault.VFees) (ab : List Nat) :
    Vault.LedgerInv (Vault.init kind f ab).assetSupply (Vault.init kind f ab) :=
  ⟨rfl, by simp [Vault.init]⟩

/-- all-time and burned counters only grow -/
theorem vault_counters_monotone {s s' : Vault.St} (op : Vault.Op) (hI : Vault.Inv s)
    (h : Vault.step s op = some s') : s.allTime ≤ s'.allTime ∧ s.burned ≤ s'.burned ∧ s.sent ≤ s'.sent := by
  obtain ⟨pf, bf, c, L, _⟩ := Vault.step_ledger hI h
  have := L.allTime; have := L.burned; have := L.sent
  omega

/-- collecting transfers exactly the pending amount to the collector (account 4), zeroes the ledger,
    and leaves the assets backing the shares and the share supply unchanged -/
theorem vault_collect_exact {s s' : Vault.St} (hI : Vault.Inv s) (h : Vault.collect s = some s') :
    Vault.getN s'.ab 4 = Vault.getN s.ab 4 + s.pend ∧ s'.pend = 0 ∧ s'.bal + s.pend = s.bal ∧
    Vault.backing s' = Vault.backing s ∧ s'.sup = s.sup := by
  obtain ⟨_, hb, hs, h4, hp, hbal⟩ := Vault.collect_spec hI h
  exact ⟨h4, hp, hbal, hb, hs⟩

/-- … and to no one else -/
theorem vault_collect_to_collector_only {s s' : Vault.St} (h : Vault.collect s = some s') (j : Nat)
    (hj : j ≠ 4) : Vault.getN s'.ab j = Vault.getN s.ab j := by
  rcases Vault.collect_eq_some.mp h with ⟨_, rfl⟩ | ⟨_, _, rfl⟩
  · rfl
  · exact Vault.getN_setN_ne _ _ _ _ hj.symm

/-- **Stray coins never change the ledgers**: coins attached to any message of the vault or the router
    that does not ask for them (the vault asset's own denom or an unrelated one, any sender, any amount)
    arrive before the handler runs and leave pending fees, the all-time and burned counters, the ghost
    sum of collector transfers, the asset's total supply, the fee configuration and the toggles as they
    were; the message then runs from that state `s1` exactly as without coins. -/
theorem vault_stray_coins_keep_ledgers {s s' : Vault.St} {who sel n : Nat} {op : Vault.Op}
    (hI : Vault.Inv s) (h : Vault.step s (.attach who sel n op) = some s') :
    ∃ s1, Vault.step s1 op = some s' ∧ s1.pend = s.pend ∧ s1.allTime = s.allTime ∧ s1.burned = s.burned ∧
      s1.sent = s.sent ∧ s1.assetSupply = s.assetSupply ∧ s1.fees = s.fees ∧ s.bal ≤ s1.bal ∧
      Vault.getN s1.ab 4 = Vault.getN s.ab 4 := by
  obtain ⟨dst, s1, _, _, ha, hs⟩ := Vault.attach_parts h
  have A := Vault.arrive_spec hI ha
  refine ⟨s1, hs, A.pend, A.allTime, A.burned, A.sent, A.assetSupply, A.fees, A.balGe, ?_⟩
  -- the collector (account 4) is neither a sender nor a receiving contract
  by_cases hsel : sel = 0
  · subst hsel
    obtain ⟨ha, hw, _, _⟩ := Vault.arrive_own ha
    split_ifs at ha
    · obtain ⟨_, rfl⟩ := Vault.payIn_eq_some.mp ha
      exact Vault.getN_setN_ne _ _ _ _ (by omega)
    · obtain ⟨_, rfl⟩ := Vault.move_eq_some.mp ha
      exact Vault.lmove_other _ _ _ _ _ (by omega) (by omega)
  · obtain ⟨rfl, _⟩ := Vault.arrive_junk hsel ha
    rfl

/-- The unrelated denom is never paid out by the vault or the router: over ANY history (stray coins
    attached to any messages, loans with arbitrary callbacks and payloads) its total is conserved, no
    account other than the vault (entry 7) and the router (entry 5) ever gains any, and those two never
    lose any — stray coins of a foreign denom stay on the contract they were sent to. -/
theorem vault_foreign_coins_stay {s : Vault.St} (hI : Vault.Inv s) (hj : s.jb.length = 8)
    (ops : List Vault.Op) :
    Vault.JRel s (Vault.reach s ops) :=
  (Vault.reach_induction (P := fun t => Vault.Inv t ∧ Vault.JRel s t)
    (fun _ op _ ⟨hIt, r⟩ h =>
      ⟨(Vault.step_price hIt h).1, r.trans (Vault.step_jrel hIt (r.len.trans hj) h)⟩)
    ⟨hI, .of_eq rfl⟩ ops).2

/-- non-vacuity: a concrete vault history with a loan, a collection and a second loan -/
example :
    let s0 := Vault.init 0 ⟨10000000000000000, 3000000000000000, 1000000000000000⟩ [5000000, 5000000, 0, 100000, 0, 0]
    let s := Vault.reach s0 [.deposit 0 1000000 1000000, .loan 500000 [.pay 507000], .collect, .loan 100000 [.pay 101400]]
    (s.pend, s.sent, s.allTime, s.burned, s0.assetSupply - s.assetSupply) = (1000, 5000, 6000, 600, 600) := by
  decide

/-! ## constant-product / two-asset stableswap pair (any `Curve`) -/

/-- in every state reachable from a state satisfying the ledger invariant (e.g. a freshly
    instantiated pair, `pair_ledger_init`), by ANY history of provide / swap / withdraw / collect /
    fee changes / plain transfers / malformed swaps, for BOTH assets and ANY pair type:
    pending = charged − transferred to the collector; all-time collected = Σ protocol-fee charges;
    all-time burned = Σ burn charges; the two collector accounts (the one named at instantiation and the
    one `UpdateConfig{fee_collector_addr}` can switch to) together hold exactly what collections sent;
    circulating amount + burned = constant (burned amounts really leave circulation); and every
    circulating unit is on the pair, with the collector or with a user (nothing else moves) -/
theorem pair_ledger_eq {cv : Pair.Curve} {K0 C0 K1 C1 : Nat} (s : Pair.St) (hL : Pair.LInv K0 C0 K1 C1 s)
    (ops : List Pair.Op) :
    let s' := Pair.reach cv s ops
    (s'.x0.pend = s'.x0.chg - s'.x0.sent ∧ s'.x0.sent ≤ s'.x0.chg ∧ s'.x0.allTime = s'.x0.chg ∧
      s'.x0.burned = s'.x0.brn ∧ s'.x0.col + s'.x0.colB = C0 + s'.x0.sent ∧ s'.x0.tot + s'.x0.brn = K0 ∧
      s'.x0.tot = s'.x0.bal + s'.x0.col + s'.x0.colB + Pair.sumF (·.a) s'.users) ∧
    (s'.x1.pend = s'.x1.chg - s'.x1.sent ∧ s'.x1.sent ≤ s'.x1.chg ∧ s'.x1.allTime = s'.x1.chg ∧
      s'.x1.burned = s'.x1.brn ∧ s'.x1.col + s'.x1.colB = C1 + s'.x1.sent ∧ s'.x1.tot + s'.x1.brn = K1 ∧
      s'.x1.tot = s'.x1.bal + s'.x1.col + s'.x1.colB + Pair.sumF (·.b) s'.users) := by
  intro s'
  have h : Pair.LInv K0 C0 K1 C1 s' := Pair.reach_linv (cv := cv) s hL ops
  have a := h.l0; have b := h.l1; have c := h.cons
  have := a.ledger; have := b.ledger
  exact ⟨⟨by omega, by omega, a.allTime, a.burned, a.col, a.supply, c.c0⟩,
         ⟨by omega, by omega, b.allTime, b.burned, b.col, b.supply, c.c1⟩⟩

/-- the ledger invariant holds right after instantiation (nothing charged, sent or burned) -/
theorem pair_ledger_init (n0 n1 : Bool) (f : Fees) (us : List Pair.User) :
    Pair.LInv (Pair.sumF (·.a) us) 0 (Pair.sumF (·.b) us) 0 (Pair.init n0 n1 f us) :=
  Pair.init_linv n0 n1 f us

/-- **only swaps charge, only collections pay the collector, counters only grow**: one successful
    operation adds `(pf, bf)` to charged / all-time and burn-sum / burned counters — non-zero only for a
    swap — and moves `sent` from the pending ledger to the collector — non-zero only for a collection -/
theorem pair_step_ledger {cv : Pair.Curve} {s s' : Pair.St} {op : Pair.Op} (h : Pair.step cv s op = .ok s') :
    ∃ pf0 bf0 st0 pf1 bf1 st1, Pair.SideDelta s.x0 s'.x0 pf0 bf0 st0 ∧ Pair.SideDelta s.x1 s'.x1 pf1 bf1 st1 ∧
      ((pf0 ≠ 0 ∨ bf0 ≠ 0 ∨ pf1 ≠ 0 ∨ bf1 ≠ 0) →
        (∃ u dir off ms rcv, op = .swap u dir off ms rcv) ∨ (∃ u dir off sent, op = .swapBad u dir off sent)) ∧
      ((st0 ≠ 0 ∨ st1 ≠ 0) → op = .collect) := Pair.step_deltas h

/-- **collecting transfers exactly the pending entries above the 1000 threshold to the CONFIGURED
    collector and to no one else** (entries at or below it stay on the ledger; the collector account
    that is not configured at that moment receives nothing), and changes neither the reported reserves,
    nor the counters, nor the LP supply, nor any user's balance -/
theorem pair_collect_exact {s s' : Pair.St} (h : Pair.collect s = .ok s') :
    (s'.x0.col = s.x0.col + (if 1000 < s.x0.pend ∧ s.useB = false then s.x0.pend else 0) ∧
      s'.x0.colB = s.x0.colB + (if 1000 < s.x0.pend ∧ s.useB = true then s.x0.pend else 0) ∧
      s'.x0.pend = (if 1000 < s.x0.pend then 0 else s.x0.pend) ∧
      s.x0.bal - s'.x0.bal = (if 1000 < s.x0.pend then s.x0.pend else 0) ∧ s'.x0.res = s.x0.res ∧
      s'.x0.allTime = s.x0.allTime ∧ s'.x0.burned = s.x0.burned ∧ s'.x0.tot = s.x0.tot) ∧
    (s'.x1.col = s.x1.col + (if 1000 < s.x1.pend ∧ s.useB = false then s.x1.pend else 0) ∧
      s'.x1.colB = s.x1.colB + (if 1000 < s.x1.pend ∧ s.useB = true then s.x1.pend else 0) ∧
      s'.x1.pend = (if 1000 < s.x1.pend then 0 else s.x1.pend) ∧
      s.x1.bal - s'.x1.bal = (if 1000 < s.x1.pend then s.x1.pend else 0) ∧ s'.x1.res = s.x1.res ∧
      s'.x1.allTime = s.x1.allTime ∧ s'.x1.burned = s.x1.burned ∧ s'.x1.tot = s.x1.tot) ∧
    s'.users = s.users ∧ s'.sup = s.sup ∧ s'.lpPair = s.lpPair ∧ s'.fees = s.fees ∧ s'.useB = s.useB := by
  obtain ⟨y0, y1, h0, h1, e⟩ := Pair.collect_ok h
  subst e
  obtain ⟨c0, cb0, p0, d0, _, r0, a0, b0, _, _, t0, _⟩ := Pair.collectSide_exact h0
  obtain ⟨c1, cb1, p1, d1, _, r1, a1, b1, _, _, t1, _⟩ := Pair.collectSide_exact h1
  have hm : Gen.PAIR_MINIMUM_COLLECTABLE_BALANCE = 1000 := rfl
  simp only [Pair.collectable, hm, Bool.and_eq_true, decide_eq_true_eq, Bool.not_eq_true'] at c0 cb0 p0 d0 c1 cb1 p1 d1
  exact ⟨⟨c0, cb0, p0, d0, r0, a0, b0, t0⟩, ⟨c1, cb1, p1, d1, r1, a1, b1, t1⟩, rfl, rfl, rfl, rfl, rfl⟩

/-- **nothing else moves**: a successful operation of any pair type (swap, collection, deposit, …) never
    lowers the asset or LP balances of any user other than the sender of the message; in particular
    charging, collecting and burning fees takes nothing from bystanders -/
theorem pair_others_never_lose {cv : Pair.Curve} {s s' : Pair.St} {op : Pair.Op} (h : Pair.step cv s op = .ok s')
    (v : Nat) (hv : op.actor ≠ some v) :
    (s.user v).a ≤ (s'.user v).a ∧ (s.user v).b ≤ (s'.user v).b ∧ (s.user v).lp ≤ (s'.user v).lp :=
  Pair.others_never_lose h v hv

/-- `UpdateConfig{fee_collector_addr}`: only the owner; it moves nothing and only re-targets later
    collections -/
theorem pair_set_collector {s s' : Pair.St} {o b : Bool} (h : Pair.setCollector s o b = .ok s') :
    o = true ∧ s' = { s with useB := b } := Pair.setCollector_ok h

/-- non-vacuity: a constant-product history with a charged swap, a collection above the threshold and
    a second swap whose fee stays below it -/
example :
    let s := Pair.reach Pair.cpCurve WW.C01.exInit WW.C01.exOps
    s.x1.chg = 1142 ∧ s.x1.sent = 1142 ∧ s.x1.pend = 0 ∧ s.x0.chg = 24 ∧ s.x0.pend = 24 ∧ s.x0.sent = 0 ∧
    s.x1.tot + 1142 = 3000000000 := by decide

/-- non-vacuity for the TWO-ASSET STABLESWAP pair (amp 100, decimals 6/6, fees 1 % / 0.2 % / 0.1 %): the
    same theorems apply with `ssCurve`; a charged swap (protocol fee 9 999, burn 999), a collection, a
    swap the other way whose fee (500) stays below the threshold, a withdrawal -/
example :
    let s := Pair.reach (Pair.ssCurve 100 6 6)
      (Pair.init true true ⟨10000000000000000, 2000000000000000, 1000000000000000⟩
        [⟨1000000000000, 1000000000000, 0⟩, ⟨1000000000000, 1000000000000, 0⟩, ⟨1000000000000, 1000000000000, 0⟩])
      [.provide 0 0 100000000 100000000 none, .swap 1 0 1000000 (some 500000000000000000) 1, .collect,
       .swap 2 1 50000 (some 500000000000000000) 2, .withdraw 0 1000000]
    s.x1.chg = 9999 ∧ s.x1.sent = 9999 ∧ s.x1.col = 9999 ∧ s.x1.pend = 0 ∧ s.x1.brn = 999 ∧
    s.x0.chg = 500 ∧ s.x0.pend = 500 ∧ s.x0.sent = 0 ∧ s.lpPair = 2000 ∧ s.sup = 199000000 := by decide +kernel

/-! ## the fee collector's `CollectFees` (engine `feeflow`): what the collections are triggered by -/

/-- a `CollectFees` sent to the collector by anybody moves, per asset, exactly the collectable pending fees of
    the named pairs / vaults into the collector (collector + pending conserved) and touches nothing else -/
theorem collector_collect_exact (s s' : Collector.St) (sender : Nat) (f : Collector.FeesFor)
    (h : Collector.collectFees s sender f = .ok s') :
    (∀ i, s'.bal i = s.bal i + Collector.directCollected s f i) ∧
    (∀ i, s'.bal i + Collector.vaultsPending i s'.vaults + Collector.poolsPending i s'.pools =
          s.bal i + Collector.vaultsPending i s.vaults + Collector.poolsPending i s.pools) :=
  ⟨(WW.C10.direct_collect_exact s s' sender f h).1, (WW.C10.direct_collect_exact s s' sender f h).2.1⟩

/-- **coins attached to a collection never reach a pair or a vault and never change what is collected**: the
    pending ledgers after `CollectFees` with `x` of ANY asset `a` attached are those of the plain collection
    from the same state, the collector ends up with balance before + collected + attached, and the
    distributor, the DAO and every other contract balance of the model are untouched -/
theorem collector_collect_ignores_attached_coins (cfg : Feeflow.Cfg) (s s' : Feeflow.St) (payer a x sender : Nat)
    (f : Collector.FeesFor) (h : Feeflow.step cfg s (.coins payer a x (.collect sender f)) = .ok s') :
    ∃ c0, Collector.collectFees s.c sender f = .ok c0 ∧
      s'.c.pools = c0.pools ∧ s'.c.vaults = c0.vaults ∧
      (∀ i, s'.c.bal i = s.c.bal i + Collector.directCollected s.c f i + (if a = i then x else 0)) ∧
      s'.d = s.d ∧ s'.daoBal = s.daoBal ∧ s'.xb = s.xb := by
  obtain ⟨c0, h0, hp, hv, _, hb, _, hd, hdao, _, hxb, _⟩ :=
    WW.C10.stray_coins_stay_on_collector cfg s s' payer a x sender f h
  exact ⟨c0, h0, hp, hv, hb, hd, hdao, hxb⟩

/-! ## a collection that reaches a vault WHILE ONE OF ITS FLASH LOANS IS IN FLIGHT (engine `feeflow`, `Op.inloan`) -/

/-- **vault_ledger_across_inloan** — the lending vault's ledgers across a completed transaction `FlashLoan` → the
    borrower's callback runs ANY operation `inner` (a `NewEpoch`, a direct `CollectFees`, …) → repayment, for all amounts,
    balances and fee shares: (ledger) what is pending afterwards = pending before + the protocol fee charged for this loan
    − what was paid out to the collector in mid-loan, i.e. the ledger is lowered by exactly what was transferred, also
    with the loan counter at 1; (bank) the vault's balance moved by nothing but the loan, that transfer, the repayment
    and the burn: balance after + paid out + burn fee + loan = balance before + repayment -/
theorem vault_ledger_across_inloan (s : Feeflow.St) (k amount vbal : Nat) (mode : Feeflow.Repay)
    (fees : Feeflow.LoanFees) (inner : Feeflow.St → Res Feeflow.St) (o : Feeflow.LoanOut)
    (h : Feeflow.inloanRun s k amount mode vbal fees inner = .ok o) :
    ∃ s1, inner s = .ok s1 ∧
      (Feeflow.pendOf s1 k ≤ Feeflow.pendOf s k → (s1.c.vaults[k]?).isSome = true →
        Feeflow.pendOf o.st k + o.paidOut = Feeflow.pendOf s k + Feeflow.loanFee fees.prot amount) ∧
      o.paidOut = Feeflow.pendOf s k - Feeflow.pendOf s1 k ∧
      o.endBal + o.paidOut + Feeflow.loanFee fees.burn amount + amount = vbal + o.repaid := by
  obtain ⟨_, hcov, hle, extra, _, _, hend, hrep⟩ := WW.C10.inloan_vault_ends_with_fees s k amount vbal mode fees inner o h
  obtain ⟨s1, hi, hc, _, _, _⟩ := Feeflow.inloanRun_ok h
  obtain ⟨_, _, _, hst, _, _, hp⟩ := Feeflow.loanClose_ok hc
  refine ⟨s1, hi, fun hmono hsome => ?_, hp, ?_⟩
  · rw [hst, Feeflow.pendOf_accrueLoan, if_pos ⟨rfl, hsome⟩, hp]
    unfold Feeflow.loanPaidOut
    omega
  · rw [hend, hrep]; omega

/-- on numbers: the uusdc vault of `WW.C10.jst` (2500 pending, balance 1 000 000, 1 % / 0.1 % fees) lends 400 000 and is
    collected from in mid-loan: 4000 + 2500 paid out = 2500 + 4000 charged; 1 004 400 + 2500 + 0 + 400 000 = 1 000 000 + 406 900 -/
example : ((Feeflow.inloanRun WW.C10.jst 1 400000 .exact 1000000 WW.C10.f1
      (fun s0 => Feeflow.step WW.C10.jcfg s0 (.collect 1003 (.oneVault 1)))).toOption.map
    fun o => (Feeflow.pendOf o.st 1, o.paidOut, o.endBal, o.repaid)) = some (4000, 2500, 1004400, 406900) := by decide

end WW.C07
