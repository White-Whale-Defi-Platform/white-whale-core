/-
  C18 — Stored configuration is always within its documented bounds.
  Property theorems.  Model: `WW/Model/Config.lean` (the configuration part of every contract and
  every write path: instantiate, direct update by the owner, factory-mediated update of pair / 3pool /
  vault, factory create, distributor / lair / collector updates), validators transcribed.  Tied to the
  real contracts by the `config` correspondence engine.
-/
import WW.Proofs.Config
namespace WW.C18
open WW WW.Config

/-! ### the constants are the documented numbers (a changed constant in the Rust breaks these) -/

theorem pinned_pair_min_amp : WW.Gen.PAIR_MIN_AMP = 1 := by decide
theorem pinned_pair_max_amp : WW.Gen.PAIR_MAX_AMP = 1000000 := by decide
theorem pinned_trio_min_amp : WW.Gen.TRIO_MIN_AMP = 1 := by decide
theorem pinned_trio_max_amp : WW.Gen.TRIO_MAX_AMP = 1000000 := by decide
theorem pinned_max_grace_period : WW.Gen.DISTRIBUTOR_MAX_GRACE_PERIOD = 30 := by decide
theorem pinned_day_in_nanoseconds : WW.Gen.DISTRIBUTOR_DAY_IN_NANOSECONDS = 86400000000000 := by decide
theorem pinned_bonding_assets_limit : WW.Gen.LAIR_BONDING_ASSETS_LIMIT = 2 := by decide
theorem pinned_one_is_e18 : WW.E18 = 1000000000000000000 := E18_val

theorem pinned : Pinned :=
  ⟨pinned_pair_min_amp, pinned_pair_max_amp, pinned_trio_min_amp, pinned_trio_max_amp,
   pinned_max_grace_period, pinned_day_in_nanoseconds, pinned_bonding_assets_limit⟩

/-- **`ConfigOk` after every history.** Starting from an empty deployment, after ANY sequence of
    instantiations, direct updates, factory-mediated updates and factory creations — with arbitrary
    arguments, accepted or rejected, in any order, at any block heights — every stored configuration is
    within its documented bounds: pool and vault fee shares each `< 1` and sum `< 1`; no burn fee on a
    vault over a token-factory asset; pair and 3pool amplification (both ramp end points, hence every
    value in between) in `[1, 10^6]`; grace period in `[1, 30]`; epoch duration `≥ 86400·10^9` ns;
    growth rate `≤ 1`; at most two bonding assets; take rate `< 1`. -/
theorem config_ok_reach (height : Nat) (ops : List Op) : ConfigOk (reach (Cfg.empty height) ops) :=
  (reach_inv pinned ops (Inv.empty height)).configOk

/-- one more step from any state reached that way -/
theorem config_ok_step (height : Nat) (ops : List Op) (op : Op) (c' : Cfg)
    (h : step (reach (Cfg.empty height) ops) op = .ok c') : ConfigOk c' :=
  (step_inv pinned (reach_inv pinned ops (Inv.empty height)) h).configOk

/-- **a rejected operation changes nothing**: when an instantiate / update is refused (error or
    panic), every stored configuration — and the history's continuation — is as if it had not been sent -/
theorem rejected_unchanged (c : Cfg) (op : Op) (ops : List Op) (h : ∀ c', step c op ≠ .ok c') :
    reach c (op :: ops) = reach c ops := by
  cases hs : step c op with
  | ok c' => exact absurd hs (h c')
  | err => simp [reach, hs]
  | panic => simp [reach, hs]

/-- **the grace period never decreases** (single update) -/
theorem grace_never_decreases_step (c c' : Cfg) (g d : Option Nat) (x y : DistCfg)
    (hok : ConfigOk c) (h : step c (.distUpd g d) = .ok c') (hx : c.dist = some x) (hy : c'.dist = some y) :
    x.grace ≤ y.grace := by
  obtain ⟨z, ⟨x', hx', hz⟩, rfl⟩ := step_ok h
  cases hx.symm.trans hx'
  cases hy
  exact distUpdate_grace hz

/-- operations that deploy a new distributor (a different contract with its own grace period) -/
def deploysDistributor : Op → Bool
  | .distInst _ _ => true
  | _ => false

/-- one successful operation other than a new deployment keeps the distributor and does not lower its grace
    period: only `distUpd` writes it, and that one refuses a lower value -/
theorem step_grace {c c' : Cfg} {op : Op} {x : DistCfg} (hx : c.dist = some x)
    (hno : deploysDistributor op = false) (h : step c op = .ok c') :
    ∃ y, c'.dist = some y ∧ x.grace ≤ y.grace := by
  have hok := step_ok h
  cases op <;> simp only at hok
  case distInst => cases hno
  case distUpd =>
    obtain ⟨y, ⟨x', hx', hy⟩, rfl⟩ := hok
    cases hx.symm.trans hx'
    exact ⟨y, rfl, distUpdate_grace hy⟩
  case collInst | advance | migrate => subst hok; exact ⟨x, hx, Nat.le_refl _⟩
  all_goals
    obtain ⟨_, _, rfl⟩ := hok
    exact ⟨x, hx, Nat.le_refl _⟩

/-- **the grace period never decreases** over any history in which the distributor is not replaced by a
    newly instantiated one: whatever else happens in between, the stored grace period only grows -/
theorem grace_never_decreases (ops : List Op) (c : Cfg) (x : DistCfg)
    (hc : Inv c) (hx : c.dist = some x) (hno : ∀ op ∈ ops, deploysDistributor op = false) :
    ∃ y, (reach c ops).dist = some y ∧ x.grace ≤ y.grace :=
  reach_preserves (P := fun d => ∃ y, d.dist = some y ∧ x.grace ≤ y.grace) ops ⟨x, hx, Nat.le_refl _⟩
    fun op hop _ _ ⟨_, hy, hxy⟩ h =>
      let ⟨z, hz, hyz⟩ := step_grace hy (hno op hop) h
      ⟨z, hz, Nat.le_trans hxy hyz⟩

/-- **no burn fee on a vault over a token-factory asset** — stated for what the code itself classes as a
    factory token (`has_factory_token`: every `factory/{creator}/{subdenom}` denom and some more shapes),
    after every history, whatever LP-token code the vaults were given.  (Before fix 074ebd5
    `update_config` tested only the LP asset and this was false: see `known_findings.json`.) -/
theorem no_burn_fee_on_factory_asset (height : Nat) (ops : List Op) :
    ∀ v ∈ (reach (Cfg.empty height) ops).vaults, v.asset.codeSaysFactory = true → v.fees.c = 0 :=
  fun v hv => ((reach_inv pinned ops (Inv.empty height)).vaults v hv).2

/-- … in particular over every token-factory asset in the documented sense -/
theorem no_burn_fee_on_token_factory_asset (height : Nat) (ops : List Op) :
    ∀ v ∈ (reach (Cfg.empty height) ops).vaults, v.asset.isTokenFactory = true → v.fees.c = 0 :=
  fun v hv h => no_burn_fee_on_factory_asset height ops v hv (AssetClass.tokenFactory_codeSays h)

/-- `update_config` refuses a burn fee on such a vault, on both paths, and keeps the asset -/
theorem vault_update_refuses_burn_on_factory_asset (via : Bool) (v : VaultCfg) (f : Fees3)
    (ha : v.asset.codeSaysFactory = true) (hc : 0 < f.c) : vaultUpdate via v (some f) = .err := by
  simp only [vaultUpdate]
  split
  · rfl
  · split
    · -- the fees themselves are valid: the burn-fee rule refuses
      have : decide (f.c > 0) = true := by simpa using hc
      simp [ha, this]
    · rfl
    · exact absurd ‹_› (applyFees_ne_panic _ _)

/-- with the stock LP-token code (the default deployment) no history creates a vault over a
    token-factory (`factory/…`) asset at all: the derived cw20 symbol `uLP-factory/` is refused -/
theorem no_vault_over_token_factory_asset (height : Nat) (ops : List Op) (hs : ops.all Op.stockLp = true) :
    ∀ v ∈ (reach (Cfg.empty height) ops).vaults, v.asset.isTokenFactory = false :=
  reach_preserves (P := fun d => ∀ v ∈ d.vaults, v.asset.isTokenFactory = false) ops (fun _ hv => nomatch hv)
    fun op hop _ _ hd h => step_no_token_factory_vault (List.all_eq_true.mp hs op hop) hd h

/-- a migration (of any contract, from any stored version) rewrites no configuration -/
theorem migrate_keeps_config (c : Cfg) : step c .migrate = .ok c := rfl

/-- `Fee::is_valid`: accepted iff the share is strictly below 100 % -/
theorem fee_valid_iff (share : Nat) : feeIsValid share = .ok () ↔ share < 1000000000000000000 := by
  simp [feeIsValid, pinned_one_is_e18]

/-- `PoolFee::is_valid` (pair and 3pool): accepted iff each share `< 1` and the sum `< 1` -/
theorem pool_fee_valid_iff (f : Fees3) :
    fees3IsValid f = .ok () ↔
      f.a < 1000000000000000000 ∧ f.b < 1000000000000000000 ∧ f.c < 1000000000000000000 ∧
        f.a + f.b + f.c < 1000000000000000000 := by
  rw [fees3_ok_iff]
  simp only [Fees3.ok, Bool.and_eq_true, decide_eq_true_eq, and_assoc]

/-- `VaultFee::is_valid` is the same predicate on (protocol, flash loan, burn) -/
theorem vault_fee_valid_iff (f : Fees3) :
    fees3IsValid f = .ok () ↔
      f.a < 1000000000000000000 ∧ f.b < 1000000000000000000 ∧ f.c < 1000000000000000000 ∧
        f.a + f.b + f.c < 1000000000000000000 := pool_fee_valid_iff f

/-- the fee validators return `Ok` or `Err`, never panic (no overflow is reachable in the sum) -/
theorem fee_validators_never_panic (f : Fees3) : fees3IsValid f ≠ .panic := fees3IsValid_ne_panic f

/-- pair `instantiate` accepts exactly: valid fees, amp in `[1, 10^6]` when stableswap, cw20 LP -/
theorem pair_instantiate_ok_iff (via : Bool) (f : Fees3) (amp : Option Nat) (tf : Bool) :
    (∃ p, pairInstantiate via f amp tf = .ok p) ↔
      f.ok = true ∧ (∀ a, amp = some a → 1 ≤ a ∧ a ≤ 1000000) ∧ tf = false := by
  simp only [pairInstantiate_eq_ok, exists_and_left, exists_eq', and_true]
  cases amp <;> simp [pairTypeOk, pairAmpOk, pinned_pair_min_amp, pinned_pair_max_amp]

/-- `validate_grace_period`: accepted iff `1 ≤ g ≤ 30` -/
theorem grace_ok_iff (g : Nat) : graceValid g = true ↔ 1 ≤ g ∧ g ≤ 30 :=
  pinned_max_grace_period ▸ graceValid_iff g

/-- `validate_epoch_config`: accepted iff the duration is at least one day (in nanoseconds) -/
theorem duration_ok_iff (d : Nat) : durationValid d = true ↔ 86400000000000 ≤ d :=
  pinned_day_in_nanoseconds ▸ durationValid_iff d

/-- distributor `instantiate` accepts exactly grace in `[1,30]` and duration ≥ 1 day -/
theorem dist_instantiate_ok_iff (g d : Nat) :
    (∃ x, distInstantiate g d = .ok x) ↔ (1 ≤ g ∧ g ≤ 30) ∧ 86400000000000 ≤ d := by
  simp only [distInstantiate_eq_ok, exists_and_left, exists_eq', and_true, grace_ok_iff, duration_ok_iff]

/-- distributor `update_config { grace_period: Some g }` is accepted iff `g ∈ [1,30]` and `g` is not
    below the stored grace period -/
theorem grace_update_ok_iff (x : DistCfg) (g : Nat) :
    (∃ y, distUpdate x (some g) none = .ok y) ↔ (1 ≤ g ∧ g ≤ 30) ∧ x.grace ≤ g := by
  simp [distUpdate_eq_ok, grace_ok_iff]

/-- `validate_growth_rate`: accepted iff the rate is at most 1 -/
theorem growth_ok_iff (r : Nat) : growthValid r = true ↔ r ≤ 1000000000000000000 := growthValid_iff r

/-- lair `instantiate` accepts exactly: at most two bonding assets, all native, growth rate `≤ 1` — and
    at least one bonding asset where the chain refuses empty attribute values (`strict`, the mock chain;
    at entry-point level the empty list is accepted, with the growth rate checked all the same) -/
theorem lair_instantiate_ok_iff (r n : Nat) (k strict : Bool) :
    (∃ x, lairInstantiate r n k strict = .ok x) ↔
      (strict = true → 1 ≤ n) ∧ n ≤ 2 ∧ r ≤ 1000000000000000000 ∧ k = false := by
  simp only [lairInstantiate_eq_ok, exists_and_left, exists_eq', and_true, growth_ok_iff,
    pinned_bonding_assets_limit]

/-- the stored growth rate is at most 1 whatever the bonding-asset list (empty included) -/
theorem lair_growth_bounded (r n : Nat) (k strict : Bool) (x : LairCfg)
    (h : lairInstantiate r n k strict = .ok x) : x.growth ≤ 1000000000000000000 := by
  obtain ⟨_, _, hr, _, rfl⟩ := lairInstantiate_eq_ok.mp h
  exact (growth_ok_iff r).mp hr

/-- collector `update_config { take_rate: Some t }` is accepted iff `t < 1` -/
theorem take_rate_ok_iff (c : CollCfg) (t : Nat) :
    (∃ y, collUpdate c (some t) = .ok y) ↔ t < 1000000000000000000 := by
  simp [collUpdate_eq_ok, pinned_one_is_e18]

/-- 3pool: a ramp is only accepted towards a target in `[1, 10^6]`, and the amplification in force at
    every block lies between the two stored end points -/
theorem trio_amp_between (t : TrioCfg) (h cur : Nat) (hc : currentAmp t h = some cur) :
    (t.initAmp ≤ cur ∧ cur ≤ t.futAmp) ∨ (t.futAmp ≤ cur ∧ cur ≤ t.initAmp) := currentAmp_between hc

/-! ### non-vacuity: concrete histories and the exact behaviour at every bound -/

/-- a history through every write path that ends in a non-trivial configuration (a stableswap pair via
    the factory with updated fees, a 3pool mid-ramp, a vault whose fees were replaced through the vault
    factory, distributor with raised grace period, lair, collector with a take rate) -/
example :
    let ops : List Op :=
      [.pairInst true ⟨1000000000000000, 2000000000000000, 0⟩ (some 1000000) false,
       .pairUpd true 0 (some ⟨333333333333333333, 333333333333333333, 333333333333333333⟩),
       .pairUpd false 0 (some ⟨0, 0, 0⟩),                      -- wrong path: refused
       .trioInst false ⟨0, 0, 0⟩ 100 false,
       .trioUpd false 0 none (some (1000, 30000)),
       .advance 5000,
       .trioUpd false 0 none (some (400, 50000)),
       .vaultInst true ⟨1, 2, 3⟩ .plain false,
       .vaultUpd true 0 (some ⟨0, 999999999999999999, 0⟩),
       .distInst 1 86400000000000, .distUpd (some 30) none, .distUpd (some 29) none,
       .lairInst 1000000000000000000 2 false, .collInst, .collUpd (some 999999999999999999)]
    reach (Cfg.empty 12345) ops =
      { pairs := [⟨⟨333333333333333333, 333333333333333333, 333333333333333333⟩, some 1000000, true⟩],
        trios := [⟨⟨0, 0, 0⟩, 354, 400, 17345, 50000, false⟩],
        vaults := [⟨⟨0, 999999999999999999, 0⟩, .plain, true⟩],
        dist := some ⟨30, 86400000000000⟩, lair := some ⟨1000000000000000000, 2⟩,
        coll := some ⟨999999999999999999⟩, height := 17345 } := by decide +kernel

/-- on / just inside / just outside each bound, at 18-decimal granularity -/
example : fees3IsValid ⟨333333333333333333, 333333333333333333, 333333333333333333⟩ = .ok () := by decide
example : fees3IsValid ⟨333333333333333334, 333333333333333333, 333333333333333333⟩ = .err := by decide
example : fees3IsValid ⟨999999999999999999, 0, 0⟩ = .ok () := by decide
example : fees3IsValid ⟨1000000000000000000, 0, 0⟩ = .err := by decide
example : (pairInstantiate false ⟨0, 0, 0⟩ (some 1000000) false).isOk = true := by decide
example : pairInstantiate false ⟨0, 0, 0⟩ (some 1000001) false = .err := by decide
example : pairInstantiate false ⟨0, 0, 0⟩ (some 0) false = .err := by decide
example : (distInstantiate 30 86400000000000).isOk = true := by decide
example : distInstantiate 31 86400000000000 = .err := by decide
example : distInstantiate 30 86399999999999 = .err := by decide
example : (lairInstantiate 1000000000000000000 2 false).isOk = true := by decide
example : lairInstantiate 1000000000000000001 2 false = .err := by decide
example : lairInstantiate 0 3 false = .err := by decide
example : collUpdate ⟨0⟩ (some 1000000000000000000) = .err := by decide

/-- The vault's burn-fee rule uses `has_factory_token`, which also answers "yes" for the denom shape
    `ibc/<63 alnum>/x`; `instantiate` and (since fix 074ebd5) `update_config` refuse a burn fee there
    alike. -/
example :
    vaultInstantiate false ⟨0, 0, 1⟩ .ibc2 false = .err ∧
    (reach (Cfg.empty 1) [.vaultInst false ⟨0, 0, 0⟩ .ibc2 false, .vaultUpd false 0 (some ⟨0, 0, 1⟩)]).vaults
      = [⟨⟨0, 0, 0⟩, .ibc2, false⟩] := by decide

/-- with the stock LP-token code a vault over a genuine token-factory denom is refused on every path and
    with every fee … -/
example : ∀ via tf, vaultInstantiate via ⟨0, 0, 0⟩ .factory tf = .err ∧ vaultCreate ⟨0, 0, 0⟩ .factory tf = .err := by
  decide

/-- … with an LP-token code that accepts the symbol it exists (the burn-fee clause is not vacuous), it is
    refused with a burn fee at creation, and `update_config` refuses a burn fee on it on both paths while
    still accepting other fee changes -/
example :
    (reach (Cfg.empty 1)
      [.vaultInst true ⟨1, 2, 0⟩ .factory false true,      -- created through the factory
       .vaultInst false ⟨1, 2, 3⟩ .factory false true,     -- burn fee at instantiate: refused
       .vaultUpd true 0 (some ⟨5, 6, 7⟩),                  -- burn fee through the factory: refused
       .vaultUpd true 0 (some ⟨5, 6, 0⟩)]).vaults          -- other fees: accepted
      = [⟨⟨5, 6, 0⟩, .factory, true⟩] := by decide

/-- the lair at entry-point level: an empty bonding-asset list is accepted, the growth bound holds -/
example : (lairInstantiate 1000000000000000000 0 false false).isOk = true ∧
    lairInstantiate 1000000000000000001 0 false false = .err ∧
    lairInstantiate 5 0 false true = .err := by decide

end WW.C18
