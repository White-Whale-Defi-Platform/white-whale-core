/-
  Regenerated kernels ↔ model, C18: `fee_distributor/src/helpers.rs` `validate_grace_period` and
  `validate_epoch_config`, `whale_lair/src/helpers.rs` `validate_growth_rate`, against `graceValid`,
  `durationValid`, `growthValid` of `WW/Model/Config.lean`.

  The Rust validators return `Result<(), ContractError>`, the model functions `Bool`; `guardErr` carries the
  one into the other, so every statement is a full equality of `Res Unit` values (the validators cannot
  panic) and the `… = Res.ok () ↔ model = true` forms follow.
-/
import WW.Gen.Kernels
import WW.Proofs.Kernels
import WW.Model.Config
namespace WW.KernelsEpochCfg
open WW WW.Gen WW.Config

/-- the code's `MAX_GRACE_PERIOD` is read from the validator's file, the model's `Gen.DISTRIBUTOR_MAX_GRACE_PERIOD`
    is extracted separately -/
theorem gen_validate_grace_period_eq_model (g : Nat) :
    K.validate_grace_period g = guardErr (graceValid g) := by
  unfold K.validate_grace_period graceValid
  rw [validator_shape, Bool.decide_or]; rfl

theorem gen_validate_grace_period_ok_iff (g : Nat) :
    K.validate_grace_period g = Res.ok () ↔ graceValid g = true := by
  rw [gen_validate_grace_period_eq_model]; exact guardErr_eq_ok

/-- on the `duration` field; the genesis time is not looked at -/
theorem gen_validate_epoch_config_eq_model (c : K.EpochConfig) :
    K.validate_epoch_config c = guardErr (durationValid c.duration) := by
  unfold K.validate_epoch_config durationValid
  rw [validator_shape]; rfl

theorem gen_validate_epoch_config_ok_iff (c : K.EpochConfig) :
    K.validate_epoch_config c = Res.ok () ↔ durationValid c.duration = true := by
  rw [gen_validate_epoch_config_eq_model]; exact guardErr_eq_ok

/-- `Decimal::percent(100)` is `E18` atomics -/
theorem gen_validate_growth_rate_eq_model (r : Nat) :
    K.validate_growth_rate r = guardErr (growthValid r) := by
  unfold K.validate_growth_rate growthValid
  rw [percent_100, validator_shape]

theorem gen_validate_growth_rate_ok_iff (r : Nat) :
    K.validate_growth_rate r = Res.ok () ↔ growthValid r = true := by
  rw [gen_validate_growth_rate_eq_model]; exact guardErr_eq_ok

end WW.KernelsEpochCfg
