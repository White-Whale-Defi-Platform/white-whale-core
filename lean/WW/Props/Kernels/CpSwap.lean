/-
  Regenerated kernels ↔ model, C02: the `PairType::ConstantProduct` arm of
  `terraswap_pair/src/helpers.rs::compute_swap` (default features) ↔ `WW.cpSwap`, and `Fee::compute` ↔ `WW.feeOf`.
-/
import WW.Gen.Kernels
import WW.Proofs.KernelsSwap
import WW.Props.Kernels.Fees
namespace WW.KernelsCpSwap
open WW WW.Gen

/-- `Fee::compute` is `amount * Decimal256::from(share)`: the model's `feeOf`, panicking when the product does not
    fit 256 bits -/
theorem gen_Fee_compute_eq_model (fee : K.Fee) (amt : Nat) :
    K.Fee_compute fee amt =
      if feeOf fee.share amt ≤ U256MAX then .ok (feeOf fee.share amt) else .panic := by
  rw [K_Fee_compute_eq]
  rfl

/-- on ALL inputs (the two precision arguments are unused in this arm), including which of `Err` / panic a failing
    call ends in -/
theorem gen_compute_swap_ConstantProduct_eq_model (op ap off : Nat) (fees : K.PoolFee) (p₀ p₁ : Nat) :
    K.compute_swap_ConstantProduct op ap off fees p₀ p₁
      = (cpSwap op ap off (Fees.ofGen fees)).mapTo SwapComp.toGen := by
  unfold K.compute_swap_ConstantProduct cpSwap Res.mapTo
  simp only [K_Fee_compute_eq, narrowTo_128, Res.bind_assoc', Res.bind_ok_s, Res.pure_eq]
  rfl

/-- the C02 domain predicate `Fees.valid` is exactly "the real `PoolFee::is_valid` returns Ok" -/
theorem gen_PoolFee_is_valid_iff_Fees_valid (p : K.PoolFee) :
    K.PoolFee_is_valid p = .ok () ↔ (Fees.ofGen p).valid = true := by
  rw [KernelsFees.gen_PoolFee_is_valid_eq_model, Config.Fees3.ofPool, fees3IsValid_ok_iff]
  unfold Fees.valid Fees.ofGen
  simp only [Bool.and_eq_true, decide_eq_true_eq, and_assoc]

end WW.KernelsCpSwap
