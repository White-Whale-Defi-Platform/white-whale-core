/-
  Regenerated fragment kernel ↔ model, C08: the arithmetic that the whale lair's `commands::unbond` carries
  inline after `update_local_weight` — the weight slash
  `unbond.weight * Decimal::from_ratio(asset.amount, unbond.asset.amount)` and the two `checked_sub`s of the
  weight and of the bonded amount (the three places are the kernel's parameters) — ↔ `WW.Lair.unbondLocal`,
  on which C08's `global = Σ` and conservation theorems rest.
-/
import WW.Gen.Kernels
import WW.Proofs.Kernels
import WW.Model.Lair
import WW.Props.Kernels.LairWeight
namespace WW.KernelsLairUnbond
open WW WW.Gen WW.Lair

/-- `unbondLocal` is `get_weight` followed by the regenerated slash stretch, the panics of `from_ratio` on an empty bond
    and of `Uint128 * Decimal` and the `Err`s of the two `checked_sub`s included.  With `gen_lair_get_weight_eq_model`
    both numeric steps of the local part of `unbond` are the code's. -/
theorem gen_lair_unbond_slash_eq_model (s : St) (e : Env) (b : BondRec) (x : Nat) :
    unbondLocal s e b x =
      ((K.lair_get_weight e.now b.weight b.amount s.rate b.ts).bind fun w =>
        (K.lair_unbond_slash w b.amount x).bind fun r =>
          .ok ({ b with amount := r.2.2, weight := r.2.1, ts := e.now }, r.1)) := by
  rw [KernelsLairWeight.gen_lair_get_weight_eq_model]
  unfold unbondLocal K.lair_unbond_slash
  simp only [Res.rbind_eq_bind, Res.bind_assoc', Res.pure_eq, Res.bind_ok_s]

/-- for a bond that covers the amount: slash = `⌊w · ⌊x·10¹⁸/amount⌋ / 10¹⁸⌋ ≤ w`, nothing fails -/
theorem lair_unbond_slash_closed (w amt x : Nat) (h0 : 0 < amt) (hx : x ≤ amt) (hw : w ≤ U128MAX) :
    K.lair_unbond_slash w amt x =
      .ok (w * (x * E18 / amt) / E18, w - w * (x * E18 / amt) / E18, amt - x) := by
  have hr : x * E18 / amt ≤ E18 := fromRatio_le_one x amt hx
  have hs : w * (x * E18 / amt) / E18 ≤ w := mulDec_le w _ hr
  unfold K.lair_unbond_slash dec128FromRatio mulRatioP u128MulDec csub
  rw [if_neg (Nat.ne_of_gt h0), if_pos (Nat.le_trans hr (by decide)), Res.bind_ok_s,
    if_pos (Nat.le_trans hs hw), Res.bind_ok_s, if_pos hs, Res.bind_ok_s, if_pos hx]
  rfl

/-- non-vacuity: weight 3 000 on a bond of 1 000, a quarter is unbonded -/
example : K.lair_unbond_slash 3000 1000 250 = .ok (750, 2250, 750) := by decide +kernel

end WW.KernelsLairUnbond
