/-
  Regenerated kernels ↔ model, C12 / C13: the three storage-free flow helpers of
  `pool-network/incentive/src/helpers.rs`

    get_flow_asset_amount_at_epoch(flow, epoch)   ↔  `WW.Inc.Flow.amountAt`
    get_flow_current_end_epoch(flow, epoch)       ↔  `WW.Inc.Flow.endAt`
    get_flow_end_epoch(flow)                      ↔  `(WW.Inc.Flow.expanded f).2`

  `flow.asset_history : BTreeMap<u64, (Uint128, u64)>` is an association list of its entries, read by the two
  primitives of `WW/Cw/BTree.lean`; the model keeps the same list in `Flow.hist` and reads it with its own
  folds.  The two pairs of functions agree on EVERY list (`WW/Proofs/BTreeKeys.lean`), so no hypothesis on the
  list (sorted, distinct keys) is needed.

  The Rust `Flow` is regenerated as the structure `K.Flow` of the fields the translator knows; `flow_label`,
  `flow_creator`, `curve`, `emitted_tokens`, `flow_asset.info` are dropped, the helpers do not read them.
  `toK` maps a model flow onto it field by field.
-/
import WW.Gen.Kernels
import WW.Proofs.BTreeKeys
import WW.Model.Incentive
namespace WW.KernelsFlowHist
open WW WW.Gen

def toK (f : Inc.Flow) : K.Flow :=
  { flow_id := f.id, flow_asset := { amount := f.amount }, claimed_amount := f.claimed,
    start_epoch := f.startE, end_epoch := f.endE, asset_history := f.hist }

/-- every value of the regenerated `Flow` is the image of a model flow -/
theorem toK_surjective (g : K.Flow) : ∃ f, toK f = g :=
  ⟨{ id := g.flow_id, creator := 0, asset := 0, amount := g.flow_asset.amount, claimed := g.claimed_amount,
     startE := g.start_epoch, endE := g.end_epoch, emitted := [], hist := g.asset_history }, rfl⟩

/-- for an arbitrary value `g` of the regenerated `Flow` and any model flow that agrees with it on the three fields
    read; any history list (keys in any order, repeated or not).  The Rust functions cannot fail: the values are `Res.ok`. -/
theorem gen_flow_helpers_eq_model_any (g : K.Flow) (f : Inc.Flow)
    (ha : f.amount = g.flow_asset.amount) (he : f.endE = g.end_epoch) (hh : f.hist = g.asset_history) (e : Nat) :
    K.get_flow_asset_amount_at_epoch g e = Res.ok (f.amountAt e)
    ∧ K.get_flow_current_end_epoch g e = Res.ok (f.endAt e)
    ∧ K.get_flow_end_epoch g = Res.ok f.expanded.2 := by
  unfold K.get_flow_asset_amount_at_epoch K.get_flow_current_end_epoch K.get_flow_end_epoch
    Inc.Flow.amountAt Inc.Flow.endAt Inc.Flow.expanded Inc.Flow.lastHist
  rw [← ha, ← he, ← hh, btreeRangeToInclNextBack_eq_maxKeyLE, btreeLastKeyValue_eq_maxKey]
  refine ⟨?_, ?_, ?_⟩
  · cases Inc.maxKeyLE f.hist e <;> rfl
  · cases Inc.maxKeyLE f.hist e <;> rfl
  · cases Inc.maxKey f.hist <;> rfl

theorem gen_get_flow_asset_amount_at_epoch_eq_model (f : Inc.Flow) (e : Nat) :
    K.get_flow_asset_amount_at_epoch (toK f) e = Res.ok (f.amountAt e) :=
  (gen_flow_helpers_eq_model_any (toK f) f rfl rfl rfl e).1

theorem gen_get_flow_current_end_epoch_eq_model (f : Inc.Flow) (e : Nat) :
    K.get_flow_current_end_epoch (toK f) e = Res.ok (f.endAt e) :=
  (gen_flow_helpers_eq_model_any (toK f) f rfl rfl rfl e).2.1

/-- the end epoch the model uses for the whole flow (`expEnd` of `claimFlow` / the rewards query / `expandFlow`): the
    latest expansion's by `Flow.lastHist`, else the original one -/
theorem gen_get_flow_end_epoch_eq_model (f : Inc.Flow) :
    K.get_flow_end_epoch (toK f) = Res.ok f.expanded.2 :=
  (gen_flow_helpers_eq_model_any (toK f) f rfl rfl rfl 0).2.2

/-- the primitives' own meaning carried over to the model: `amountAt` / `endAt` read an entry of the history with the
    greatest key `≤ e`, or the original values when there is none -/
theorem amountAt_endAt_spec (f : Inc.Flow) (e : Nat) :
    (∃ r ∈ f.hist, r.1 ≤ e ∧ (∀ x ∈ f.hist, x.1 ≤ e → x.1 ≤ r.1) ∧ f.amountAt e = r.2.1 ∧ f.endAt e = r.2.2)
    ∨ ((∀ x ∈ f.hist, ¬ x.1 ≤ e) ∧ f.amountAt e = f.amount ∧ f.endAt e = f.endE) := by
  unfold Inc.Flow.amountAt Inc.Flow.endAt
  rw [← btreeRangeToInclNextBack_eq_maxKeyLE]
  cases h : btreeRangeToInclNextBack f.hist e with
  | none => exact Or.inr ⟨(btreeRangeToInclNextBack_none_iff _ _).mp h, rfl, rfl⟩
  | some r =>
    have ⟨hm, hb, hall⟩ := btreeRangeToInclNextBack_some h
    exact Or.inl ⟨r, hm, hb, hall, rfl, rfl⟩

/-- concrete values (unsorted history, the bound between two keys, no key below the bound, empty history) -/
example :
    K.get_flow_asset_amount_at_epoch
      (toK { id := 1, creator := 2, asset := 1, amount := 1000, claimed := 0, startE := 3, endE := 17,
             emitted := [], hist := [(9, (3000, 40)), (5, (2000, 30))] }) 7 = Res.ok 2000
    ∧ K.get_flow_current_end_epoch
      (toK { id := 1, creator := 2, asset := 1, amount := 1000, claimed := 0, startE := 3, endE := 17,
             emitted := [], hist := [(9, (3000, 40)), (5, (2000, 30))] }) 4 = Res.ok 17
    ∧ K.get_flow_end_epoch
      (toK { id := 1, creator := 2, asset := 1, amount := 1000, claimed := 0, startE := 3, endE := 17,
             emitted := [], hist := [(9, (3000, 40)), (5, (2000, 30))] }) = Res.ok 40
    ∧ K.get_flow_end_epoch
      (toK { id := 1, creator := 2, asset := 1, amount := 1000, claimed := 0, startE := 3, endE := 17,
             emitted := [], hist := [] }) = Res.ok 17 := by decide +kernel

end WW.KernelsFlowHist
