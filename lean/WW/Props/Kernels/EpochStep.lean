/-
  Regenerated fragment kernels ↔ model, C20: the clock arithmetic that the two epoch-creating handlers carry
  inline between their storage reads and their writes (`env.block.time`, `current_epoch.*`,
  `config.epoch_config.*` are the kernels' parameters) —
  `epoch-manager/src/commands.rs::create_epoch` ↔ `WW.Epoch.Mgr.createEpoch`,
  `fee_distributor/src/commands.rs::create_new_epoch` ↔ `WW.Epoch.Dist.createNewEpoch`.
-/
import WW.Gen.Kernels
import WW.Proofs.Kernels
import WW.Model.Epoch
namespace WW.KernelsEpochStep
open WW WW.Gen WW.Epoch

/-- The epoch manager's `create_epoch` clock is the model's: panic before the current epoch's start, `Err` while the
    epoch has not run its duration and when the id would leave `u64`, panic when the next start would leave `u64`,
    otherwise id + 1 and start + duration, in the order of `Mgr.createEpoch`, whose new current epoch is the pair
    the regenerated stretch returns. -/
theorem gen_epoch_manager_create_epoch_clock_eq_model (s : Mgr) (now : Nat) :
    K.epoch_manager_create_epoch_clock now s.cur.start s.cur.id s.cfg.duration
      = (Mgr.createEpoch s now).bind (fun r => .ok (r.1.cur.id, r.1.cur.start)) := by
  unfold K.epoch_manager_create_epoch_clock Mgr.createEpoch
  simp only [Res.rbind_eq_bind, psub_bind, cadd_bind, padd_bind, Res.ite_bind, Res.bind_err_s, Res.bind_ok_s,
    Res.bind_panic_s, Res.pure_eq]

/-- the hook messages of a creation all carry the epoch the regenerated clock computed -/
theorem created_epoch_is_code_clock (s s' : Mgr) (now : Nat) (msgs : List (Nat × Ep))
    (h : Mgr.createEpoch s now = .ok (s', msgs)) :
    K.epoch_manager_create_epoch_clock now s.cur.start s.cur.id s.cfg.duration = .ok (s'.cur.id, s'.cur.start) := by
  rw [gen_epoch_manager_create_epoch_clock_eq_model, h]; rfl

/-- The regenerated stretch followed by the id's `checked_add(1)?` (which the handler performs inside the
    `Epoch { .. }` literal right after the stretch) is `Dist.createNewEpoch`, including the very first epoch (id 0
    starting at time 0: start := genesis, `Err` before genesis, and the duration test against time 0). -/
theorem gen_distributor_new_epoch_start_eq_model (s : Dist) (now : Nat) :
    (K.distributor_new_epoch_start now s.cur.start s.cur.id s.cfg.duration s.cfg.genesis).bind
        (fun st => if U64MAX < s.cur.id + 1 then .err else .ok { s with cur := { id := s.cur.id + 1, start := st } })
      = Dist.createNewEpoch s now := by
  unfold K.distributor_new_epoch_start Dist.createNewEpoch Dist.isFirst
  simp only [Res.rbind_eq_bind, psub_bind, padd_bind, Res.ite_bind, Res.bind_err_s, Res.bind_ok_s,
    Res.bind_panic_s, Res.pure_eq, Bool.and_eq_true, beq_iff_eq]

/-- non-vacuity: day-long epochs, epoch 7 started at t = 7 days; one nanosecond early is refused, on time it is created -/
example : K.epoch_manager_create_epoch_clock (8 * 86400000000000 - 1) (7 * 86400000000000) 7 86400000000000 = .err := by
  decide +kernel
example : K.epoch_manager_create_epoch_clock (8 * 86400000000000) (7 * 86400000000000) 7 86400000000000
    = .ok (8, 8 * 86400000000000) := by decide +kernel
example : K.distributor_new_epoch_start 1700000000000000000 0 0 86400000000000 1690000000000000000
    = .ok 1690000000000000000 := by decide +kernel

end WW.KernelsEpochStep
