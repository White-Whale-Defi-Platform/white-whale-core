/-
  Regenerated kernel ↔ model, C04: `stableswap_3pool/src/helpers.rs::compute_swap` (default features) ↔
  `WW.Trio.computeSwap`, on top of the regenerated `swap_to` and `Fee::compute`.
-/
import WW.Gen.Kernels
import WW.Proofs.KernelsSwap
import WW.Props.Kernels.Curve
namespace WW.KernelsTrioSwap
open WW WW.Gen

theorem gen_trio_compute_swap_eq_model (offerPool askPool unsw offer : Nat) (fees : K.TrioPoolFee)
    (s : K.StableSwap) :
    K.trio_compute_swap offerPool askPool unsw offer fees s
      = (Trio.computeSwap ⟨s.initial_amp_factor, s.target_amp_factor, s.start_ramp_ts, s.stop_ramp_ts⟩
          s.current_ts offerPool askPool unsw offer
          ⟨fees.protocol_fee.share, fees.swap_fee.share, fees.burn_fee.share⟩).mapTo
          (fun c => { return_amount := c.ret, spread_amount := c.spread, swap_fee_amount := c.swapFee,
                      protocol_fee_amount := c.protFee, burn_fee_amount := c.burnFee }) := by
  unfold K.trio_compute_swap Trio.computeSwap Res.mapTo
  simp only [KernelsCurve.gen_trio_swap_to_eq_model, K_Fee_compute_eq, narrowTo_128, guarded_absdiff,
    Res.mapTo, Res.bind_assoc', Res.pure_eq, Res.bind_ok_s, unwrapPanic_bind, unwrapPanic_ok]
  simp only [unwrapPanic_eq_unwrapP]

end WW.KernelsTrioSwap
