/-
  Regenerated fragment kernel ↔ model, C01: the LP-share arithmetic that the pair's `provide_liquidity`
  (`terraswap_pair/src/commands.rs`) carries inline for a deposit into a constant-product pool that already
  has shares — the `min` of the two `multiply_ratio(total_share, pools[i].amount)` followed by
  `helpers::assert_slippage_tolerance(..)?` — ↔ the later-deposit branch of `WW.Pair.provideShares`, on which
  `C01.lp_value_step` and the `min`-share lemmas rest.
-/
import WW.Gen.Kernels
import WW.Proofs.Kernels
import WW.Model.Pair
import WW.Props.Kernels.Slippage
namespace WW.KernelsPair
open WW WW.Gen WW.Pair

/-- for a pool with shares (`sup ≠ 0`): same `min` of the two floored ratios, same panics (zero reserve, ratio above
    128 bits), same slippage refusal; the pair itself is minted nothing -/
theorem gen_pair_provide_later_shares_eq_model (d0 d1 : Nat) (pools : K.Asset × K.Asset) (sup : Nat)
    (tol : Option Nat) (hs : sup ≠ 0) :
    K.pair_provide_later_shares (d0, d1) pools sup tol K.PairType.ConstantProduct
      = (provideShares sup pools.1.amount pools.2.amount d0 d1 tol).bind (fun r => .ok r.1) := by
  unfold K.pair_provide_later_shares provideShares
  rw [if_neg hs]
  simp only [KernelsSlippage.gen_pair_assert_slippage_tolerance_eq_model, PoolKind.ofGen, Res.rbind_eq_bind,
    Res.bind_assoc', Res.pure_eq, Res.bind_ok_s]

/-- the amount the model mints to the pair itself on a later deposit is zero, and the receiver's amount is the
    regenerated stretch's result -/
theorem provideShares_later_is_code (d0 d1 : Nat) (pools : K.Asset × K.Asset) (sup : Nat) (tol : Option Nat)
    (hs : sup ≠ 0) (amt lock : Nat)
    (h : provideShares sup pools.1.amount pools.2.amount d0 d1 tol = .ok (amt, lock)) :
    K.pair_provide_later_shares (d0, d1) pools sup tol K.PairType.ConstantProduct = .ok amt := by
  rw [gen_pair_provide_later_shares_eq_model d0 d1 pools sup tol hs, h]
  rfl

/-- non-vacuity: reserves (2 000 000, 1 000 000), supply 1 414 213, deposit (2 000, 1 001): the second leg binds -/
example :
    K.pair_provide_later_shares (2000, 1001) ({ amount := 2000000 }, { amount := 1000000 }) 1414213 none
      K.PairType.ConstantProduct = .ok 1414 := by decide +kernel

end WW.KernelsPair
