/-
  Regenerated fragment kernel ↔ model, C09: the reward that the fee distributor's `claim`
  (`fee_distributor/src/commands.rs`) computes inline for every asset of an epoch's `total`,
  `fee.amount.checked_mul_floor(bonding_weight_response.share)?` (both operands are the kernel's parameters),
  against the reward of `WW.Distributor.claimFee`, on which C09's ledger equalities rest.
-/
import WW.Gen.Kernels
import WW.Proofs.Kernels
import WW.Model.Distributor
namespace WW.KernelsDistClaim
open WW WW.Gen WW.Distributor

/-- `⌊total · share / 10¹⁸⌋`, `Err` when that leaves 128 bits, never a panic -/
theorem gen_distributor_claim_reward_closed (t sh : Nat) :
    K.distributor_claim_reward t sh = if t * sh / E18 ≤ U128MAX then .ok (t * sh / E18) else .err := by
  unfold K.distributor_claim_reward mulRatioC
  rw [if_neg (by decide : ¬ E18 = 0)]

/-- The model's per-asset claim step runs on the code's reward: `claimFee` is the regenerated statement followed by
    the rest of the loop body with that reward (skip when zero, `Invalid fee` when the asset is not in `available`,
    aggregate, subtract from `available`, record in `claimed`). -/
theorem gen_distributor_claim_reward_eq_model (sh k t : Nat) (av cl acc : Ledger) :
    claimFee sh k t av cl acc =
      (K.distributor_claim_reward t sh).bind fun r =>
        if r = 0 then .ok (av, cl, acc)
        else if hasKey k av = false then .err
        else
          match aggOne acc k r with
          | .ok acc' =>
            match subAll k r av with
            | .ok av' =>
              match recordClaimed k r cl with
              | .ok cl' => .ok (av', cl', acc')
              | .err => .err
              | .panic => .panic
            | .err => .err
            | .panic => .panic
          | .err => .err
          | .panic => .panic := by
  rw [gen_distributor_claim_reward_closed]
  unfold claimFee
  by_cases h : t * sh / E18 ≤ U128MAX
  · rw [if_pos h, if_neg (by omega : ¬ t * sh / E18 > U128MAX)]; rfl
  · rw [if_neg h, if_pos (by omega : t * sh / E18 > U128MAX)]; rfl

/-- a share of at most one never pays more than the epoch's total of the asset -/
theorem reward_le_total (t sh : Nat) (hs : sh ≤ E18) (ht : t ≤ U128MAX) :
    K.distributor_claim_reward t sh = .ok (t * sh / E18) ∧ t * sh / E18 ≤ t := by
  have hle : t * sh / E18 ≤ t := mulDec_le t sh hs
  exact ⟨by rw [gen_distributor_claim_reward_closed, if_pos (Nat.le_trans hle ht)], hle⟩

/-- non-vacuity: a third (0.333333333333333333) of 1 000 000 -/
example : K.distributor_claim_reward 1000000 333333333333333333 = .ok 333333 := by decide +kernel

end WW.KernelsDistClaim
