/-
  Regenerated fragment kernels ↔ model, C12 / C13: the arithmetic that the incentive's `claim::claim`
  (`incentive/src/claim.rs`) carries inline in its loop over epochs — the emission of an epoch
  `flow_asset_amount.saturating_sub(emitted_tokens).checked_div(Uint128::from(end − epoch))?` ↔
  `WW.Inc.emissionStep`, and the user's reward
  `(Uint256::from_uint128(emission) * Decimal256::from_ratio(user_weight, global_weight)).try_into()?` with its
  sanity check (`reward > emission || reward + claimed > funded` → `InvalidReward`) ↔ `WW.Inc.rewardOf` and
  the check of `WW.Inc.claimPay`, on which `C12.claims_le_funded` and `C13.shares_le_one` rest.
-/
import WW.Gen.Kernels
import WW.Proofs.Kernels
import WW.Model.Incentive
namespace WW.KernelsIncClaim
open WW WW.Gen WW.Inc

/-- `emissionStep` runs on the code's emission: the regenerated statement (the `u64` difference `end − epoch` panics
    when the epoch is past the end, a zero difference is `DivideByZero`) followed by the bookkeeping of the
    emitted-tokens map. -/
theorem gen_incentive_emission_per_epoch_eq_model (f : Flow) (emitted : List (Nat × Nat)) (ep : Nat) :
    emissionStep f emitted ep =
      (K.incentive_emission_per_epoch (f.amountAt ep) (if emitted.isEmpty then 0 else aget emitted (ep - 1))
          (f.endAt ep) ep).bind fun emission =>
        match alook emitted ep with
        | some _ => .ok (emission, emitted)
        | none =>
          match cadd U128MAX emission (if emitted.isEmpty then 0 else aget emitted (ep - 1)) with
          | .ok t => .ok (emission, aset emitted ep t)
          | .err => .err
          | .panic => .panic := by
  unfold emissionStep K.incentive_emission_per_epoch
  dsimp only
  cases psub (f.endAt ep) ep with
  | err => rfl
  | panic => rfl
  | ok d =>
    simp only [Res.bind_ok_s]
    cases cdiv (f.amountAt ep - if emitted.isEmpty then 0 else aget emitted (ep - 1)) d with
    | err => rfl
    | panic => rfl
    | ok e => rfl

/-- The reward stretch is the model's `rewardOf` followed by the sanity check of `claimPay`.  The code tests
    `reward > emission` BEFORE it adds the claimed amount, the model adds first; both refuse exactly the same inputs
    and both with `Err`. -/
theorem gen_incentive_user_reward_eq_model (uw g emission claimed funded : Nat) :
    K.incentive_user_reward uw g emission claimed funded =
      (rewardOf emission uw g).bind fun r =>
        (cadd U128MAX r claimed).bind fun tot =>
          if r > emission || tot > funded then .err else .ok r := by
  unfold K.incentive_user_reward rewardOf
  cases dec256FromRatio uw g with
  | err => rfl
  | panic => rfl
  | ok share =>
    simp only [Res.bind_ok_s]
    cases u256MulDec emission share with
    | err => rfl
    | panic => rfl
    | ok r256 =>
      show (to128 r256 >>= _) = (to128 r256 >>= _)
      refine Res.bind_congr fun r => ?_
      simp only [Res.ite_bind, Res.bind_assoc', Res.bind_err_s, Res.bind_ok_s, Res.pure_eq]
      by_cases h1 : r > emission
      · -- the code refuses before it adds; the model's addition can only fail with `Err` as well
        simp only [if_pos h1, decide_eq_true h1, Bool.true_or, if_pos]
        exact (cadd_bind_err _ _ _).symm
      · simp only [if_neg h1, decide_eq_false h1, Bool.false_or]
        rfl

/-- a reward the stretch lets through has passed its sanity check: it exceeds neither the epoch's emission nor,
    together with what was claimed before, the funded amount -/
theorem reward_le_emission (uw g emission claimed funded r : Nat)
    (h : K.incentive_user_reward uw g emission claimed funded = .ok r) : r ≤ emission ∧ r + claimed ≤ funded := by
  rw [gen_incentive_user_reward_eq_model] at h
  obtain ⟨r', -, h⟩ := Res.bind_eq_ok.mp h
  obtain ⟨tot, ht, h⟩ := Res.bind_eq_ok.mp h
  obtain ⟨-, rfl⟩ := cadd_eq_ok.mp ht
  split at h
  · cases h
  · next hc =>
    cases h
    simp only [Bool.or_eq_true, decide_eq_true_eq, not_or, Nat.not_lt] at hc
    exact hc

/-- non-vacuity: 1 000 000 still to emit over 4 epochs; a 30 % weight share of that emission -/
example : K.incentive_emission_per_epoch 1500000 500000 14 10 = .ok 250000 := by decide +kernel
example : K.incentive_user_reward 300 1000 250000 0 1500000 = .ok 75000 := by decide +kernel

end WW.KernelsIncClaim
