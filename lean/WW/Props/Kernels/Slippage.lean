/-
  Regenerated kernels ↔ model (`WW/Model/Slippage.lean`), C15:
  `white-whale-std/src/pool_network/swap.rs::assert_max_spread`,
  `terraswap_pair/src/helpers.rs::assert_slippage_tolerance`,
  `stableswap_3pool/src/helpers.rs::assert_slippage_tolerance`.
-/
import WW.Gen.Kernels
import WW.Proofs.KernelsSlippage
namespace WW.KernelsSlippage
open WW WW.Gen

theorem gen_assert_max_spread_eq_model (belief maxSpread : Option Nat) (offer ret spread : Nat) :
    K.assert_max_spread belief maxSpread offer ret spread
      = assertMaxSpread belief maxSpread offer ret spread := by
  unfold K.assert_max_spread assertMaxSpread effSpread
  cases belief with
  | none =>
    simp only [Res.bind_ok_s, Res.bind_assoc', Res.bind_unit_ok, k_min_eq, SWAP_DEFAULT_SLIPPAGE,
      SWAP_MAX_ALLOWED_SLIPPAGE]
    rfl
  | some p =>
    simp only [Res.bind_ok_s, Res.bind_unit_ok, k_min_eq, SWAP_DEFAULT_SLIPPAGE, SWAP_MAX_ALLOWED_SLIPPAGE]
    cases decInv p with
    | none => rfl
    | some inv =>
      simp only [optErr_some, Res.bind_ok_s, and_shortcircuit, decide_eq_true_eq, Bool.false_eq_true, if_false]
      rfl

/-- both pool types; `pools[i]` enters through `.amount` only -/
theorem gen_pair_assert_slippage_tolerance_eq_model (tol : Option Nat) (deposits : Nat × Nat)
    (pools : K.Asset × K.Asset) (pairType : K.PairType) (amount supply : Nat) :
    K.pair_assert_slippage_tolerance tol deposits pools pairType amount supply
      = pairAssertSlippage tol deposits.1 deposits.2 pools.1.amount pools.2.amount
          (PoolKind.ofGen pairType) amount supply := by
  unfold K.pair_assert_slippage_tolerance pairAssertSlippage
  cases tol with
  | none => rfl
  | some t =>
    cases pairType with
    | StableSwap amp =>
      simp only [PoolKind.ofGen, Res.bind_unit_ok, Res.ite_bind, Res.bind_err_s, Res.bind_ok_s]
    | ConstantProduct =>
      simp only [PoolKind.ofGen, Res.ite_bind, Res.bind_assoc', Res.pure_eq, Res.bind_err_s, Res.bind_ok_s,
        decide_eq_true_eq, eq_self, if_true]

theorem gen_trio_assert_slippage_tolerance_eq_model (tol : Option Nat) (deposits : Nat × Nat × Nat)
    (pools : K.Asset × K.Asset × K.Asset) (amount supply : Nat) :
    K.trio_assert_slippage_tolerance tol deposits pools amount supply
      = trioAssertSlippage tol deposits.1 deposits.2.1 deposits.2.2
          pools.1.amount pools.2.1.amount pools.2.2.amount amount supply := by
  unfold K.trio_assert_slippage_tolerance trioAssertSlippage
  cases tol with
  | none => rfl
  | some t => simp only [Res.bind_unit_ok, Res.ite_bind, Res.bind_err_s, Res.bind_ok_s]

end WW.KernelsSlippage
