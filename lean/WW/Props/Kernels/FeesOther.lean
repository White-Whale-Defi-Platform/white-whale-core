/-
  Regenerated kernels ↔ model, C18: `white-whale-std/src/fee.rs` `VaultFee::is_valid` and
  `white-whale-std/src/pool_network/trio.rs` `PoolFee::is_valid` with `PoolFee::aggregate` ↔ `fees3IsValid`.
-/
import WW.Gen.Kernels
import WW.Proofs.KernelsFees
namespace WW.KernelsFeesOther
open WW WW.Gen WW.Config

/-- on (protocol, flash loan, burn) -/
theorem gen_VaultFee_is_valid_eq_model (v : K.VaultFee) :
    K.VaultFee_is_valid v = fees3IsValid (Fees3.ofVault v) := by
  unfold K.VaultFee_is_valid
  simp only [K_Fee_is_valid_eq, percent_100]
  exact fees3_shape _ _ _

/-- through `PoolFee::aggregate`, on (protocol, swap, burn) -/
theorem gen_TrioPoolFee_is_valid_eq_model (p : K.TrioPoolFee) :
    K.TrioPoolFee_is_valid p = fees3IsValid (Fees3.ofTrioPool p) := by
  unfold K.TrioPoolFee_is_valid K.TrioPoolFee_aggregate
  simp only [K_Fee_is_valid_eq, percent_100, Res.bind_assoc', Res.bind_ok_s]
  exact fees3_shape _ _ _

end WW.KernelsFeesOther
