/-
  Regenerated kernels ↔ model (`WW/Model/Stable2.lean`), C03: the raw-amount invariant solver of
  `terraswap_pair/src/helpers.rs` — `compute_next_d`, `compute_d` (256 rounds),
  `compute_lp_mint_amount_for_stableswap_deposit`.
-/
import WW.Gen.Kernels
import WW.Proofs.Kernels
namespace WW.KernelsStable2
open WW WW.Gen

/-- `compute_next_d(..).unwrap()` as `compute_d` calls it (two coins): in the model's `computeNextD` every `None` is
    already the caller's panic -/
theorem gen_pair_compute_next_d_eq_model (amp dInit dProd sumX : Nat) :
    unwrapPanic (K.pair_compute_next_d amp dInit dProd sumX 2) = computeNextD amp dInit dProd sumX := by
  unfold K.pair_compute_next_d computeNextD pmul64 SS_N PAIR_N_COINS
  simp only [unwrapPanic_bind, unwrapPanic_cmul, unwrapPanic_cadd,
    unwrapPanic_csub, unwrapPanic_cdiv_arith, unwrapPanic_pmul, unwrapPanic_padd,
    unwrapPanic_pdiv, two_as_u64, padd_u128_2_1, Res.bind_ok_s, Res.bind_ok_right]

theorem gen_pair_compute_d_loop_eq_model (amp sumX a2 b2 : Nat) :
    ∀ fuel d, K.pair_compute_d_loop1 amp sumX 2 a2 b2 fuel d = computeDLoop fuel amp a2 b2 sumX d := by
  intro fuel
  induction fuel with
  | zero => intro d; unfold K.pair_compute_d_loop1 computeDLoop; rfl
  | succ n ih =>
    intro d
    unfold K.pair_compute_d_loop1 computeDLoop computeDStep
    simp only [unwrapPanic_cmul, unwrapPanic_cdiv_arith, unwrapPanic_csub,
      gen_pair_compute_next_d_eq_model, ih, newton_tail_lt, Res.bind_assoc']

/-- the model's `computeD` is `compute_d(..).unwrap()`: the function never returns `None` -/
theorem gen_pair_compute_d_eq_model (amp a b : Nat) :
    K.pair_compute_d amp a b = computeD amp a b := by
  unfold K.pair_compute_d computeD COMPUTE_D_ITERATIONS PAIR_COMPUTE_D_ITERATIONS SS_N PAIR_N_COINS
  simp only [unwrapPanic_cmul, unwrapPanic_cadd, gen_pair_compute_d_loop_eq_model, Res.bind_ok_right,
    Res.pure_eq]

/-- the model's `ok none` is the function's `None`, which is `err` on the generated side -/
theorem gen_pair_compute_lp_mint_eq_model (amp da db sa sb supply : Nat) :
    K.pair_compute_lp_mint_amount_for_stableswap_deposit amp da db sa sb supply
      = (ssLpMint amp da db sa sb supply >>= optErr) := by
  unfold K.pair_compute_lp_mint_amount_for_stableswap_deposit ssLpMint lpMintQuot
  simp only [unwrapPanic_cmul, unwrapPanic_cadd, unwrapPanic_csub, unwrapPanic_cdiv_arith,
    gen_pair_compute_d_eq_model, Res.bind_assoc', Res.ite_bind, Res.pure_eq, Res.bind_ok_s, optErr_none,
    optErr_some, unwrapPanic_narrowTo, Res.bind_ok_right, Res.bind_panic_s]

end WW.KernelsStable2
