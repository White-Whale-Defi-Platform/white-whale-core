/-
  Regenerated kernel ↔ model, C13: `incentive/src/weight.rs::calculate_weight` ↔ `WW.calcWeight`.
-/
import WW.Gen.Kernels
import WW.Proofs.Kernels
namespace WW.KernelsWeight
open WW WW.Gen

/-- no range hypothesis: both sides are total on `Nat`, the Rust argument types `u64` and `Uint128` are sub-ranges -/
theorem gen_calculate_weight_eq_model (d amt : Nat) :
    K.calculate_weight d amt = calcWeight d amt := by
  unfold K.calculate_weight calcWeight
  simp only [unwrapPanic_fromAtomics_zero, dec256PowC_two, narrowTo_128, Res.bind_assoc', ppow_10_18,
    dec256MulC_eq_dmulC, dec256DivC_eq_ddivC, Res.bind_ok_s, ite_err_eq_guardErr, decide_not, Bool.not_not, Bool.decide_and,
    INCENTIVE_WEIGHT_MIN_DURATION, INCENTIVE_WEIGHT_MAX_DURATION, INCENTIVE_WEIGHT_SQ_COEFF,
    INCENTIVE_WEIGHT_SQ_DENOM, INCENTIVE_WEIGHT_LIN_COEFF, INCENTIVE_WEIGHT_LIN_DENOM,
    INCENTIVE_WEIGHT_CONST_NUM, INCENTIVE_WEIGHT_CONST_DEN]
  rfl

end WW.KernelsWeight
