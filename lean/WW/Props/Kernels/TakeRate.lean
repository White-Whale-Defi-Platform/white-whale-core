/-
  Regenerated fragment kernel ↔ model, C10: the take-rate split that the fee collector's aggregation `reply`
  (`fee_collector/src/contract.rs`) carries inline —
  `token_balance.checked_mul_floor(config.take_rate).unwrap_or(Uint128::zero())` and
  `token_balance.saturating_sub(take_rate_fee)` — ↔ `WW.Collector.takeOf`, on which the take-rate clauses of C10 rest.
-/
import WW.Gen.Kernels
import WW.Proofs.Kernels
import WW.Model.Collector
namespace WW.KernelsTakeRate
open WW WW.Gen WW.Collector

/-- the fee is `⌊balance · rate / 10¹⁸⌋` when that fits 128 bits and ZERO otherwise (the `unwrap_or` fallback), what
    goes on to the distributor is the balance minus the fee (saturating); the stretch never fails -/
theorem gen_collector_take_rate_split_closed (tb rate : Nat) :
    K.collector_take_rate_split tb rate =
      .ok ((if tb * rate / E18 ≤ U128MAX then tb * rate / E18 else 0),
           tb - (if tb * rate / E18 ≤ U128MAX then tb * rate / E18 else 0)) := by
  unfold K.collector_take_rate_split mulRatioC
  have hE : ¬ (E18 = 0) := by decide
  rw [if_neg hE]
  by_cases h : tb * rate / E18 ≤ U128MAX
  · rw [if_pos h, if_pos h]; rfl
  · rw [if_neg h, if_neg h]; rfl

/-- it is the model's `takeOf` whenever the collector's take rate applies (active, non-zero, DAO address set: the
    guard the handler tests right before the stretch) -/
theorem gen_collector_take_rate_split_eq_model (s : St) (tb : Nat)
    (happ : s.active = true ∧ s.rate ≠ 0 ∧ s.daoSet = true) :
    K.collector_take_rate_split tb s.rate = .ok (takeOf s tb, tb - takeOf s tb) := by
  rw [gen_collector_take_rate_split_closed]
  unfold takeOf
  rw [if_pos happ]

/-- for a take rate below one (the C18 invariant) and a 128-bit balance the fallback is never taken and the fee never
    exceeds the balance -/
theorem take_rate_fee_exact (tb rate : Nat) (hr : rate < E18) (hb : tb ≤ U128MAX) :
    K.collector_take_rate_split tb rate = .ok (tb * rate / E18, tb - tb * rate / E18) ∧ tb * rate / E18 ≤ tb := by
  have hle : tb * rate / E18 ≤ tb := mulDec_le tb rate (Nat.le_of_lt hr)
  refine ⟨?_, hle⟩
  rw [gen_collector_take_rate_split_closed, if_pos (Nat.le_trans hle hb)]

/-- non-vacuity: 1.23456789 % of 10¹² -/
example : K.collector_take_rate_split 1000000000000 12345678900000000 = .ok (12345678900, 987654321100) := by decide +kernel

end WW.KernelsTakeRate
