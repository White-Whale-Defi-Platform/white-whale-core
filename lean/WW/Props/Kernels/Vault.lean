/-
  Regenerated fragment kernels ↔ model, C05 / C06 / C07: the settlement arithmetic that the vault's
  `after_trade` (`vault-network/vault/src/execute/callback/after_trade.rs`) carries inline between its balance
  query and its ledger writes — three `Fee::compute`s narrowed to `Uint128`, the `checked_add` chain of the
  required amount, the `NegativeProfit` comparison, the `checked_sub` chain of the profit — and the like
  stretches of `get_payback_amount`, `withdraw` and `get_share`, against `fee` / `afterTradeOk` /
  `afterTradeRes` / `payback` / `shareOf` of `WW/Model/Vault.lean`.
-/
import WW.Gen.Kernels
import WW.Proofs.KernelsVault
namespace WW.KernelsVault
open WW WW.Gen WW.Vault

/-- for every configuration whose three shares are below one (the C18 invariant `VaultFee::is_valid`) and every
    `Uint128` loan amount: the stretch succeeds exactly when `old + protocol + flash + burn` fits 128 bits and is
    covered by the new balance (otherwise `Err`, never a panic), the three fees are the model's `fee`, the required
    amount is their sum on top of the old balance and the reported profit is what is left -/
theorem gen_vault_after_trade_settlement_eq_model (cfg : K.VaultConfig) (old loan new : Nat)
    (hp : cfg.fees.protocol_fee.share < E18) (hf : cfg.fees.flash_loan_fee.share < E18)
    (hb : cfg.fees.burn_fee.share < E18) (hl : loan ≤ U128MAX) :
    K.vault_after_trade_settlement cfg old loan new =
      (if old + fee cfg.fees.protocol_fee.share loan + fee cfg.fees.flash_loan_fee.share loan
            + fee cfg.fees.burn_fee.share loan ≤ U128MAX
          ∧ old + fee cfg.fees.protocol_fee.share loan + fee cfg.fees.flash_loan_fee.share loan
            + fee cfg.fees.burn_fee.share loan ≤ new
       then .ok (fee cfg.fees.protocol_fee.share loan, fee cfg.fees.flash_loan_fee.share loan,
                 fee cfg.fees.burn_fee.share loan,
                 old + fee cfg.fees.protocol_fee.share loan + fee cfg.fees.flash_loan_fee.share loan
                   + fee cfg.fees.burn_fee.share loan,
                 new - old - fee cfg.fees.protocol_fee.share loan - fee cfg.fees.flash_loan_fee.share loan
                   - fee cfg.fees.burn_fee.share loan)
       else .err) := by
  unfold K.vault_after_trade_settlement
  rw [← Res.bind_assoc', compute_narrow _ loan hp hl, Res.bind_ok_s,
    ← Res.bind_assoc', compute_narrow _ loan hf hl, Res.bind_ok_s,
    ← Res.bind_assoc', compute_narrow _ loan hb hl, Res.bind_ok_s, cadd_cadd_cadd]
  generalize fee cfg.fees.protocol_fee.share loan = p
  generalize fee cfg.fees.flash_loan_fee.share loan = f
  generalize fee cfg.fees.burn_fee.share loan = b
  by_cases h3 : old + p + f + b ≤ U128MAX
  · rw [if_pos h3]
    by_cases h4 : old + p + f + b ≤ new
    · rw [if_neg (Nat.not_lt.mpr h4), Res.bind_ok_s, csub_chain h4, if_pos ⟨h3, h4⟩]; rfl
    · rw [if_pos (Nat.lt_of_not_le h4), Res.bind_err_s, if_neg fun h => h4 h.2]
  · rw [if_neg h3, if_neg fun h => h3 h.1]

theorem settlement_never_panics (cfg : K.VaultConfig) (old loan new : Nat)
    (hp : cfg.fees.protocol_fee.share < E18) (hf : cfg.fees.flash_loan_fee.share < E18)
    (hb : cfg.fees.burn_fee.share < E18) (hl : loan ≤ U128MAX) :
    K.vault_after_trade_settlement cfg old loan new ≠ .panic := by
  rw [gen_vault_after_trade_settlement_eq_model cfg old loan new hp hf hb hl]
  split <;> intro h <;> cases h

/-- Tie to the state machine: for a model state with a valid fee record and the code's `Config` carrying the same three
    shares, the model's `afterTrade` goes through only if the real handler's settlement stretch goes through on the
    vault's balance, and then the fees the handler books / burns are the ones `afterTradeRes` books / burns, and the
    required amount is the recorded balance plus what `payback` adds to the loan amount. -/
theorem afterTrade_uses_code_settlement (s : St) (cfg : K.VaultConfig) (old loan : Nat)
    (hp : cfg.fees.protocol_fee.share = s.fees.prot) (hf : cfg.fees.flash_loan_fee.share = s.fees.flash)
    (hb : cfg.fees.burn_fee.share = s.fees.burn) (hv : s.fees.valid = true) (hl : loan ≤ U128MAX)
    (hok : afterTradeOk s old loan = true) :
    K.vault_after_trade_settlement cfg old loan s.bal =
      .ok (fee s.fees.prot loan, fee s.fees.flash loan, fee s.fees.burn loan,
           old + (payback s loan - loan),
           s.bal - old - fee s.fees.prot loan - fee s.fees.flash loan - fee s.fees.burn loan) := by
  obtain ⟨h1, h2, h3⟩ := valid_shares hv
  rw [gen_vault_after_trade_settlement_eq_model cfg old loan s.bal (hp ▸ h1) (hf ▸ h2) (hb ▸ h3) hl,
    hp, hf, hb, if_pos (afterTradeOk_covers hok)]
  unfold payback
  rw [payback_sub]

/-- conversely: when the real settlement stretch refuses (`Err`), the model's `afterTrade` refuses too -/
theorem code_settlement_err_model_refuses (s : St) (cfg : K.VaultConfig) (old loan : Nat)
    (hp : cfg.fees.protocol_fee.share = s.fees.prot) (hf : cfg.fees.flash_loan_fee.share = s.fees.flash)
    (hb : cfg.fees.burn_fee.share = s.fees.burn) (hv : s.fees.valid = true) (hl : loan ≤ U128MAX)
    (herr : K.vault_after_trade_settlement cfg old loan s.bal = .err) :
    afterTrade s old loan = none := by
  obtain ⟨h1, h2, h3⟩ := valid_shares hv
  rw [gen_vault_after_trade_settlement_eq_model cfg old loan s.bal (hp ▸ h1) (hf ▸ h2) (hb ▸ h3) hl,
    hp, hf, hb] at herr
  split at herr
  · cases herr
  · next hn => exact if_neg fun hok => hn (afterTradeOk_covers hok)

/-- `GetPaybackAmount`, the query a borrower reads before repaying: the stretch of `get_payback_amount` between the
    configuration load and the response is the model's `payback`, the loan amount plus the three fees; `Err`
    exactly when the sum leaves 128 bits -/
theorem gen_vault_payback_amount_eq_model (cfg : K.VaultConfig) (amount : Nat)
    (hp : cfg.fees.protocol_fee.share < E18) (hf : cfg.fees.flash_loan_fee.share < E18)
    (hb : cfg.fees.burn_fee.share < E18) (hl : amount ≤ U128MAX) :
    K.vault_payback_amount cfg amount =
      (if amount + fee cfg.fees.protocol_fee.share amount + fee cfg.fees.flash_loan_fee.share amount
            + fee cfg.fees.burn_fee.share amount ≤ U128MAX
       then .ok (fee cfg.fees.protocol_fee.share amount, fee cfg.fees.flash_loan_fee.share amount,
                 fee cfg.fees.burn_fee.share amount,
                 amount + fee cfg.fees.protocol_fee.share amount + fee cfg.fees.flash_loan_fee.share amount
                   + fee cfg.fees.burn_fee.share amount)
       else .err) := by
  unfold K.vault_payback_amount
  rw [← Res.bind_assoc', compute_narrow _ amount hp hl, Res.bind_ok_s,
    ← Res.bind_assoc', compute_narrow _ amount hf hl, Res.bind_ok_s,
    ← Res.bind_assoc', compute_narrow _ amount hb hl, Res.bind_ok_s, cadd_cadd_cadd]
  rfl

theorem payback_is_code_payback (s : St) (cfg : K.VaultConfig) (amount : Nat)
    (hp : cfg.fees.protocol_fee.share = s.fees.prot) (hf : cfg.fees.flash_loan_fee.share = s.fees.flash)
    (hb : cfg.fees.burn_fee.share = s.fees.burn) (hv : s.fees.valid = true) (hl : amount ≤ U128MAX)
    (hfit : payback s amount ≤ U128MAX) :
    K.vault_payback_amount cfg amount =
      .ok (fee s.fees.prot amount, fee s.fees.flash amount, fee s.fees.burn amount, payback s amount) := by
  obtain ⟨h1, h2, h3⟩ := valid_shares hv
  unfold payback at hfit ⊢
  rw [gen_vault_payback_amount_eq_model cfg amount (hp ▸ h1) (hf ▸ h2) (hb ▸ h3) hl, hp, hf, hb, if_pos hfit]

/-- `Decimal::from_ratio(amount, total_share) * total_asset_amount` of the vault's `withdraw`: panics for an empty
    share supply, for a ratio above the `Decimal` range and for a product above 128 bits; otherwise the doubly
    floored `total · ⌊amount·10¹⁸ / supply⌋ / 10¹⁸` -/
theorem gen_vault_withdraw_amount_eq_model (amount sup total : Nat) :
    K.vault_withdraw_amount amount sup total =
      (if sup = 0 then .panic
       else if amount * E18 / sup ≤ U128MAX then
         (if total * (amount * E18 / sup) / E18 ≤ U128MAX then .ok (total * (amount * E18 / sup) / E18) else .panic)
       else .panic) := by
  unfold K.vault_withdraw_amount dec128FromRatio mulRatioP u128MulDec
  by_cases h0 : sup = 0
  · rw [if_pos h0, if_pos h0]; rfl
  · rw [if_neg h0, if_neg h0]
    by_cases h1 : amount * E18 / sup ≤ U128MAX
    · rw [if_pos h1, if_pos h1, Res.bind_ok_s]
    · rw [if_neg h1, if_neg h1]; rfl

/-- the `Share` query computes the same expression as `withdraw` -/
theorem gen_vault_share_query_amount_eq_model (amount sup total : Nat) :
    K.vault_share_query_amount amount sup total = K.vault_withdraw_amount amount sup total := rfl

/-- Tie to the state machine: what the real `withdraw` pays for `lp ≤ supply` shares of a vault whose balance fits
    128 bits is the model's `shareOf`; no panic is reachable there. -/
theorem shareOf_is_code_withdraw_amount (s : St) (lp : Nat) (hs : s.sup ≠ 0) (hlp : lp ≤ s.sup)
    (hb : s.bal ≤ U128MAX) :
    K.vault_withdraw_amount lp s.sup (s.bal - s.pend) = .ok (shareOf s lp) := by
  have hr : lp * E18 / s.sup ≤ E18 := fromRatio_le_one lp s.sup hlp
  have h2 : (s.bal - s.pend) * (lp * E18 / s.sup) / E18 ≤ U128MAX :=
    Nat.le_trans (mulDec_le _ _ hr) (Nat.le_trans (Nat.sub_le _ _) hb)
  rw [gen_vault_withdraw_amount_eq_model, if_neg hs, if_pos (Nat.le_trans hr (by decide)), if_pos h2]
  rfl

/-- non-vacuity: a 0.1 % / 0.2 % / 0.05 % vault, balance 1 000 000 recorded, loan 500 000, repaid with 2 000 on top -/
example :
    K.vault_after_trade_settlement
      { flash_loan_enabled := true, deposit_enabled := true, withdraw_enabled := true,
        fees := { protocol_fee := { share := 1000000000000000 }, flash_loan_fee := { share := 2000000000000000 },
                  burn_fee := { share := 500000000000000 } } }
      1000000 500000 1002000 = .ok (500, 1000, 250, 1001750, 250) := by decide +kernel

example :
    K.vault_after_trade_settlement
      { flash_loan_enabled := true, deposit_enabled := true, withdraw_enabled := true,
        fees := { protocol_fee := { share := 1000000000000000 }, flash_loan_fee := { share := 2000000000000000 },
                  burn_fee := { share := 500000000000000 } } }
      1000000 500000 1001749 = .err := by decide +kernel

end WW.KernelsVault
