/-
  Regenerated kernels ↔ model (`WW/Model/Stable2.lean`), C03: the Decimal256 swap path of the two-asset
  stableswap pair — `terraswap_pair/src/math.rs` `Decimal256Helper::{decimal_with_precision,
  checked_multiply_ratio, to_uint256_with_precision}`; `terraswap_pair/src/helpers.rs` `calculate_stableswap_d`
  and `calculate_stableswap_y` (32-round Newton loops that leave by `return`) and the
  `PairType::StableSwap { amp }` arm of `compute_swap`.
-/
import WW.Gen.Kernels
import WW.Proofs.KernelsSwap
import WW.Proofs.KernelsStable2Swap
namespace WW.KernelsStable2Swap
open WW WW.Gen

theorem gen_decimal_with_precision_eq_model (v p : Nat) :
    K.Decimal256Helper_decimal_with_precision v p = dec256WithPrecision v p := by
  unfold K.Decimal256Helper_decimal_with_precision dec256FromAtomics
  rfl

theorem gen_checked_multiply_ratio_eq_model (a n d : Nat) :
    K.Decimal256Helper_checked_multiply_ratio a n d = mulRatioC U256MAX a n d := by
  unfold K.Decimal256Helper_checked_multiply_ratio
  rw [Res.bind_ok_right]

theorem gen_to_uint256_with_precision_eq_model (v p : Nat) :
    K.Decimal256Helper_to_uint256_with_precision v p = dec256ToUintPrecision v p := by
  unfold K.Decimal256Helper_to_uint256_with_precision
  exact toUintPrecision_steps v p

theorem gen_calculate_stableswap_d_loop_eq_model (op ap prec sum ann : Nat) :
    ∀ fuel cur, K.calculate_stableswap_d_loop1 op ap prec SS_N_DEC sum ann fuel cur
      = ssDLoop fuel op ap ann sum prec cur := by
  intro fuel
  induction fuel with
  | zero => intro cur; unfold K.calculate_stableswap_d_loop1 ssDLoop; rfl
  | succ n ih =>
    intro cur
    unfold K.calculate_stableswap_d_loop1 ssDLoop ssDStep
    simp only [gen_decimal_with_precision_eq_model, gen_checked_multiply_ratio_eq_model, ih,
      Res.bind_assoc', Res.pure_eq]

theorem gen_calculate_stableswap_d_eq_model (op ap amp prec : Nat) :
    K.calculate_stableswap_d op ap amp prec = ssD op ap amp prec := by
  unfold K.calculate_stableswap_d ssD PAIR_NEWTON_ITERATIONS SS_N PAIR_N_COINS
  simp only [dec256FromRatio_2_1, Res.bind_ok_s, gen_calculate_stableswap_d_loop_eq_model, Res.pure_eq]

theorem gen_calculate_stableswap_y_loop_eq_model (d c b : Nat) :
    ∀ fuel y, K.calculate_stableswap_y_loop1 d c b fuel y = ssYLoop fuel b c d y := by
  intro fuel
  induction fuel with
  | zero => intro y; unfold K.calculate_stableswap_y_loop1 ssYLoop; rfl
  | succ n ih =>
    intro y
    unfold K.calculate_stableswap_y_loop1 ssYLoop ssYStep
    simp only [ih, narrowTo_128, ssY_tail, Res.bind_assoc']

/-- the model's encoding of `StableSwapDirection`: `0` is `Simulate`, anything else `ReverseSimulate` -/
def dirOfNat (dir : Nat) : K.StableSwapDirection :=
  if dir = 0 then K.StableSwapDirection.Simulate else K.StableSwapDirection.ReverseSimulate

theorem gen_calculate_stableswap_y_eq_model (op ap off amp prec dir : Nat) :
    K.calculate_stableswap_y op ap off amp prec (dirOfNat dir) = ssY op ap off amp prec dir := by
  unfold K.calculate_stableswap_y ssY PAIR_NEWTON_ITERATIONS SS_N PAIR_N_COINS dirOfNat
  by_cases h : dir = 0 <;>
    simp only [h, if_true, if_false, gen_to_uint256_with_precision_eq_model, gen_calculate_stableswap_d_eq_model,
      gen_calculate_stableswap_y_loop_eq_model]

theorem gen_calculate_stableswap_y_Simulate (op ap off amp prec : Nat) :
    K.calculate_stableswap_y op ap off amp prec K.StableSwapDirection.Simulate = ssY op ap off amp prec 0 :=
  gen_calculate_stableswap_y_eq_model op ap off amp prec 0

/-- used by `compute_offer_amount`, which is not a kernel -/
theorem gen_calculate_stableswap_y_ReverseSimulate (op ap off amp prec : Nat) :
    K.calculate_stableswap_y op ap off amp prec K.StableSwapDirection.ReverseSimulate = ssY op ap off amp prec 1 :=
  gen_calculate_stableswap_y_eq_model op ap off amp prec 1

theorem dirOfNat_surjective (d : K.StableSwapDirection) : ∃ n, dirOfNat n = d := by
  cases d
  · exact ⟨0, rfl⟩
  · exact ⟨1, rfl⟩

/-- default features; `amp` is the variant's field -/
theorem gen_compute_swap_StableSwap_eq_model (op ap off : Nat) (fees : K.PoolFee) (amp p₀ p₁ : Nat) :
    K.compute_swap_StableSwap op ap off fees amp p₀ p₁
      = (ssSwap op ap off (Fees.ofGen fees) amp p₀ p₁).mapTo SwapComp.toGen := by
  unfold K.compute_swap_StableSwap ssSwap Res.mapTo
  simp only [gen_calculate_stableswap_y_Simulate, K_Fee_compute_eq, narrowTo_128, gen_decimal_with_precision_eq_model,
    gen_to_uint256_with_precision_eq_model, Res.bind_assoc', Res.bind_ok_s, Res.pure_eq]
  rfl

end WW.KernelsStable2Swap
