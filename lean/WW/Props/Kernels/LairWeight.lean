/-
  Regenerated kernel ↔ model, C08: `whale_lair/src/state.rs::get_weight` ↔ `WW.Lair.getWeight` (used by the
  model's bond / unbond / weight query).
-/
import WW.Gen.Kernels
import WW.Proofs.Kernels
import WW.Model.Lair
namespace WW.KernelsLairWeight
open WW WW.Gen WW.Lair

/-- on ALL inputs (timestamps in nanoseconds; weight, amount, growth rate as `Decimal` atomics), including which of
    `Err` (time running backwards in whole seconds, `amount * seconds` or the sum above `u128`) / panic
    (`Uint128 * Decimal` above `u128`) a failing call ends in -/
theorem gen_lair_get_weight_eq_model (now w amt rate ts : Nat) :
    K.lair_get_weight now w amt rate ts = getWeight now w amt rate ts := by
  unfold K.lair_get_weight getWeight
  simp only [Res.bind_ok_right, Res.ite_bind]
  rfl

end WW.KernelsLairWeight
