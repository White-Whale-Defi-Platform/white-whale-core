/-
  Regenerated kernels ↔ the replicas the Trio state machine itself uses, C04 (the C15 replicas of
  `WW/Model/Slippage.lean` are tied in `Slippage.lean`):
  `stableswap_3pool/src/helpers.rs::assert_slippage_tolerance` ↔ `WW.Trio.assertSlippage`,
  `white-whale-std/src/pool_network/swap.rs::assert_max_spread` ↔ `WW.Trio.assertMaxSpread`.
-/
import WW.Gen.Kernels
import WW.Proofs.KernelsSlippage
namespace WW.KernelsTrioSlippage
open WW WW.Gen

theorem gen_trio_assert_slippage_tolerance_eq_Trio_model (tol : Option Nat) (deposits : Nat × Nat × Nat)
    (pools : K.Asset × K.Asset × K.Asset) (amount supply : Nat) :
    K.trio_assert_slippage_tolerance tol deposits pools amount supply
      = Trio.assertSlippage tol deposits.1 deposits.2.1 deposits.2.2
          pools.1.amount pools.2.1.amount pools.2.2.amount amount supply := by
  unfold K.trio_assert_slippage_tolerance Trio.assertSlippage
  cases tol with
  | none => simp only [Res.bind_unit_ok]
  | some t =>
    simp only [Res.bind_unit_ok]
    by_cases ht : t > E18
    · rw [if_pos ht, if_pos ht, Res.bind_err_s]
    · rw [if_neg ht, if_neg ht, Res.bind_ok_s]
      unfold psub dec256Mul
      rw [if_pos (by omega : t ≤ E18), Res.bind_ok_s]

theorem gen_assert_max_spread_eq_Trio_model (belief maxSpread : Option Nat) (offer ret spread : Nat) :
    K.assert_max_spread belief maxSpread offer ret spread
      = Trio.assertMaxSpread belief maxSpread offer ret spread := by
  unfold K.assert_max_spread Trio.assertMaxSpread
  simp only [Res.bind_ok_s, show E18 / 100 = 10000000000000000 from by decide,
    show E18 / 2 = 500000000000000000 from by decide]
  cases belief with
  | none =>
    simp only [Res.bind_assoc', Res.bind_unit_ok]
  | some p =>
    simp only [Res.bind_unit_ok]
    unfold decInv
    by_cases hp : p = 0
    · rw [if_pos hp, if_pos hp]
      simp only [optErr_none, Res.bind_err_s]
    · rw [if_neg hp, if_neg hp]
      simp only [optErr_some, Res.bind_ok_s, and_shortcircuit, decide_eq_true_eq, Bool.false_eq_true,
        if_false]

end WW.KernelsTrioSlippage
