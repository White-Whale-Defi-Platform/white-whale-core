/-
  Regenerated kernel ↔ model, C09: `fee_distributor/src/helpers.rs::validate_grace_period` against the grace
  test that the distributor model's `updateGrace` (`WW/Model/Distributor.lean`) carries inline.
-/
import WW.Gen.Kernels
import WW.Proofs.Kernels
import WW.Model.Distributor
namespace WW.KernelsDistGrace
open WW WW.Gen WW.Distributor

/-- the model's `UpdateConfig { grace_period }` is: owner test, then the regenerated `validate_grace_period`, then
    "not below the stored one" -/
theorem gen_validate_grace_period_eq_model (cfg : Cfg) (s : St) (sender g : Nat) :
    updateGrace cfg s sender g =
      if sender ≠ cfg.owner then .err
      else K.validate_grace_period g >>= fun _ =>
        if g < s.grace then .err else .ok { s with grace := g } := by
  unfold updateGrace K.validate_grace_period
  simp only [Res.ite_bind, Res.bind_err_s, Res.bind_ok_s]
  rfl

end WW.KernelsDistGrace
