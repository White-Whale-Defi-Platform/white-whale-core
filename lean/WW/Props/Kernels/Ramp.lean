/-
  Regenerated fragment kernel ↔ model, C04: the amplification-ramp validation that the 3pool's
  `commands::update_config` carries inline (`stableswap_3pool/src/commands.rs`, from
  `let invariant = StableSwap::new(..)` to `config.future_amp = ramp.future_a;`; `env.block.height` and the four
  `config.*amp*` places are the kernel's parameters, the constants are read from `contract.rs`) ↔
  `WW.Trio.rampAmp`, on which the ramp clauses of C04 rest.  Also built by C18's check, whose bounds name the same
  constants; C18's own theorems run on `WW.Config.applyRamp`, which no theorem ties to this kernel.
-/
import WW.Gen.Kernels
import WW.Proofs.Kernels
import WW.Model.Trio
import WW.Props.Kernels.Amp
namespace WW.KernelsRamp
open WW WW.Gen WW.Trio

/-- same panics (`compute_amp_factor` failing, a `u64` product or the height sum overflowing), same refusals, and the
    four stored values are `(amp now, future_a, height, future_block)` -/
theorem gen_trio_ramp_validation_eq_model (A : AmpCfg) (h fa fb : Nat) :
    K.trio_ramp_validation A.init A.target A.start A.stop h ⟨fa, fb⟩
      = (rampAmp A h fa fb).bind (fun r => .ok (r.init, r.target, r.start, r.stop)) := by
  unfold K.trio_ramp_validation rampAmp K.StableSwap_new
  show _ = (_ >>= _)
  -- both sides become the same sequence of statements: every `if c { return Err }` a `guardErr`, the
  -- translator's `decide (t = true)` wrappers removed, the projection of the result moved to the end
  simp only [Res.pure_eq, Res.bind_ok_s, Res.bind_assoc', Res.bind_ok_right,
    KernelsAmp.gen_compute_amp_factor_eq_model, ite_err_eq_guardErr, Bool.decide_eq_true, ← decide_not,
    Nat.not_lt]
  rfl

theorem rampAmp_is_code (A A' : AmpCfg) (h fa fb : Nat) (hok : rampAmp A h fa fb = .ok A') :
    K.trio_ramp_validation A.init A.target A.start A.stop h ⟨fa, fb⟩ = .ok (A'.init, A'.target, A'.start, A'.stop) := by
  rw [gen_trio_ramp_validation_eq_model, hok]; rfl

/-- non-vacuity: amp 100 at rest, block 50 000: 100 → 150 over 20 000 blocks is stored; 100 → 5 (a 20× decrease) and a
    ramp of 9 999 blocks are refused -/
example : K.trio_ramp_validation 100 100 0 0 50000 ⟨150, 70000⟩ = .ok (100, 150, 50000, 70000) := by decide +kernel
example : K.trio_ramp_validation 100 100 0 0 50000 ⟨5, 70000⟩ = .err := by decide +kernel
example : K.trio_ramp_validation 100 100 0 0 50000 ⟨150, 59999⟩ = .err := by decide +kernel

end WW.KernelsRamp
