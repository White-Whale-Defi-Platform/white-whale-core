/-
  Regenerated kernel ↔ model, C04: `stableswap_3pool/src/stableswap_math/curve.rs`
  `StableSwap::compute_amp_factor` ↔ `WW.Trio.ampFactor`.  Also built by C18's check, whose amplification bounds
  name the same function; C18's own theorems run on `WW.Config.currentAmp`, which no theorem ties to this kernel.
-/
import WW.Gen.Kernels
import WW.Proofs.Kernels
namespace WW.KernelsAmp
open WW WW.Gen

/-- on ALL inputs (any five `Nat`s; the Rust fields are `u64`), `None` of the Rust being `err` on both sides -/
theorem gen_compute_amp_factor_eq_model (s : K.StableSwap) :
    K.compute_amp_factor s
      = Trio.ampFactor s.initial_amp_factor s.target_amp_factor s.current_ts s.start_ramp_ts s.stop_ramp_ts := by
  unfold K.compute_amp_factor Trio.ampFactor
  simp only [Res.bind_ok_s, narrowTo_64]

/-- the same through the model's `AmpCfg.at`, which is what the Trio state machine calls -/
theorem gen_compute_amp_factor_eq_AmpCfg_at (A : Trio.AmpCfg) (cur : Nat) :
    K.compute_amp_factor ⟨A.init, A.target, cur, A.start, A.stop⟩ = A.at cur := by
  rw [gen_compute_amp_factor_eq_model]; rfl

end WW.KernelsAmp
