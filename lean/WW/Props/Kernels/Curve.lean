/-
  Regenerated kernels ↔ model, C04: the Newton solvers of `stableswap_3pool/src/stableswap_math/curve.rs` —
  `compute_next_d`, `compute_d` (256 rounds), `compute_mint_amount_for_deposit`, `compute_y_raw` (1000 rounds),
  `compute_y`, `swap_to` — against their namesakes in `WW/Model/Trio.lean`.  A `for _ in 0..N` loop over
  `let mut` locals is translated into a structural recursion on the rounds left.
-/
import WW.Gen.Kernels
import WW.Proofs.Kernels
import WW.Props.Kernels.Amp
namespace WW.KernelsCurve
open WW WW.Gen

/-- `None` of the Rust is `err` -/
theorem gen_trio_compute_next_d_eq_model (s : K.StableSwap) (amp dInit dProd sumX : Nat) :
    K.trio_compute_next_d s amp dInit dProd sumX = Trio.nextD amp dInit dProd sumX := by
  unfold K.trio_compute_next_d Trio.nextD
  simp only [unwrapPanic_cmul, unwrapPanic_cadd, unwrapPanic_cdiv, cadd_u8_3_1, Res.bind_ok_s,
    Res.bind_ok_right]

theorem gen_trio_compute_d_loop_eq_model (s : K.StableSwap) (sumX amp a3 b3 c3 : Nat) :
    ∀ fuel d, K.trio_compute_d_loop1 s sumX amp a3 b3 c3 fuel d = Trio.dLoop amp a3 b3 c3 sumX fuel d := by
  intro fuel
  induction fuel with
  | zero => intro d; unfold K.trio_compute_d_loop1 Trio.dLoop; rfl
  | succ n ih =>
    intro d
    unfold K.trio_compute_d_loop1 Trio.dLoop Trio.dStep
    simp only [unwrapPanic_cmul, unwrapPanic_cdiv, unwrapPanic_csub,
      gen_trio_compute_next_d_eq_model, ih, Res.pure_eq, newton_tail]
    simp only [unwrapPanic_eq_unwrapP, Res.bind_assoc']

theorem gen_trio_compute_d_eq_model (s : K.StableSwap) (a b c : Nat) :
    K.trio_compute_d s a b c
      = Trio.computeD ⟨s.initial_amp_factor, s.target_amp_factor, s.start_ramp_ts, s.stop_ramp_ts⟩
          s.current_ts a b c := by
  unfold K.trio_compute_d Trio.computeD Trio.AmpCfg.at
  simp only [unwrapPanic_cmul, unwrapPanic_cadd, KernelsAmp.gen_compute_amp_factor_eq_model,
    gen_trio_compute_d_loop_eq_model, Res.bind_ok_right]

/-- `None` of the Rust is `err` -/
theorem gen_trio_compute_mint_amount_for_deposit_eq_model (s : K.StableSwap)
    (da db dc sa sb sc supply : Nat) :
    K.trio_compute_mint_amount_for_deposit s da db dc sa sb sc supply
      = Trio.mintAmount ⟨s.initial_amp_factor, s.target_amp_factor, s.start_ramp_ts, s.stop_ramp_ts⟩
          s.current_ts da db dc sa sb sc supply := by
  unfold K.trio_compute_mint_amount_for_deposit Trio.mintAmount
  simp only [unwrapPanic_cmul, unwrapPanic_cadd, unwrapPanic_cdiv, unwrapPanic_csub,
    unwrapPanic_narrowTo_128, gen_trio_compute_d_eq_model, Res.bind_ok_right]

theorem gen_trio_compute_y_raw_loop_eq_model (d c b : Nat) :
    ∀ fuel y, K.trio_compute_y_raw_loop1 d c b fuel y = Trio.yLoop b c d fuel y := by
  intro fuel
  induction fuel with
  | zero => intro y; unfold K.trio_compute_y_raw_loop1 Trio.yLoop; rfl
  | succ n ih =>
    intro y
    unfold K.trio_compute_y_raw_loop1 Trio.yLoop
    simp only [unwrapPanic_cmul, unwrapPanic_cadd, unwrapPanic_cdiv, unwrapPanic_csub, ih,
      Res.pure_eq, newton_tail]

theorem gen_trio_compute_y_raw_eq_model (s : K.StableSwap) (swapIn noSwap d : Nat) :
    K.trio_compute_y_raw s swapIn noSwap d
      = Trio.yRaw ⟨s.initial_amp_factor, s.target_amp_factor, s.start_ramp_ts, s.stop_ramp_ts⟩
          s.current_ts swapIn noSwap d := by
  unfold K.trio_compute_y_raw Trio.yRaw Trio.AmpCfg.at
  simp only [unwrapPanic_cmul, unwrapPanic_cadd, unwrapPanic_cdiv,
    KernelsAmp.gen_compute_amp_factor_eq_model, gen_trio_compute_y_raw_loop_eq_model,
    Res.bind_ok_right]

theorem gen_trio_compute_y_eq_model (s : K.StableSwap) (x noSwap d : Nat) :
    K.trio_compute_y s x noSwap d
      = Trio.computeY ⟨s.initial_amp_factor, s.target_amp_factor, s.start_ramp_ts, s.stop_ramp_ts⟩
          s.current_ts x noSwap d := by
  unfold K.trio_compute_y Trio.computeY
  simp only [unwrapPanic_narrowTo_128, gen_trio_compute_y_raw_eq_model, Res.bind_ok_right]

theorem gen_trio_swap_to_eq_model (s : K.StableSwap) (srcAmt swapSrc swapDst unsw : Nat) :
    K.trio_swap_to s srcAmt swapSrc swapDst unsw
      = (Trio.swapTo ⟨s.initial_amp_factor, s.target_amp_factor, s.start_ramp_ts, s.stop_ramp_ts⟩
          s.current_ts srcAmt swapSrc swapDst unsw).mapTo
          (fun r => { new_source_amount := r.newSource, new_destination_amount := r.newDest,
                      amount_swapped := r.swapped }) := by
  unfold K.trio_swap_to Trio.swapTo Res.mapTo
  simp only [unwrapPanic_cadd, unwrapPanic_csub, gen_trio_compute_d_eq_model, gen_trio_compute_y_eq_model,
    Res.bind_assoc', Res.pure_eq, Res.bind_ok_s]
  simp only [unwrapPanic_eq_unwrapP]

end WW.KernelsCurve
