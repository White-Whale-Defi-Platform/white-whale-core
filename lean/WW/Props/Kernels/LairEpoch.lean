/-
  Regenerated kernel ↔ model, C08 / C09: `whale_lair/src/helpers.rs::calculate_epoch` ↔ `WW.Lair.calcEpoch`
  (the `first_bonded_epoch_id` of the `Bonded` query).
-/
import WW.Gen.Kernels
import WW.Proofs.Kernels
import WW.Model.Lair
namespace WW.KernelsLairEpoch
open WW WW.Gen WW.Lair

/-- on ALL inputs, including the `Err` of a zero duration (`checked_div`) and of `elapsed / duration + 1` exceeding
    `u64` (`checked_add`).  The model's `Cfg` carries the two fields as `epochDur` / `genesis`; its other fields
    are not read. -/
theorem gen_lair_calculate_epoch_eq_model (cfg : Cfg) (ts : Nat) :
    K.lair_calculate_epoch { duration := cfg.epochDur, genesis_epoch := cfg.genesis } ts = calcEpoch cfg ts := by
  unfold K.lair_calculate_epoch calcEpoch
  by_cases h : ts < cfg.genesis
  · rw [if_pos h, if_pos h]
  · rw [if_neg h, if_neg h, csub_ok (Nat.le_of_not_lt h), Res.bind_ok_s]
    simp only [Res.bind_ok_right]

/-- the same for an arbitrary generated `EpochConfig` -/
theorem gen_lair_calculate_epoch_eq_model_any (c : K.EpochConfig) (cfg : Cfg)
    (hd : cfg.epochDur = c.duration) (hg : cfg.genesis = c.genesis_epoch) (ts : Nat) :
    K.lair_calculate_epoch c ts = calcEpoch cfg ts := by
  rw [← gen_lair_calculate_epoch_eq_model, hd, hg]

end WW.KernelsLairEpoch
