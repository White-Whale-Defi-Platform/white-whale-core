/-
  Regenerated kernel ↔ model, C20: `fee_distributor/src/helpers.rs::validate_epoch_config` against the
  epoch-clock model's own replica `WW.Epoch.validEpochConfig` (the Config model's replica `durationValid` is
  tied in `EpochCfg.lean`, C18), through `guardErr` as there.
-/
import WW.Gen.Kernels
import WW.Proofs.Kernels
import WW.Model.Epoch
namespace WW.KernelsEpochClock
open WW WW.Gen WW.Epoch

/-- the generated `EpochConfig` as the clock model's `Cfg` (same two fields) -/
theorem cfg_fields (c : K.EpochConfig) :
    ({ duration := c.duration, genesis := c.genesis_epoch } : Cfg).duration = c.duration := rfl

/-- `d < DAY` is rejected in the code, `DAY ≤ d` accepted in the model: the same set -/
theorem gen_validate_epoch_config_eq_model (c : K.EpochConfig) :
    K.validate_epoch_config c
      = guardErr (validEpochConfig { duration := c.duration, genesis := c.genesis_epoch }) := by
  unfold K.validate_epoch_config validEpochConfig
  rw [validator_shape, ← decide_not]
  simp only [Nat.not_lt]
  rfl

theorem gen_validate_epoch_config_ok_iff (m : Cfg) :
    K.validate_epoch_config { duration := m.duration, genesis_epoch := m.genesis } = Res.ok ()
      ↔ validEpochConfig m = true := by
  rw [gen_validate_epoch_config_eq_model]; exact guardErr_eq_ok

end WW.KernelsEpochClock
