/-
  Regenerated kernels ↔ model, C18 and the fee domain of C02: `white-whale-std/src/fee.rs` `Fee::is_valid` ↔
  `feeIsValid`; `white-whale-std/src/pool_network/pair.rs` `PoolFee::is_valid` with `PoolFee::aggregate` ↔
  `fees3IsValid` (`WW/Model/Config.lean`).
-/
import WW.Gen.Kernels
import WW.Proofs.KernelsFees
namespace WW.KernelsFees
open WW WW.Gen WW.Config

theorem gen_Fee_is_valid_eq_model (fee : K.Fee) : K.Fee_is_valid fee = feeIsValid fee.share := by
  rw [K_Fee_is_valid_eq]; rfl

/-- through `PoolFee::aggregate`, on (protocol, swap, burn) -/
theorem gen_PoolFee_is_valid_eq_model (p : K.PoolFee) :
    K.PoolFee_is_valid p = fees3IsValid (Fees3.ofPool p) := by
  unfold K.PoolFee_is_valid K.PoolFee_aggregate
  simp only [K_Fee_is_valid_eq, percent_100, Res.bind_assoc', Res.bind_ok_s]
  exact fees3_shape _ _ _

end WW.KernelsFees
