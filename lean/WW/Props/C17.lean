/-
  C17 — Pause switches stop exactly the operation they name.
  Property theorems.  Model: `WW/Model/Toggles.lean` (switch state of a pool / vault, every entry
  path, the switch each handler reads — transcribed from the code).  The effect of an operation that is
  let through is a parameter `base : Path → Res Unit`; it is tied to the real contracts (together with
  the gate table) by the exhaustive `toggles` matrix engine.

  "Every way of invoking" includes invoking a vault operation from INSIDE a flash-loan callback of the
  same vault (the vault's loan counter is non-zero at that moment): `stepInLoan` / `Op.inLoan`, theorems
  `disabled_rejected_in_callback`, `inloan_*`.

  Histories include MIGRATIONS (`Op.migrate`: the contract's `migrate` entry point called by its wasm admin,
  refused or accepted, from any stored version): `Reachable` quantifies over them like over every other
  operation, so every theorem below holds after any number of migrations; `migrate_*`,
  `paused_until_reenabled`, `disabled_rejected_after_migrations`, `migrations_are_invisible` say it outright.
-/
import WW.Proofs.Toggles
namespace WW.C17
open WW WW.Toggles

/-- States that exist in the default build: created by `instantiate` (cw20 LP) and then driven by any
    history of switch updates (by the owner or by anybody else) and calls. -/
def Reachable (base : Path → Res Unit) (s : St) : Prop :=
  ∃ s₀ ops, instantiate false = .ok s₀ ∧ s = reach base s₀ ops

theorem reachable_lpCw20 {base : Path → Res Unit} {s : St} (h : Reachable base s) : s.lpCw20 = true := by
  obtain ⟨s₀, ops, h0, rfl⟩ := h
  cases h0
  exact reach_lpCw20 ..

/-- between transactions no loan is running -/
theorem reachable_loans {base : Path → Res Unit} {s : St} (h : Reachable base s) : s.loans = 0 := by
  obtain ⟨s₀, ops, h0, rfl⟩ := h
  cases h0
  exact reach_loans ..

/-- The guards reject before they look at the operation: with the named switch off, whatever the operation
    would do (`base'`, not necessarily the outcomes the state was reached under) and whatever the loan counter. -/
theorem disabled_rejected_any_base {base : Path → Res Unit} {s : St} (hs : Reachable base s)
    (base' : Path → Res Unit) (n : Nat) (p : Path) (sw : Switch) (hn : p.names = some sw)
    (hoff : s.flags.get sw = false) : stepPath base' { s with loans := n } p = .err := by
  apply stepPath_rejected
  cases hc : p.consults with
  | some sw' =>
    -- the handler reads the switch the path names
    cases (consults_sub_names p sw' hc).symm.trans hn
    exact Or.inl ((gate_of_consults hc _).trans hoff)
  | none =>
    -- no switch is read: the entry point refuses a cw20-LP pool / vault outright
    have hlp : s.lpCw20 = true := reachable_lpCw20 hs
    rcases names_not_consulted p sw hn hc with rfl | rfl | rfl | rfl | rfl <;>
      exact Or.inr (Or.inl (by simp [entryRejects, hlp]))

/-- **disabled ⇒ rejected, at any value of the loan counter** — in particular inside a flash-loan
    callback (`n > 0`), where the message comes from the borrower. -/
theorem disabled_rejected_in_callback (base : Path → Res Unit) (s : St) (hs : Reachable base s) (n : Nat)
    (p : Path) (sw : Switch) (hn : p.names = some sw) (hoff : s.flags.get sw = false) :
    stepPath base { s with loans := n } p = .err :=
  disabled_rejected_any_base hs base n p sw hn hoff

/-- **disabled ⇒ rejected.** When the switch an entry path names is off, the call is rejected, whatever
    the other switches are and whatever the operation would otherwise do — for every entry path
    (direct message, cw20 hook, router hop, frontend helper, vault router) of every pool and vault that
    can exist in the default build. -/
theorem disabled_rejected (base : Path → Res Unit) (s : St) (hs : Reachable base s)
    (p : Path) (sw : Switch) (hn : p.names = some sw) (hoff : s.flags.get sw = false) :
    stepPath base s p = .err :=
  disabled_rejected_in_callback base s hs s.loans p sw hn hoff

/-- … and a rejected call moves nothing: the switch state after the failed operation is the state
    before it (balances and the rest of the storage are outside this model; the matrix engine compares
    full snapshots). -/
theorem disabled_unchanged (base : Path → Res Unit) (s : St) (hs : Reachable base s)
    (p : Path) (sw : Switch) (hn : p.names = some sw) (hoff : s.flags.get sw = false) :
    step base s (.call p) = .err ∧ reach base s [.call p] = s := by
  have : step base s (.call p) = .err := by simp [step, disabled_rejected base s hs p sw hn hoff]
  exact ⟨this, by simp [reach, this]⟩

/-- **frame.** The outcome of a call does not depend on the switches its operation does not name:
    two states that agree on the named switch (and on everything that is not a switch) give the same
    result.  For a path no switch names (fee collection) the outcome is independent of all three. -/
theorem others_unaffected (base : Path → Res Unit) (s : St) (f' : Flags) (p : Path)
    (hsame : ∀ sw, p.names = some sw → f'.get sw = s.flags.get sw) :
    stepPath base { s with flags := f' } p = stepPath base s p := by
  cases hc : p.consults with
  | some sw =>
    have hn := consults_sub_names p sw hc
    simp [stepPath, gate_of_consults hc, hsame sw hn]
  | none => simp [stepPath, gate_of_not_consults hc]

/-- the frame statement for a single flipped switch -/
theorem flip_other_switch (base : Path → Res Unit) (s : St) (p : Path) (sw : Switch) (v : Bool)
    (hother : p.names ≠ some sw) :
    stepPath base { s with flags := s.flags.set sw v } p = stepPath base s p := by
  apply others_unaffected
  intro sw' hn
  have : sw ≠ sw' := fun h => hother (h ▸ hn)
  exact get_set_other s.flags sw sw' v this

/-- an enabled operation does exactly what it does when nothing was ever paused (unless its entry
    point rejects it regardless of the switches), outside a flash-loan callback -/
theorem enabled_runs_underlying (base : Path → Res Unit) (s : St) (p : Path)
    (hon : ∀ sw, p.names = some sw → s.flags.get sw = true) (hentry : entryRejects s.lpCw20 p = false)
    (hloan : s.loans = 0) :
    stepPath base s p = base p := by
  refine stepPath_passed base s p ?_ hentry (hloan ▸ loanRejects_zero p)
  cases hc : p.consults with
  | some sw => exact (gate_of_consults hc _).trans (hon sw (consults_sub_names p sw hc))
  | none => exact gate_of_not_consults hc _

/-- **re-enabling restores.** After any history of switch updates and calls, writing the original
    switch values back yields exactly the original state — hence every later call behaves as before. -/
theorem reenable_restores (base : Path → Res Unit) (s : St) (ops : List Op) :
    reach base s (ops ++ [.setFlags true s.flags]) = s := by
  -- the history changed the switches at most; the write puts them back
  have hl := reach_lpCw20 base ops s
  have hn := reach_loans base ops s
  rw [reach_append]
  cases s
  cases hr : reach base _ ops
  simp_all [reach, step]

/-- consequence: pause, then un-pause ⇒ every path gives the result it gave before the pause -/
theorem reenable_same_results (base : Path → Res Unit) (s : St) (f : Flags) (p : Path) :
    stepPath base (reach base s [.setFlags true f, .setFlags true s.flags]) p = stepPath base s p := by
  have := reenable_restores base s [.setFlags true f]
  simp only [List.cons_append, List.nil_append] at this
  rw [this]

/-- **new pools and vaults start with everything enabled**: `instantiate` sets all three switches,
    so every path passes its gate. -/
theorem initial_all_enabled (tf : Bool) (s : St) (h : instantiate tf = .ok s) :
    s.flags = Flags.allOn ∧ ∀ p, gate p s.flags = true := by
  simp only [instantiate] at h
  split at h
  · cases h
  · cases h
    exact ⟨rfl, gate_allOn⟩

/-- only the owner's update writes the switches -/
theorem stranger_cannot_switch (base : Path → Res Unit) (s : St) (f : Flags) :
    step base s (.setFlags false f) = .err := rfl

/-- the switches named by a loan transaction with an inner message: the loan's and the inner one's -/
def inLoanNames (outer inner : Path) (sw : Switch) : Prop :=
  outer.names = some sw ∨ inner.names = some sw

/-- **the loan itself is paused ⇒ nothing happens**: the transaction is rejected and no inner message is
    ever sent. -/
theorem inloan_outer_disabled (base : Path → Res Unit) (s : St) (hs : Reachable base s)
    (outer inner : Path) (m : Mode) (lb : LoanBase) (sw : Switch) (hn : outer.names = some sw)
    (hoff : s.flags.get sw = false) :
    stepInLoan s outer inner m lb = ⟨.err, none⟩ :=
  stepInLoan_outer_err s outer inner m lb
    (Or.inr (disabled_rejected_any_base hs _ s.loans outer sw hn hoff))

/-- **the inner operation is paused, plain message**: the inner message is rejected inside the callback
    exactly as it is outside, its error fails the whole loan, and the state after the failed transaction
    is the state before it. -/
theorem inloan_inner_disabled_propagate (base : Path → Res Unit) (s : St) (hs : Reachable base s)
    (outer inner : Path) (lb : LoanBase) (sw : Switch) (hn : inner.names = some sw)
    (hoff : s.flags.get sw = false) :
    stepInLoan s outer inner .propagate lb = ⟨.err, none⟩ ∧
    step base s (.inLoan outer inner .propagate lb) = .err ∧
    reach base s [.inLoan outer inner .propagate lb] = s := by
  have h1 := stepInLoan_inner_err_propagate s outer inner lb
    (disabled_rejected_any_base hs _ (s.loans + 1) inner sw hn hoff)
  refine ⟨h1, ?_, ?_⟩
  · simp [step, h1]
  · simp [reach, step, h1]

/-- **the inner operation is paused, caught sub-message**: the borrower never records a success, and
    the transaction is the loan around a message that fails — its result does not depend on what the
    inner operation would have done (`lb.inner`, `lb.done`): nothing moved on its account. -/
theorem inloan_inner_disabled_catch (base : Path → Res Unit) (s : St) (hs : Reachable base s)
    (outer inner : Path) (lb lb' : LoanBase) (hc : lb'.caught = lb.caught) (sw : Switch)
    (hn : inner.names = some sw) (hoff : s.flags.get sw = false) :
    (stepInLoan s outer inner .catch lb).inner ≠ some true ∧
    stepInLoan s outer inner .catch lb' = stepInLoan s outer inner .catch lb := by
  have hin := fun b => disabled_rejected_any_base hs (fun _ => b) (s.loans + 1) inner sw hn hoff
  refine ⟨stepInLoan_inner_err_inner s outer inner _ lb (hin _), ?_⟩
  rw [stepInLoan_inner_err s outer inner _ lb (hin _), stepInLoan_inner_err s outer inner _ lb' (hin _), hc]

/-- **frame, inside a callback.** A loan transaction with an inner message depends on the switches only
    through the one the loan names and the one the inner operation names. -/
theorem inloan_others_unaffected (s : St) (f' : Flags) (outer inner : Path) (m : Mode) (lb : LoanBase)
    (hsame : ∀ sw, inLoanNames outer inner sw → f'.get sw = s.flags.get sw) :
    stepInLoan { s with flags := f' } outer inner m lb = stepInLoan s outer inner m lb := by
  have ho := others_unaffected (fun _ => .ok ()) s f' outer (fun sw h => hsame sw (Or.inl h))
  have hi := others_unaffected (fun _ => lb.inner) { s with loans := s.loans + 1 } f' inner
    (fun sw h => hsame sw (Or.inr h))
  unfold stepInLoan
  rw [ho]
  simp only at hi ⊢
  rw [hi]

/-- **transcribed from `deposit.rs` / `flash_loan.rs`:** whatever the switches say, a deposit into the
    lending vault and a second loan from it (direct or through the vault router) never succeed from
    inside a callback: paused ⇒ `…Disabled`, enabled ⇒ `DepositDuringLoan` / `Unauthorized`. -/
theorem inloan_deposit_or_loan_never_succeeds (s : St) (outer inner : Path) (m : Mode) (lb : LoanBase)
    (hin : inner = .vaultDeposit ∨ inner = .vaultFlashLoan ∨ inner = .vaultRouterLoan) :
    (stepInLoan s outer inner m lb).inner ≠ some true ∧
    (m = .propagate → (stepInLoan s outer inner m lb).tx = .err) := by
  have hrej : stepPath (fun _ => lb.inner) { s with loans := s.loans + 1 } inner = .err := by
    rcases hin with rfl | rfl | rfl <;>
      exact stepPath_rejected _ _ _ (Or.inr (Or.inr (by simp [loanRejects])))
  refine ⟨stepInLoan_inner_err_inner s outer inner m lb hrej, fun hm => ?_⟩
  rw [hm, stepInLoan_inner_err_propagate s outer inner lb hrej]

/-- a withdrawal (cw20 hook) and fee collection are NOT stopped by a running loan: with their switch on
    they do inside the callback what the code does there (`lb.inner`) -/
theorem inloan_withdraw_collect_pass (s : St) (outer inner : Path) (lb : LoanBase)
    (hout : stepPath (fun _ => .ok ()) s outer = .ok ()) (hl : outer.isLoan = true)
    (hin : (inner = .vaultWithdrawHook ∧ s.flags.b = true) ∨ inner = .vaultCollectFees)
    (hok : lb.inner = .ok ()) :
    stepInLoan s outer inner .catch lb = finishLoan lb.done .catch true := by
  apply stepInLoan_inner_ok s outer inner _ lb hl hout
  rw [← hok]
  rcases hin with ⟨rfl, hb⟩ | rfl
  · exact stepPath_passed _ _ _ hb rfl rfl
  · exact stepPath_passed _ _ _ rfl rfl rfl

/-- a loan transaction never leaves the counter raised and never writes a switch -/
theorem inloan_state_unchanged (base : Path → Res Unit) (s s' : St) (outer inner : Path) (m : Mode)
    (lb : LoanBase) (h : step base s (.inLoan outer inner m lb) = .ok s') : s' = s :=
  (step_ok h).2.2 rfl

/-- **a migration changes no switch** (and nothing else of the modelled state): accepted — the state after
    it is the state before it, whoever the admin is migrating from whichever version and whatever the
    version-specific storage migration does. -/
theorem migrate_leaves_switches (base : Path → Res Unit) (s s' : St) (a : Bool) (st cr : Ver) (body : Res Unit)
    (h : step base s (.migrate a st cr body) = .ok s') : s' = s :=
  (step_ok h).2.2 rfl

/-- … refused or accepted: the history goes on from the same state -/
theorem migrate_never_changes_state (base : Path → Res Unit) (s : St) (a : Bool) (st cr : Ver) (body : Res Unit) :
    reach base s [.migrate a st cr body] = s :=
  reach_migrations base _ s fun _ h => List.mem_singleton.mp h ▸ rfl

/-- **refused unless the stored version is lower** (and unless the wasm admin sends it) -/
theorem migrate_refused_not_lower (base : Path → Res Unit) (s : St) (a : Bool) (st cr : Ver) (body : Res Unit)
    (h : a = false ∨ st.lt cr = false) :
    step base s (.migrate a st cr body) = .err := by
  rcases h with h | h
  · simp [step, migrateRes, h]
  · by_cases ha : a = false <;> simp [step, migrateRes, ha, h]

/-- an accepted migration is exactly: admin, lower stored version, storage migration went through -/
theorem migrate_accepted_iff (base : Path → Res Unit) (s : St) (a : Bool) (st cr : Ver) (body : Res Unit) :
    step base s (.migrate a st cr body) = .ok s ↔ (a = true ∧ st.lt cr = true ∧ body = .ok ()) := by
  constructor
  · intro h
    by_cases ha : a = false
    · simp [step, migrateRes, ha] at h
    · by_cases hl : st.lt cr = false
      · simp [step, migrateRes, ha, hl] at h
      · cases body <;> simp_all [step, migrateRes]
  · rintro ⟨ha, hl, hb⟩
    simp [step, migrateRes, ha, hl, hb]

/-- the vault's `migrate` saves `LOAN_COUNTER = 0` before anything else: on a state between transactions
    that is the identity (so `Op.migrate` need not mention the counter) -/
theorem migrate_counter_reset_is_noop {base : Path → Res Unit} {s : St} (hs : Reachable base s) :
    { s with loans := 0 } = s := by
  have := reachable_loans hs
  cases s
  simp_all

theorem reachable_reach {base : Path → Res Unit} {s : St} (hs : Reachable base s) (ops : List Op) :
    Reachable base (reach base s ops) := by
  obtain ⟨s₀, ops₀, h0, rfl⟩ := hs
  exact ⟨s₀, ops₀ ++ ops, h0, (reach_append base ops₀ ops s₀).symm⟩

/-- **only the owner's switch-carrying `UpdateConfig` moves a switch**: any history of migrations (refused
    or accepted), calls, loans with inner messages, `UpdateConfig`s that name no switch and `UpdateConfig`s
    of strangers leaves the state exactly as it was. -/
theorem switches_change_only_by_owner_write (base : Path → Res Unit) (s : St) (ops : List Op)
    (hw : ∀ op ∈ ops, op.ownerWrite = false) : reach base s ops = s :=
  reach_not_ownerWrite base ops s hw

/-- **a disabled operation stays rejected until the operator re-enables it**: switch off in a reachable
    state, then ANY history without an owner's switch write — any number of migrations from any versions
    included — and every entry path naming the switch is still rejected, at any value of the loan counter
    (outside and inside a flash-loan callback). -/
theorem paused_until_reenabled (base : Path → Res Unit) (s : St) (hs : Reachable base s)
    (p : Path) (sw : Switch) (hn : p.names = some sw) (hoff : s.flags.get sw = false)
    (ops : List Op) (hw : ∀ op ∈ ops, op.ownerWrite = false) (n : Nat) :
    stepPath base { reach base s ops with loans := n } p = .err := by
  rw [reach_not_ownerWrite base ops s hw]
  exact disabled_rejected_in_callback base s hs n p sw hn hoff

/-- after any number of migrations, refused or accepted, a disabled switch still blocks its operation on
    every path -/
theorem disabled_rejected_after_migrations (base : Path → Res Unit) (s : St) (hs : Reachable base s)
    (p : Path) (sw : Switch) (hn : p.names = some sw) (hoff : s.flags.get sw = false)
    (ms : List Op) (hm : ∀ op ∈ ms, op.isMigrate = true) :
    reach base s ms = s ∧ stepPath base (reach base s ms) p = .err ∧
      ∀ n, stepPath base { reach base s ms with loans := n } p = .err := by
  rw [reach_migrations base ms s hm]
  exact ⟨rfl, disabled_rejected base s hs p sw hn hoff,
    fun n => disabled_rejected_in_callback base s hs n p sw hn hoff⟩

/-- **migrations are invisible**: strike every migration out of a history (wherever it stood: before the
    first config write, between a partial write and the next, between operations) — the state reached, and
    with it the verdict on every later call and loan, is the same. -/
theorem migrations_are_invisible (base : Path → Res Unit) (s : St) (ops : List Op) :
    reach base s (ops.filter (fun op => !op.isMigrate)) = reach base s ops :=
  reach_filter_migrate base ops s

/-- a loan with a paused inner operation after migrations: still refused (plain message: the whole loan) -/
theorem inloan_inner_disabled_after_migrations (base : Path → Res Unit) (s : St) (hs : Reachable base s)
    (outer inner : Path) (lb : LoanBase) (sw : Switch) (hn : inner.names = some sw)
    (hoff : s.flags.get sw = false) (ms : List Op) (hm : ∀ op ∈ ms, op.isMigrate = true) :
    stepInLoan (reach base s ms) outer inner .propagate lb = ⟨.err, none⟩ ∧
    (stepInLoan (reach base s ms) outer inner .catch lb).inner ≠ some true := by
  rw [reach_migrations base ms s hm]
  exact ⟨(inloan_inner_disabled_propagate base s hs outer inner lb sw hn hoff).1,
    (inloan_inner_disabled_catch base s hs outer inner lb lb rfl sw hn hoff).1⟩

/-! ### non-vacuity and concrete behaviour -/

/-- swaps paused on a 3pool, the pool is migrated 1.2.4 → 1.2.5, then a second time
    from an even older version, a refused migration (same version) in between — every swap path still errs -/
example :
    let base : Path → Res Unit := fun _ => .ok ()
    let s := reach base ⟨Flags.allOn, true, 0⟩
      [.setPartial true none none (some false), .migrate true ⟨1, 2, 4⟩ ⟨1, 2, 5⟩ (.ok ()),
       .migrate true ⟨1, 2, 5⟩ ⟨1, 2, 5⟩ (.ok ()), .migrate true ⟨0, 9, 12⟩ ⟨1, 2, 5⟩ (.ok ())]
    s.flags = ⟨true, true, false⟩ ∧
    [Path.trioSwapNative, .trioSwapCw20Hook, .trioSwapDirectCw20].all (fun p => stepPath base s p == .err) ∧
    stepPath base s .trioProvide = .ok () := by decide +kernel

/-- semver order on the versions the handlers compare -/
example : Ver.lt ⟨1, 2, 4⟩ ⟨1, 2, 5⟩ = true ∧ Ver.lt ⟨1, 2, 5⟩ ⟨1, 2, 5⟩ = false ∧ Ver.lt ⟨1, 3, 0⟩ ⟨1, 2, 5⟩ = false ∧
    Ver.lt ⟨0, 9, 12⟩ ⟨1, 2, 5⟩ = true ∧ Ver.lt ⟨1, 1, 9⟩ ⟨1, 2, 5⟩ = true ∧ Ver.lt ⟨2, 0, 0⟩ ⟨1, 3, 8⟩ = false := by decide


/-- a reachable state with withdrawals paused: every withdraw path errs, swap and deposit paths run -/
example :
    let base : Path → Res Unit := fun _ => .ok ()
    let s := reach base ⟨Flags.allOn, true, 0⟩ [.setFlags true ⟨true, false, true⟩]
    (Path.all.filter (fun p => stepPath base s p != .ok ())) =
      [.pairWithdrawHook, .pairWithdrawDirect, .pairSwapDirectCw20,
       .trioWithdrawHook, .trioWithdrawDirect, .trioSwapDirectCw20,
       .vaultWithdrawHook, .vaultWithdrawDirect, .vaultConfigStranger, .vaultCallbackExternal,
       .pairHookMalformed, .trioHookMalformed, .vaultHookMalformed] := by decide +kernel

example : Reachable (fun _ => .ok ()) ⟨⟨true, false, true⟩, true, 0⟩ :=
  ⟨⟨Flags.allOn, true, 0⟩, [.setFlags true ⟨true, false, true⟩], rfl, rfl⟩

/-- all 2^3 combinations × all 29 paths: the model's verdict is `err` exactly when the named switch is
    off or the entry point rejects the call (enumerated by the kernel) -/
example :
    ∀ a b c : Bool, ∀ p ∈ Path.all,
      (stepPath (fun _ => .ok ()) ⟨⟨a, b, c⟩, true, 0⟩ p == .err) =
        ((match p.names with | some sw => !(Flags.get ⟨a, b, c⟩ sw) | none => false) ||
          entryRejects true p) := by decide +kernel

/-- Observation outside the buildable feature set (token-factory LP, `lpCw20 = false`): the pools'
    direct `WithdrawLiquidity {}` entry reads no switch, so it runs with withdrawals paused. -/
example :
    stepPath (fun _ => .ok ()) ⟨⟨true, false, true⟩, false, 0⟩ .pairWithdrawDirect = .ok () := by decide

/-- inside a callback: all 2^3 combinations × both loan entries × the 8 vault paths as inner message ×
    both modes, every un-modelled outcome `ok` — the transaction commits iff the loan switch is on and
    (in `propagate` mode) the inner message is let through; the recorded inner result is a success
    exactly for the cw20 withdrawal with withdrawals on and for fee collection (enumerated by the kernel) -/
example :
    ∀ a b c : Bool, ∀ outer ∈ [Path.vaultFlashLoan, Path.vaultRouterLoan],
      ∀ inner ∈ Path.all.filter (fun p => p.family == .vault), ∀ m ∈ [Mode.propagate, Mode.catch],
      let r := stepInLoan ⟨⟨a, b, c⟩, true, 0⟩ outer inner m ⟨.ok (), .ok (), .ok ()⟩
      let innerOk := (inner == .vaultWithdrawHook && b) || inner == .vaultCollectFees
      (r.tx == .ok ()) = (c && (m == .catch || innerOk)) ∧
      r.inner = (if c && m == .catch then some innerOk else none) := by decide +kernel

/-- deposits paused, loans enabled, a deposit sent by the borrower from inside the loan's callback — rejected -/
example :
    stepInLoan ⟨⟨false, true, true⟩, true, 0⟩ .vaultFlashLoan .vaultDeposit .propagate ⟨.ok (), .ok (), .ok ()⟩
      = ⟨.err, none⟩ := by decide

end WW.C17
