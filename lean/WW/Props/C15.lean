/-
  C15 — Slippage limits and minimum-receive are enforced.
  Property theorems only (helpers live in WW/Proofs/Slippage.lean).  The models are the replicas of
    `white_whale_std::pool_network::swap::assert_max_spread`            (`assertMaxSpread`)
    `terraswap_pair::helpers::assert_slippage_tolerance`                (`pairAssertSlippage`)
    `stableswap_3pool::helpers::assert_slippage_tolerance`              (`trioAssertSlippage`)
    `terraswap_router::contract::assert_minimum_receive`                (`assertMinimumReceive`)
  and of their call sites (`pairSwapChecked`, `routeChecked`); they are tied to the Rust by the
  `slippage` correspondence engine (direct calls) and its `exec` variant (operations executed on the
  real contracts).  Amounts are `Uint128` values, `Decimal`s are 18-decimal atomics (`E18` = 1.0).

  Every characterisation is an IFF: `→` is "a success satisfied the bound", `←` is "a request
  within the limit is not rejected".
-/
import WW.Proofs.Slippage
namespace WW.C15
open WW

/-- default max spread is 1 % — pinned: a changed `DEFAULT_SLIPPAGE` breaks this obligation -/
theorem default_is_one_percent : Gen.SWAP_DEFAULT_SLIPPAGE * 100 = E18 := by decide

/-- the cap on max spread is 50 % — pinned: a changed `MAX_ALLOWED_SLIPPAGE` breaks this obligation -/
theorem cap_is_fifty_percent : Gen.SWAP_MAX_ALLOWED_SLIPPAGE * 2 = E18 := by decide

/-- the limit a swap is held to: `min(s ?? 1 %, 50 %)` -/
theorem effective_spread (s : Option Nat) :
    effSpread s = Nat.min (s.getD (E18 / 100)) (E18 / 2) := by
  unfold effSpread
  rw [default_spread_pinned, spread_cap_pinned]

/-- **max_spread_iff** — with `gross + spread` a non-zero `Uint128`, the assertion accepts exactly when
    `⌊spread·10¹⁸/(gross+spread)⌋ ≤ min(s ?? 1 %, 50 %)` (the exact floor arithmetic of the code). -/
theorem max_spread_iff (s : Option Nat) (offer : Nat) {gross spread : Nat}
    (h0 : gross + spread ≠ 0) (hmax : gross + spread ≤ U128MAX) :
    assertMaxSpread none s offer gross spread = .ok () ↔
      spread * E18 / (gross + spread) ≤ effSpread s := by
  rw [assertMaxSpread_none_closed s offer h0 hmax, Res.check_eq_ok]

/-- … and otherwise it returns an error; it never panics on that domain. -/
theorem max_spread_rejects_iff (s : Option Nat) (offer : Nat) {gross spread : Nat}
    (h0 : gross + spread ≠ 0) (hmax : gross + spread ≤ U128MAX) :
    assertMaxSpread none s offer gross spread = .err ↔
      effSpread s < spread * E18 / (gross + spread) := by
  rw [assertMaxSpread_none_closed s offer h0 hmax, Res.check_eq_err, Nat.not_le]

/-- outside it the Rust panics (`from_ratio(0, 0)`, `Uint128` overflow of `return + spread`):
    a swap whose gross return and spread are both zero aborts instead of returning an error. -/
theorem max_spread_degenerate_panics (s : Option Nat) (offer : Nat) :
    assertMaxSpread none s offer 0 0 = .panic ∧
    ∀ gross spread, ¬ gross + spread ≤ U128MAX → assertMaxSpread none s offer gross spread = .panic :=
  ⟨assertMaxSpread_none_zero s offer, fun _ _ h => assertMaxSpread_none_overflow s offer h⟩

/-- success ⇒ `spread/(gross+spread) < s + 10⁻¹⁸` (rational bound; the `+1` is the floor) -/
theorem max_spread_sound (s : Option Nat) (offer : Nat) {gross spread : Nat}
    (h0 : gross + spread ≠ 0) (hmax : gross + spread ≤ U128MAX)
    (h : assertMaxSpread none s offer gross spread = .ok ()) :
    spread * E18 < (effSpread s + 1) * (gross + spread) :=
  (floor_le_iff (Nat.pos_of_ne_zero h0)).mp ((max_spread_iff s offer h0 hmax).mp h)

theorem max_spread_complete (s : Option Nat) (offer : Nat) {gross spread : Nat}
    (h0 : gross + spread ≠ 0) (hmax : gross + spread ≤ U128MAX)
    (h : spread * E18 ≤ effSpread s * (gross + spread)) :
    assertMaxSpread none s offer gross spread = .ok () :=
  (max_spread_iff s offer h0 hmax).mpr (floor_le_of_le_mul h)

/-- a swap without spread is never rejected, whatever the limit (even 0) -/
theorem zero_spread_accepted (s : Option Nat) (offer : Nat) {gross : Nat} (hg : gross ≠ 0)
    (hmax : gross ≤ U128MAX) : assertMaxSpread none s offer gross 0 = .ok () :=
  max_spread_complete s offer (by omega) (by omega) (by simp)

/-- a requested spread above the cap is treated as the cap -/
theorem spread_above_cap_is_cap {s : Nat} (hs : E18 / 2 ≤ s) (offer gross spread : Nat) :
    assertMaxSpread none (some s) offer gross spread
      = assertMaxSpread none (some (E18 / 2)) offer gross spread := by
  have e : effSpread (some s) = effSpread (some (E18 / 2)) := by
    rw [effective_spread, effective_spread]
    simp only [Option.getD_some]
    show min s (E18 / 2) = min (E18 / 2) (E18 / 2)
    rw [Nat.min_eq_right hs, Nat.min_self]
  unfold assertMaxSpread
  rw [e]

/-- **belief_iff** — with a non-zero belief price `p` (atomics) and
    `expected = ⌊offer·⌊10³⁶/p⌋/10¹⁸⌋` a `Uint128`, the assertion accepts exactly when
    `gross ≥ expected` or `⌊(expected−gross)·10¹⁸/expected⌋ ≤ min(s ?? 1 %, 50 %)`. -/
theorem belief_iff (s : Option Nat) {p offer : Nat} (gross spread : Nat) (hp : p ≠ 0)
    (hexp : beliefExpected p offer ≤ U128MAX) :
    assertMaxSpread (some p) s offer gross spread = .ok () ↔
      (beliefExpected p offer ≤ gross ∨
        (beliefExpected p offer - gross) * E18 / beliefExpected p offer ≤ effSpread s) := by
  rw [assertMaxSpread_belief_closed s gross spread hp hexp]
  by_cases hlt : gross < beliefExpected p offer
  · rw [if_pos hlt, Res.check_eq_ok, or_iff_right (Nat.not_le.mpr hlt)]
  · simp only [if_neg hlt, Nat.le_of_not_lt hlt, true_or]

theorem belief_expected_eq (p offer : Nat) :
    beliefExpected p offer = offer * (10 ^ 36 / p) / 10 ^ 18 := by
  unfold beliefExpected
  have : E18 * E18 = 10 ^ 36 := by decide
  have h18 : E18 = 10 ^ 18 := by decide
  rw [this, h18]

/-- a zero belief price is an error; an expected return beyond `Uint128` is a panic -/
theorem belief_degenerate (s : Option Nat) (offer gross spread : Nat) :
    assertMaxSpread (some 0) s offer gross spread = .err ∧
    ∀ p, p ≠ 0 → ¬ beliefExpected p offer ≤ U128MAX →
      assertMaxSpread (some p) s offer gross spread = .panic :=
  ⟨assertMaxSpread_belief_zero s offer gross spread,
   fun _ hp h => assertMaxSpread_belief_overflow s gross spread hp h⟩

/-- **derived bound** — success ⇒
    `gross + [expected·10⁻¹⁸ + (1 + offer·10⁻¹⁸)(1−s)]  ≥  (offer/p)(1−s)`,
    cross-multiplied by `10³⁶·p` (`p` in atomics, so `offer/p` = `offer·10¹⁸/p`).
    The bracket is the explicit rounding slack: one base unit for the `Uint128` floor, `offer·10⁻¹⁸`
    for the 18-decimal inverse of the price, `expected·10⁻¹⁸` for the floored ratio. -/
theorem belief_bound (s : Option Nat) {p offer : Nat} (gross spread : Nat) (hp : p ≠ 0)
    (hexp : beliefExpected p offer ≤ U128MAX)
    (h : assertMaxSpread (some p) s offer gross spread = .ok ()) :
    offer * (E18 * E18) * (E18 - effSpread s) ≤
      gross * (E18 * E18 * p) +
        (beliefExpected p offer * E18 * p + (E18 * p + offer * p) * (E18 - effSpread s)) := by
  have hB := spread_check_sound ((belief_iff s gross spread hp hexp).mp h)
  have hA := lt_floor2_succ_mul E18 offer (Nat.pos_of_ne_zero hp) E18_pos
  rw [← beliefExpected_eq_floor2] at hA
  exact belief_core hA hB

/-- `gross ≥ (offer/p)(1−s)` ⇒ not rejected (unless the expected return overflows `Uint128`) -/
theorem belief_complete (s : Option Nat) {p offer : Nat} (gross spread : Nat) (hp : p ≠ 0)
    (hexp : beliefExpected p offer ≤ U128MAX)
    (h : offer * (E18 - effSpread s) ≤ gross * p) :
    assertMaxSpread (some p) s offer gross spread = .ok () := by
  rw [belief_iff s gross spread hp hexp]
  have hep := floor2_mul_le E18 p offer E18_pos
  rw [← beliefExpected_eq_floor2] at hep
  exact spread_check_complete (effSpread_le_one s)
    (belief_complete_core (Nat.pos_of_ne_zero hp) hep h)

/-- The statement's literal "up to one base unit of rounding":
    success ⇒ `gross + 1 ≥ (offer/p)(1−s)`. -/
def BeliefWithinOneUnit : Prop :=
  ∀ (s : Option Nat) (p offer gross spread : Nat), p ≠ 0 → beliefExpected p offer ≤ U128MAX →
    assertMaxSpread (some p) s offer gross spread = .ok () →
    offer * (E18 - effSpread s) ≤ (gross + 1) * p

/-- It does **not** hold for the current code: the price's inverse is rounded to 18 decimals
    *before* it is multiplied by the offer.  Price 3.0, max spread 0, offer 3·10²⁰: the code expects
    99 999 999 999 999 999 900 and accepts it — 100 base units short of `offer/p = 10²⁰`.
    (Known finding `C15-belief-inverse-rounding`; `belief_bound` is what does hold.) -/
theorem belief_within_one_unit_fails_on_current : ¬ BeliefWithinOneUnit := by
  intro h
  have := h (some 0) (3 * E18) 300000000000000000000 99999999999999999900 0 (by decide) (by decide)
    (by decide)
  revert this
  decide

/-- what remains true with a single base unit: when the price's inverse is exact (`p ∣ 10³⁶`) and
    `expected < 10¹⁸`, a success has `gross + 2 > (offer/p)(1−s)`. -/
theorem belief_within_two_units_partial (s : Option Nat) {p offer : Nat} (gross spread : Nat)
    (hp : p ≠ 0) (hdiv : E18 * E18 / p * p = E18 * E18) (hsmall : beliefExpected p offer < E18)
    (h : assertMaxSpread (some p) s offer gross spread = .ok ()) :
    offer * (E18 - effSpread s) < (gross + 2) * p := by
  have hexp : beliefExpected p offer ≤ U128MAX := le_trans (le_of_lt hsmall) (by decide)
  exact belief_two_units_core (Nat.pos_of_ne_zero hp) hdiv (lt_succ_div_mul _ E18_pos)
    (spread_check_sound ((belief_iff s gross spread hp hexp).mp h)) (Nat.sub_le _ _) hsmall

/-- **cp_tolerance_iff** — constant-product pair, tolerance `t ≤ 1`, non-zero `Uint128` deposits and
    reserves: accepted exactly when in both directions
    `⌊⌊d_i·10¹⁸/d_j⌋·(10¹⁸−t)/10¹⁸⌋ ≤ ⌊p_i·10¹⁸/p_j⌋` ("the deposit's price, lowered by the
    tolerance, does not exceed the pool's price"). -/
theorem cp_tolerance_iff {t d0 d1 p0 p1 : Nat} (amount supply : Nat) (ht : t ≤ E18)
    (hd0 : d0 ≠ 0) (hd1 : d1 ≠ 0) (hp0 : p0 ≠ 0) (hp1 : p1 ≠ 0)
    (bd0 : d0 ≤ U128MAX) (bd1 : d1 ≤ U128MAX) (bp0 : p0 ≤ U128MAX) (bp1 : p1 ≤ U128MAX) :
    pairAssertSlippage (some t) d0 d1 p0 p1 .constantProduct amount supply = .ok () ↔
      (d0 * E18 / d1 * (E18 - t) / E18 ≤ p0 * E18 / p1 ∧
       d1 * E18 / d0 * (E18 - t) / E18 ≤ p1 * E18 / p0) := by
  rw [pairAssertSlippage_cp_closed amount supply ht hd0 hd1 hp0 hp1 bd0 bd1 bp0 bp1,
    Res.check_eq_ok]

/-- rational form: `d_i/d_j·(1−t) ≤ p_i/p_j` both ways ⇒ accepted;
    accepted ⇒ `d_i/d_j·(1−t) < p_i/p_j + 2·10⁻¹⁸` both ways. -/
theorem cp_tolerance_rational {t d0 d1 p0 p1 : Nat} (amount supply : Nat) (ht : t ≤ E18)
    (hd0 : d0 ≠ 0) (hd1 : d1 ≠ 0) (hp0 : p0 ≠ 0) (hp1 : p1 ≠ 0)
    (bd0 : d0 ≤ U128MAX) (bd1 : d1 ≤ U128MAX) (bp0 : p0 ≤ U128MAX) (bp1 : p1 ≤ U128MAX) :
    ((d0 * (E18 - t) * p1 ≤ p0 * E18 * d1 ∧ d1 * (E18 - t) * p0 ≤ p1 * E18 * d0) →
      pairAssertSlippage (some t) d0 d1 p0 p1 .constantProduct amount supply = .ok ()) ∧
    (pairAssertSlippage (some t) d0 d1 p0 p1 .constantProduct amount supply = .ok () →
      d0 * (E18 - t) * p1 < (p0 * E18 + 2 * p1) * d1 ∧
      d1 * (E18 - t) * p0 < (p1 * E18 + 2 * p0) * d0) := by
  rw [cp_tolerance_iff amount supply ht hd0 hd1 hp0 hp1 bd0 bd1 bp0 bp1]
  have q0 := Nat.pos_of_ne_zero hd0
  have q1 := Nat.pos_of_ne_zero hd1
  have r0 := Nat.pos_of_ne_zero hp0
  have r1 := Nat.pos_of_ne_zero hp1
  exact ⟨fun h => ⟨tolSide_of_real q1 r1 h.1, tolSide_of_real q0 r0 h.2⟩,
         fun h => ⟨real_of_tolSide q1 r1 h.1, real_of_tolSide q0 r0 h.2⟩⟩

/-- **ss_tolerance_iff** — two-asset stableswap pair, `t ≤ 1`, LP `amount` and `supply` non-zero:
    accepted exactly when `⌊⌊(p0+p1)·10¹⁸/supply⌋·(10¹⁸−t)/10¹⁸⌋ ≤ ⌊(d0+d1)·10¹⁸/amount⌋`
    ("assets per LP share paid by the deposit are at least (1−t) × the pool's"). -/
theorem ss_tolerance_iff {t d0 d1 p0 p1 amount supply : Nat} (ht : t ≤ E18)
    (ha : amount ≠ 0) (hs : supply ≠ 0)
    (bd0 : d0 ≤ U128MAX) (bd1 : d1 ≤ U128MAX) (bp0 : p0 ≤ U128MAX) (bp1 : p1 ≤ U128MAX) :
    pairAssertSlippage (some t) d0 d1 p0 p1 .stableSwap amount supply = .ok () ↔
      (p0 + p1) * E18 / supply * (E18 - t) / E18 ≤ (d0 + d1) * E18 / amount := by
  rw [pairAssertSlippage_ss_closed ht ha hs bd0 bd1 bp0 bp1, Res.check_eq_ok]

theorem ss_tolerance_rational {t d0 d1 p0 p1 amount supply : Nat} (ht : t ≤ E18)
    (ha : amount ≠ 0) (hs : supply ≠ 0)
    (bd0 : d0 ≤ U128MAX) (bd1 : d1 ≤ U128MAX) (bp0 : p0 ≤ U128MAX) (bp1 : p1 ≤ U128MAX) :
    ((p0 + p1) * (E18 - t) * amount ≤ (d0 + d1) * E18 * supply →
      pairAssertSlippage (some t) d0 d1 p0 p1 .stableSwap amount supply = .ok ()) ∧
    (pairAssertSlippage (some t) d0 d1 p0 p1 .stableSwap amount supply = .ok () →
      (p0 + p1) * (E18 - t) * amount < ((d0 + d1) * E18 + 2 * amount) * supply) := by
  rw [ss_tolerance_iff ht ha hs bd0 bd1 bp0 bp1]
  have qa := Nat.pos_of_ne_zero ha
  have qs := Nat.pos_of_ne_zero hs
  exact ⟨fun h => tolSide_of_real qs qa h, fun h => real_of_tolSide qs qa h⟩

/-- **trio_tolerance_iff** — three-asset stableswap, same bound over three reserves / deposits -/
theorem trio_tolerance_iff {t d0 d1 d2 p0 p1 p2 amount supply : Nat} (ht : t ≤ E18)
    (ha : amount ≠ 0) (hs : supply ≠ 0)
    (bd0 : d0 ≤ U128MAX) (bd1 : d1 ≤ U128MAX) (bd2 : d2 ≤ U128MAX)
    (bp0 : p0 ≤ U128MAX) (bp1 : p1 ≤ U128MAX) (bp2 : p2 ≤ U128MAX) :
    trioAssertSlippage (some t) d0 d1 d2 p0 p1 p2 amount supply = .ok () ↔
      (p0 + p1 + p2) * E18 / supply * (E18 - t) / E18 ≤ (d0 + d1 + d2) * E18 / amount := by
  rw [trioAssertSlippage_closed ht ha hs bd0 bd1 bd2 bp0 bp1 bp2, Res.check_eq_ok]

theorem trio_tolerance_rational {t d0 d1 d2 p0 p1 p2 amount supply : Nat} (ht : t ≤ E18)
    (ha : amount ≠ 0) (hs : supply ≠ 0)
    (bd0 : d0 ≤ U128MAX) (bd1 : d1 ≤ U128MAX) (bd2 : d2 ≤ U128MAX)
    (bp0 : p0 ≤ U128MAX) (bp1 : p1 ≤ U128MAX) (bp2 : p2 ≤ U128MAX) :
    ((p0 + p1 + p2) * (E18 - t) * amount ≤ (d0 + d1 + d2) * E18 * supply →
      trioAssertSlippage (some t) d0 d1 d2 p0 p1 p2 amount supply = .ok ()) ∧
    (trioAssertSlippage (some t) d0 d1 d2 p0 p1 p2 amount supply = .ok () →
      (p0 + p1 + p2) * (E18 - t) * amount < ((d0 + d1 + d2) * E18 + 2 * amount) * supply) := by
  rw [trio_tolerance_iff ht ha hs bd0 bd1 bd2 bp0 bp1 bp2]
  have qa := Nat.pos_of_ne_zero ha
  have qs := Nat.pos_of_ne_zero hs
  exact ⟨fun h => tolSide_of_real qs qa h, fun h => real_of_tolSide qs qa h⟩

/-- **tolerance_gt_one_rejected** — a tolerance above 100 % is an error in every pool type, for all
    other arguments (it is checked first); and without a tolerance nothing is checked. -/
theorem tolerance_gt_one_rejected {t : Nat} (ht : E18 < t) :
    (∀ d0 d1 p0 p1 k amount supply, pairAssertSlippage (some t) d0 d1 p0 p1 k amount supply = .err) ∧
    (∀ d0 d1 d2 p0 p1 p2 amount supply,
      trioAssertSlippage (some t) d0 d1 d2 p0 p1 p2 amount supply = .err) :=
  ⟨fun d0 d1 p0 p1 k a s => pairAssertSlippage_gt_one ht d0 d1 p0 p1 k a s,
   fun d0 d1 d2 p0 p1 p2 a s => trioAssertSlippage_gt_one ht d0 d1 d2 p0 p1 p2 a s⟩

theorem no_tolerance_accepted :
    (∀ d0 d1 p0 p1 k amount supply, pairAssertSlippage none d0 d1 p0 p1 k amount supply = .ok ()) ∧
    (∀ d0 d1 d2 p0 p1 p2 amount supply,
      trioAssertSlippage none d0 d1 d2 p0 p1 p2 amount supply = .ok ()) :=
  ⟨fun _ _ _ _ _ _ _ => rfl, fun _ _ _ _ _ _ _ _ => rfl⟩

/-- a tolerance of exactly 100 % accepts every deposit (the left side becomes 0) -/
theorem tolerance_one_accepts_all {d0 d1 p0 p1 : Nat} (amount supply : Nat)
    (hd0 : d0 ≠ 0) (hd1 : d1 ≠ 0) (hp0 : p0 ≠ 0) (hp1 : p1 ≠ 0)
    (bd0 : d0 ≤ U128MAX) (bd1 : d1 ≤ U128MAX) (bp0 : p0 ≤ U128MAX) (bp1 : p1 ≤ U128MAX) :
    pairAssertSlippage (some E18) d0 d1 p0 p1 .constantProduct amount supply = .ok () := by
  rw [cp_tolerance_iff amount supply (Nat.le_refl _) hd0 hd1 hp0 hp1 bd0 bd1 bp0 bp1]
  simp only [Nat.sub_self, Nat.mul_zero, Nat.zero_div, Nat.zero_le, and_self]

/-- **min_receive_iff** — the router's assertion accepts exactly when the receiver's balance of the
    final asset grew by at least `m` over the balance recorded before the hops (`cur − prev ≥ m`,
    with no wrap-around: a balance that dropped is an error). -/
theorem min_receive_iff (prev m cur : Nat) :
    assertMinimumReceive prev m cur = .ok () ↔ prev ≤ cur ∧ m ≤ cur - prev := by
  rw [assertMinimumReceive_closed, Res.check_eq_ok]
  omega

theorem min_receive_rejects_iff (prev m cur : Nat) :
    assertMinimumReceive prev m cur = .err ↔ cur < prev + m := by
  rw [assertMinimumReceive_closed, Res.check_eq_err, Nat.not_le]

/-- the pair hands `assert_max_spread` the **gross** return (proceeds + swap + protocol + burn fee
    = `⌊ask·offer/(pool+offer)⌋`) and `compute_swap`'s spread: so a constant-product swap that
    succeeds without a belief price had `spread/(gross + spread) ≤ min(s ?? 1 %, 50 %)` (floored),
    for all `Uint128` reserves / offers and all valid fees; it pays the receiver the net proceeds. -/
theorem swap_success_within_spread {op ap off : Nat} {f : Fees} (s : Option Nat) {r : Nat}
    (hop : In128 op) (hap : In128 ap) (hoff : In128 off) (hop1 : 1 ≤ op) (hf : f.valid = true)
    (h : pairSwapChecked op ap off f none s = .ok r) :
    cpSpread op ap off * E18 / (cpGross op ap off + cpSpread op ap off) ≤ effSpread s ∧
    r = (cpResult op ap off f).ret := by
  by_cases hsp : cpSpread op ap off ≤ U128MAX
  · rw [pairSwapChecked_closed none s hop hap hoff hop1 hf hsp] at h
    obtain ⟨_, ha, hr⟩ := Res.bind_eq_ok.mp h
    exact ⟨assertMaxSpread_none_ok ha, (Res.ok.inj hr).symm⟩
  · unfold pairSwapChecked at h
    rw [cpSwap_closed hop hap hoff hop1 hf, if_neg hsp] at h
    cases h

/-- … and a swap inside the limit is not rejected (`hmax`: the `Uint128` sum `gross + spread` the
    assertion forms does not overflow — it can only for an ask reserve above 2¹²⁷). -/
theorem swap_within_spread_succeeds {op ap off : Nat} {f : Fees} (s : Option Nat)
    (hop : In128 op) (hap : In128 ap) (hoff : In128 off) (hop1 : 1 ≤ op) (hf : f.valid = true)
    (h0 : cpGross op ap off + cpSpread op ap off ≠ 0)
    (hmax : cpGross op ap off + cpSpread op ap off ≤ U128MAX)
    (h : cpSpread op ap off * E18 ≤ effSpread s * (cpGross op ap off + cpSpread op ap off)) :
    pairSwapChecked op ap off f none s = .ok (cpResult op ap off f).ret := by
  have hsp : cpSpread op ap off ≤ U128MAX := by omega
  rw [pairSwapChecked_closed none s hop hap hoff hop1 hf hsp]
  rw [max_spread_complete s off h0 hmax h]
  rfl

/-- **route_min_receive** — a router `ExecuteSwapOperations` that succeeds with
    `minimum_receive = m` increased the receiver's balance of the final asset by at least `m`,
    whatever the receiver held before (`prev`), for every route length and every pool state. -/
theorem route_min_receive {f : Fees} {ms : Option Nat} {m prev : Nat} {hops : List (Nat × Nat)}
    {offer out : Nat} (h : routeChecked f ms (some m) prev hops offer = .ok out) :
    m ≤ out ∧ m ≤ (prev + out) - prev := by
  have hh := routeChecked_ok_hops h
  rw [routeChecked_some hh] at h
  by_cases hm : m ≤ out
  · exact ⟨hm, by omega⟩
  · rw [if_neg hm] at h; cases h

/-- … and conversely: if the hops themselves go through and pay `out ≥ m`, the minimum-receive
    assertion does not reject; if they pay less, the whole operation is an error. -/
theorem route_min_receive_iff {f : Fees} {ms : Option Nat} {m prev : Nat} {hops : List (Nat × Nat)}
    {offer out : Nat} (hh : routeHops f ms hops offer = .ok out) :
    (routeChecked f ms (some m) prev hops offer = .ok out ↔ m ≤ out) ∧
    (routeChecked f ms (some m) prev hops offer = .err ↔ out < m) := by
  rw [routeChecked_some hh]
  constructor
  · constructor
    · intro h; by_contra hn; rw [if_neg hn] at h; cases h
    · intro h; rw [if_pos h]
  · constructor
    · intro h; by_contra hn; rw [if_pos (by omega)] at h; cases h
    · intro h; rw [if_neg (by omega)]

-- default 1 %: 990 gross + 10 spread is exactly 1 % → accepted; 989 + 10 is above → rejected
example : assertMaxSpread none none 1000 990 10 = .ok () := by decide +kernel
example : assertMaxSpread none none 1000 989 10 = .err := by decide +kernel
-- the cap: a request of 60 % is held to 50 %
example : assertMaxSpread none (some (6 * E18 / 10)) 1000 500 500 = .ok () := by decide +kernel
example : assertMaxSpread none (some (6 * E18 / 10)) 1000 499 501 = .err := by decide +kernel
-- belief price 2.0, 1 %: expected 500, 495 accepted, 494 rejected
example : assertMaxSpread (some (2 * E18)) none 1000 495 0 = .ok () := by decide +kernel
example : assertMaxSpread (some (2 * E18)) none 1000 494 0 = .err := by decide +kernel
-- a belief price above 10¹⁸ has inverse 0: the check accepts a zero return
example : assertMaxSpread (some (E18 * E18 + 1)) (some 0) (10 ^ 30) 0 0 = .ok () := by decide +kernel
-- constant-product tolerance 1 %: pool 1:1, deposit 101:100 accepted, 102:100 rejected
example : pairAssertSlippage (some (E18 / 100)) 101 100 1000 1000 .constantProduct 0 0 = .ok () := by
  decide +kernel
example : pairAssertSlippage (some (E18 / 100)) 102 100 1000 1000 .constantProduct 0 0 = .err := by
  decide +kernel
-- stableswap: pool holds 2 assets per share; a deposit paying 1.98 per share passes 1 %, 1.97 does not
example : pairAssertSlippage (some (E18 / 100)) 99 99 1000 1000 .stableSwap 100 1000 = .ok () := by
  decide +kernel
example : pairAssertSlippage (some (E18 / 100)) 99 98 1000 1000 .stableSwap 100 1000 = .err := by
  decide +kernel
example : trioAssertSlippage (some (E18 / 100)) 99 99 99 1000 1000 1000 100 1000 = .ok () := by
  decide +kernel
example : trioAssertSlippage (some (E18 + 1)) 99 99 99 1000 1000 1000 100 1000 = .err := by
  decide +kernel
-- router: receiver held 7, minimum 5
example : assertMinimumReceive 7 5 12 = .ok () := by decide +kernel
example : assertMinimumReceive 7 5 11 = .err := by decide +kernel
-- a 2-hop route on 10⁹/10⁹ pools, fees 0.1 % + 0.2 %, offer 10⁶, max spread 1 %: pays 992 026
example : routeChecked ⟨E18 / 1000, 2 * E18 / 1000, 0⟩ none (some 992026) 7
    [(1000000000, 1000000000), (1000000000, 1000000000)] 1000000 = .ok 992026 := by decide +kernel
example : routeChecked ⟨E18 / 1000, 2 * E18 / 1000, 0⟩ none (some 992027) 7
    [(1000000000, 1000000000), (1000000000, 1000000000)] 1000000 = .err := by decide +kernel

end WW.C15
