/-
  C03 — Two-asset stableswap pool: the invariant never leaks value to traders or depositors.
  Property theorems only (helpers live in WW/Proofs/Stable2.lean). The model (`WW/Model/Stable2.lean`)
  is the replica of `terraswap_pair::helpers::{calculate_stableswap_d, calculate_stableswap_y, compute_d,
  compute_next_d, compute_lp_mint_amount_for_stableswap_deposit, compute_swap (StableSwap arm)}` and of
  the stable branch of `provide_liquidity` / `swap` / `withdraw_liquidity`; it is tied to the Rust by the
  `stable2` correspondence engine (pure calls bit-for-bit + contract-level histories).

  Status on the current tree
    proved, unconditional : ss_fee_split, ss_le_reserve, y_residual (+ y_residual_of_solver),
                            lp_mint_le, provide_code_invariant_per_lp, proceeds_monotone_partial,
                            reach_solvent_and_lp_accounted, reach_swap_le_reserve (all histories),
                            compute_d_total, d_solver_meets_tolerance, compute_d_loop_result,
                            solvers_give_up
    stated, NOT proved    : `SwapNotBelowCurve`, `InvariantPerLpOnDeposit` — they need the closeness of
                            the Newton solvers to the exact root of the invariant polynomial; the
                            harness tests them against an independent exact solver (test oracle)
    violated (witnesses)  : `DepositWithdrawNoValue`  — known finding C03-lp-mint-raw-decimals
                            `ProceedsMonotone`         — by ≤ 2 base units, from flooring the 3 fees
-/
import WW.Proofs.Stable2
namespace WW.C03
open WW

/-- **ss_fee_split.** When the StableSwap arm of `compute_swap` returns, with `y` the value the
    y-solver returned for the decimal-normalised inputs: proceeds + the three fees = ask reserve − y,
    and each fee is `⌊share · gross⌋` of that gross output. (`pa ≤ 18`: the ask asset's decimals; for
    more than 18 the code panics in `to_uint256_with_precision`.) -/
theorem ss_fee_split {opool apool off : Nat} {f : Fees} {amp po pa : Nat} {c : SwapComp}
    (hpa : pa ≤ 18) (h : ssSwap opool apool off f amp po pa = .ok c) :
    ∃ opD apD offD y,
      dec256WithPrecision opool po = .ok opD ∧ dec256WithPrecision apool pa = .ok apD ∧
      dec256WithPrecision off po = .ok offD ∧ ssY opD apD offD amp pa 0 = .ok y ∧
      y ≤ apool ∧
      c.ret + c.swapFee + c.protFee + c.burnFee = apool - y ∧
      c.swapFee = (apool - y) * f.swap / E18 ∧
      c.protFee = (apool - y) * f.prot / E18 ∧
      c.burnFee = (apool - y) * f.burn / E18 :=
  ssSwap_inv h

/-- **ss_le_reserve.** Proceeds never exceed the ask reserve — not even together with all three fees
    (the `checked_sub` of the solver's `y` from the ask pool is the guard). -/
theorem ss_le_reserve {opool apool off : Nat} {f : Fees} {amp po pa : Nat} {c : SwapComp}
    (hpa : pa ≤ 18) (h : ssSwap opool apool off f amp po pa = .ok c) :
    c.ret ≤ apool ∧ c.ret + c.swapFee + c.protFee + c.burnFee ≤ apool := by
  have hsum := ssSwap_sum_le h
  exact ⟨le_trans (by omega) hsum, hsum⟩

/-- **y_residual.** If the y-solver's loop returns `y` (from any start, any remaining round count),
    it was produced by one Newton step from a `y_prev` within one unit of it, and then — from the
    termination test alone, no convergence argument —
        −(2·y_prev + b − D) < y² + (b − D)·y − c ≤ 1        (over ℤ)
    i.e. `y` is the integer root of the code's own quadratic up to one unit. -/
theorem y_residual {k b c d y0 y : Nat} (h : ssYLoop k b c d y0 = .ok y) :
    ∃ yp : Nat, d < 2 * yp + b ∧ y ≤ yp + 1 ∧ yp ≤ y + 1 ∧
      -(2 * (yp : ℤ) + b - d) < (y : ℤ) * y + ((b : ℤ) - d) * y - c ∧
      (y : ℤ) * y + ((b : ℤ) - d) * y - c ≤ 1 := by
  obtain ⟨yp, hs, h1, h2, _⟩ := ssYLoop_residual k b c d y0 y h
  obtain ⟨hd, r1, r2⟩ := ssYStep_residual hs h1 h2
  exact ⟨yp, hd, h1, h2, r1, r2⟩

/-- `y_residual` for `calculate_stableswap_y` itself, with the quadratic's coefficients spelled out in
    terms of the code's `D` (`d`, at ask precision), the new offer-side pool sum `ps` and `Ann = 2·amp`:
    `c = ⌊⌊d²/(2·ps)⌋·d/(2·Ann)⌋`, `b = ps + ⌊d/Ann⌋`. -/
theorem y_residual_of_solver {op ap off amp pa dir y : Nat} (h : ssY op ap off amp pa dir = .ok y) :
    ∃ dDec d psDec ps yp : Nat,
      ssD op ap amp pa = .ok dDec ∧ dec256ToUintPrecision dDec pa = .ok d ∧
      (if dir = 0 then cadd U256MAX op off else csub ap off) = .ok psDec ∧
      dec256ToUintPrecision psDec pa = .ok ps ∧
      (let c := d * d / (ps * 2) * d / (amp * 2 * 2)
       let b := ps + d / (amp * 2)
       y ≤ U128MAX ∧ d < 2 * yp + b ∧ y ≤ yp + 1 ∧ yp ≤ y + 1 ∧
       -(2 * (yp : ℤ) + b - d) < (y : ℤ) * y + ((b : ℤ) - d) * y - c ∧
       (y : ℤ) * y + ((b : ℤ) - d) * y - c ≤ 1) := by
  obtain ⟨dDec, d, psDec, ps, c, b, h1, h2, h3, h4, ec, eb, hl⟩ := ssY_inv h
  obtain ⟨yp, hs, l1, l2, l3⟩ := ssYLoop_residual _ _ _ _ _ _ hl
  obtain ⟨hd, r1, r2⟩ := ssYStep_residual hs l1 l2
  subst ec eb
  exact ⟨dDec, d, psDec, ps, yp, h1, h2, h3, h4, l3, hd, l1, l2, r1, r2⟩

/-- **lp_mint_le.** With `D₀`, `D₁` the values `compute_d` returns for the reserves before / after the
    deposit (RAW amounts — no decimal normalisation, which is the known finding below):
    `mint·D₀ ≤ S·(D₁ − D₀)`, hence `D₀·(S + mint) ≤ D₁·S`: the code's own invariant per LP token does
    not fall. -/
theorem lp_mint_le {amp da db sa sb S m : Nat} (h : ssLpMint amp da db sa sb S = .ok (some m)) :
    ∃ d0 d1, computeD amp sa sb = .ok d0 ∧ computeD amp (sa + da) (sb + db) = .ok d1 ∧
      d0 < d1 ∧ m * d0 ≤ S * (d1 - d0) ∧ d0 * (S + m) ≤ d1 * S := by
  obtain ⟨d0, d1, h0, h1, hlt, _, hm, _⟩ := ssLpMint_inv h
  obtain ⟨a, b⟩ := mint_le_core hlt hm
  exact ⟨d0, d1, h0, h1, hlt, a, b⟩

/-- `lp_mint_le` at the level of the pool state machine, for every state with LP supply > 0 (hence
    along every history): a successful `provide` never lowers `compute_d(reported reserves) / supply`. -/
theorem provide_code_invariant_per_lp {cfg : SsCfg} {s s' : SsSt} {u a b : Nat}
    (h : ssProvide cfg s u a b = .ok s') (hs : s.sup ≠ 0) :
    ∃ d0 d1, computeD cfg.amp s.r0 s.r1 = .ok d0 ∧ computeD cfg.amp s'.r0 s'.r1 = .ok d1 ∧
      d0 * s'.sup ≤ d1 * s.sup := by
  obtain ⟨-, l0, l1, lock, m, hlive, e0, e1, q0, q1, es, -, -⟩ := ssProvide_ok h
  obtain ⟨rfl, hm⟩ := hlive hs
  obtain ⟨d0, d1, h0, h1, _, _, hb⟩ := lp_mint_le hm
  refine ⟨d0, d1, h0, ?_, by rw [es]; exact hb⟩
  have r0 : s'.r0 = s.r0 + a := by unfold SsSt.r0; rw [e0, q0]; exact Nat.sub_add_comm l0
  have r1 : s'.r1 = s.r1 + b := by unfold SsSt.r1; rw [e1, q1]; exact Nat.sub_add_comm l1
  rw [r0, r1]; exact h1

/-- `compute_d` (raw amounts, Uint512) has no error exit: it returns a value or panics. -/
theorem compute_d_total (amp a b : Nat) : computeD amp a b ≠ .err := computeD_ne_err amp a b

/-- what `compute_d`'s loop returns is the start value (only when no round is left) or the result of
    a Newton step — the loop falls through after its 256 rounds, so NOT necessarily a converged one. -/
theorem compute_d_loop_result {k amp a2 b2 s d r : Nat} (h : computeDLoop k amp a2 b2 s d = .ok r) :
    (k = 0 ∧ r = d) ∨ ∃ prev, computeDStep amp a2 b2 s prev = .ok r :=
  computeDLoop_result k amp a2 b2 s d r h

/-- the Decimal256 solver `calculate_stableswap_d` only returns values that met its termination
    test: a Newton step from some `prev` with `|d − prev| ≤` one unit of the ask precision. -/
theorem d_solver_meets_tolerance {k op ap ann sum prec cur d : Nat}
    (h : ssDLoop k op ap ann sum prec cur = .ok d) :
    ∃ prev thr, ssDStep op ap ann sum prev = .ok d ∧ dec256WithPrecision 1 prec = .ok thr ∧
      d ≤ prev + thr ∧ prev ≤ d + thr :=
  ssDLoop_ok_close k op ap ann sum prec cur d h

/-- both 32-round solvers answer `ConvergeError` (never a stale value) when the rounds are used up -/
theorem solvers_give_up (op ap ann sum prec cur b c d y : Nat) :
    ssDLoop 0 op ap ann sum prec cur = .err ∧ ssYLoop 0 b c d y = .err := ⟨rfl, rfl⟩

/-- `D` is at or below the exact root `D*` of the invariant polynomial at reserves `(x, y)`:
    `Ann·(x+y) + D = Ann·D + D³/(4xy)`, cleared of the division (`f(D) ≤ 0`, `f` increasing). -/
def InvLe (x y ann D : Nat) : Prop := D ^ 3 + 4 * x * y * (ann - 1) * D ≤ 4 * x * y * ann * (x + y)
instance (x y ann D : Nat) : Decidable (InvLe x y ann D) := by unfold InvLe; infer_instance

/-- `Y` is at or below the exact curve point for the other reserve `x'` and invariant `D`. -/
def CurveLe (x' ann D Y : Nat) : Prop :=
  4 * x' * ann * Y ^ 2 + 4 * x' * (ann * x' + D) * Y ≤ D ^ 3 + 4 * x' * ann * D * Y
instance (x' ann D Y : Nat) : Decidable (CurveLe x' ann D Y) := by unfold CurveLe; infer_instance

/-- raw base units → 18-decimal normalised amount -/
def norm18 (v dec : Nat) : Nat := v * 10 ^ (18 - dec)

/-- the quantifier of the property for one swap -/
structure SwapDom (opool apool off : Nat) (f : Fees) (amp po pa : Nat) : Prop where
  decs : (po, pa) ∈ [(6, 6), (6, 8), (8, 6), (6, 18), (18, 6), (4, 5)]
  amp1 : Gen.PAIR_MIN_AMP ≤ amp
  ampM : amp ≤ Gen.PAIR_MAX_AMP
  fees : f.valid = true
  op1 : 10 ^ po ≤ opool
  ap1 : 10 ^ pa ≤ apool
  off1 : 1 ≤ off
  opM : opool < 2 ^ 100
  apM : apool < 2 ^ 100
  offM : off < 2 ^ 100

/-- Clause 1 (NOT proved — needs the solvers' closeness to the exact root; tested by the harness
    with `k = 3`): after a swap the ask reserve net of the gross output, `y`, is not below the exact
    curve point by more than `k` ask base units, the same `k` units being allowed on the invariant
    ("scaled by the curve's local slope"): for every `D ≤ D*` and every `Y ≤ Y*(D − k·U)`,
    `Y − k·U ≤ y·U`, `U` = one ask base unit at 18 decimals. -/
def SwapNotBelowCurve (k : Nat) : Prop :=
  ∀ opool apool off f amp po pa c, SwapDom opool apool off f amp po pa →
    ssSwap opool apool off f amp po pa = .ok c →
    ∀ D Y, InvLe (norm18 opool po) (norm18 apool pa) (2 * amp) D →
      CurveLe (norm18 opool po + norm18 off po) (2 * amp) (D - k * 10 ^ (18 - pa)) Y →
      Y - k * 10 ^ (18 - pa) ≤
        (apool - (c.ret + c.swapFee + c.protFee + c.burnFee)) * 10 ^ (18 - pa)

/-- Clause 2: proceeds do not decrease when the offer grows. -/
def ProceedsMonotone : Prop :=
  ∀ opool apool off off' f amp po pa c c', SwapDom opool apool off f amp po pa → off ≤ off' →
    ssSwap opool apool off f amp po pa = .ok c → ssSwap opool apool off' f amp po pa = .ok c' →
    c.ret ≤ c'.ret

/-- Clause 2 **fails on the current tree, by one or two base units**: the three fees are floored
    separately, so `gross − Σ⌊shareᵢ·gross⌋` steps down when two fees tick over together.
    Witness (also run on the real `compute_swap`, recorded as finding C03-fee-floor-nonmonotone):
    reserves 1000263/1000263 (6,6 decimals), amp 1, protocol fee 1 %, burn fee 0.1 %:
    offer 999 → proceeds 990, offer 1000 → proceeds 989. -/
theorem proceeds_monotone_fails_on_current : ¬ ProceedsMonotone := by
  intro h
  have := h 1000263 1000263 999 1000 { prot := 10000000000000000, swap := 0, burn := 1000000000000000 } 1 6 6
    { ret := 990, spread := 0, swapFee := 0, protFee := 9, burnFee := 0 }
    { ret := 989, spread := 0, swapFee := 0, protFee := 10, burnFee := 1 }
    ⟨by decide +kernel, by decide +kernel, by decide +kernel, by decide +kernel, by decide +kernel, by decide +kernel, by decide +kernel, by decide +kernel, by decide +kernel, by decide +kernel⟩
    (by decide +kernel) (by decide +kernel) (by decide +kernel)
  exact absurd this (by decide +kernel)

/-- What holds instead (`_partial`: in terms of the gross output, whose own monotonicity in the offer
    rests on the unproved solver accuracy): between two swaps on the same pool, if the gross output
    did not fall then the proceeds fall by at most 2 base units. -/
theorem proceeds_monotone_partial {opool apool off off' : Nat} {f : Fees} {amp po pa : Nat}
    {c c' : SwapComp} (hf : f.valid = true)
    (h : ssSwap opool apool off f amp po pa = .ok c)
    (h' : ssSwap opool apool off' f amp po pa = .ok c')
    (hg : c.ret + c.swapFee + c.protFee + c.burnFee ≤ c'.ret + c'.swapFee + c'.protFee + c'.burnFee) :
    c.ret ≤ c'.ret + 2 := by
  obtain ⟨_, _, _, y, -, -, -, -, -, hs, e1, e2, e3⟩ := ssSwap_inv h
  obtain ⟨_, _, _, y', -, -, -, -, -, hs', e1', e2', e3'⟩ := ssSwap_inv h'
  rw [hs, hs'] at hg
  rw [e1, e2, e3] at hs
  rw [e1', e2', e3'] at hs'
  exact proceeds_mono_upto_two hg (le_of_lt (Fees.sum_lt_one hf)) hs hs'

/-- states of the pool state machine reachable by some history of provide / swap / withdraw / collect -/
def Reachable (cfg : SsCfg) (s : SsSt) : Prop :=
  ∃ balA balB ops, s = ssReach cfg (ssInit balA balB) ops

/-- Clause 3 (NOT proved for the exact invariant; `lp_mint_le` is its counterpart for the code's own
    raw-amount `D`): a deposit does not lower the exact invariant (of the decimal-normalised reserves)
    per LP token by more than `dust`: every `D ≤ D*_before` satisfies
    `(D − dust)·S_after ≤ D'·S_before` for some `D' ≤ D*_after`. -/
def InvariantPerLpOnDeposit (dust : Nat) : Prop :=
  ∀ (cfg : SsCfg) (s s1 : SsSt) (u a b : Nat), cfg.dec0 ≤ 18 → cfg.dec1 ≤ 18 → Reachable cfg s →
    0 < s.sup → ssProvide cfg s u a b = .ok s1 →
    ∀ D, InvLe (norm18 s.r0 cfg.dec0) (norm18 s.r1 cfg.dec1) (2 * cfg.amp) D →
      ∃ D', InvLe (norm18 s1.r0 cfg.dec0) (norm18 s1.r1 cfg.dec1) (2 * cfg.amp) D' ∧
        (D - dust) * s1.sup ≤ D' * s.sup

/-- Clause 4: deposit-then-withdraw never returns more value than was deposited — depositing and at
    once withdrawing the LP just minted leaves the pool (same LP supply as before) with an exact
    invariant not lower than before by more than `dust` (18-decimal units): every `D ≤ D*_before`
    has `D − dust ≤ D*_after`. -/
def DepositWithdrawNoValue (dust : Nat) : Prop :=
  ∀ (cfg : SsCfg) (s s1 s2 : SsSt) (u a b : Nat), cfg.dec0 ≤ 18 → cfg.dec1 ≤ 18 → Reachable cfg s →
    0 < s.sup → ssProvide cfg s u a b = .ok s1 →
    ssWithdraw cfg s1 u ((s1.user u).lp - (s.user u).lp) = .ok s2 →
    ∀ D, InvLe (norm18 s.r0 cfg.dec0) (norm18 s.r1 cfg.dec1) (2 * cfg.amp) D →
      InvLe (norm18 s2.r0 cfg.dec0) (norm18 s2.r1 cfg.dec1) (2 * cfg.amp) (D - dust)

/-- The full property C03 (dust: 3 base units for the swap clause; for the deposit clauses, here,
    a whole token — far more than any rounding). -/
def C03_full : Prop :=
  SwapNotBelowCurve 3 ∧ ProceedsMonotone ∧ InvariantPerLpOnDeposit (10 ^ 18) ∧
    DepositWithdrawNoValue (10 ^ 18)

/-! ### the known finding C03-lp-mint-raw-decimals, kernel-checked on the model -/

/-- pool (6, 18 decimals, amp 100, no fees) -/
def wCfg : SsCfg := { amp := 100, dec0 := 6, dec1 := 18, fees := { prot := 0, swap := 0, burn := 0 } }
/-- … seeded by user 0 with 10⁶ / 10⁶ whole tokens -/
def wS0 : SsSt :=
  ssReach wCfg (ssInit 10000000000000 10000000000000000000000000)
    [.provide 0 1000000000000 1000000000000000000000000]
/-- user 1 deposits 1 base unit of A and 10⁶ whole tokens of B … -/
def wS1 : SsSt := ssReach wCfg wS0 [.provide 1 1 1000000000000000000000000]
/-- … and withdraws the LP it was minted -/
def wS2 : SsSt := ssReach wCfg wS1 [.withdraw 1 ((wS1.user 1).lp - (wS0.user 1).lp)]

/-- the exact outputs of the model on the witness history — the same numbers the real contracts
    produce (replays/known/C03-lp-mint-raw-decimals.json): 545 220 541 663 904 324 674 LP minted;
    the depositor ends with +370 079.498643 A and −259 841.00271203113 B -/
example : (wS1.user 1).lp = 545220541663904324674 ∧ wS2.sup = wS0.sup ∧
    (wS2.user 1).a = (wS0.user 1).a + 370079498643 ∧
    (wS2.user 1).b + 259841002712031130000000 = (wS0.user 1).b := by decide +kernel

/-- **C03_fails_on_current** (known finding C03-lp-mint-raw-decimals, /verif/known_findings.json):
    on a pool whose two assets have different decimals the LP mint runs `compute_d` on raw amounts;
    the lopsided deposit + withdrawal above takes 111 405 whole tokens of invariant out of the pool
    (2 000 000 → 1 888 594.25 whole tokens at unchanged LP supply) — even with a dust allowance of
    1000 whole tokens. -/
theorem DepositWithdrawNoValue_fails_on_current : ¬ DepositWithdrawNoValue (1000 * 10 ^ 18) := by
  intro h
  -- one evaluation of the three states serves all five facts about them
  have w : 0 < wS0.sup ∧ ssProvide wCfg wS0 1 1 1000000000000000000000000 = .ok wS1 ∧
      ssWithdraw wCfg wS1 1 ((wS1.user 1).lp - (wS0.user 1).lp) = .ok wS2 ∧
      InvLe (norm18 wS0.r0 6) (norm18 wS0.r1 18) (2 * 100) (2000000 * 10 ^ 18) ∧
      ¬ InvLe (norm18 wS2.r0 6) (norm18 wS2.r1 18) (2 * 100)
        (2000000 * 10 ^ 18 - 1000 * 10 ^ 18) := by
    decide +kernel
  exact w.2.2.2.2 (h wCfg wS0 wS1 wS2 1 1 _ (by decide) (by decide) ⟨_, _, _, rfl⟩ w.1 w.2.1
    w.2.2.1 _ w.2.2.2.1)

/-- `InvLe` is downward closed in `D` -/
theorem InvLe_mono {x y ann A B : Nat} (hAB : A ≤ B) (h : InvLe x y ann B) : InvLe x y ann A := by
  unfold InvLe at *
  have h3 : A ^ 3 ≤ B ^ 3 := Nat.pow_le_pow_left hAB 3
  have h4 := Nat.mul_le_mul_left (4 * x * y * (ann - 1)) hAB
  omega

theorem C03_fails_on_current : ¬ C03_full := by
  intro h
  apply DepositWithdrawNoValue_fails_on_current
  intro cfg s s1 s2 u a b h0 h1 hr hs hp hw D hD
  exact InvLe_mono (by omega) (h.2.2.2 cfg s s1 s2 u a b h0 h1 hr hs hp hw D hD)

/-- Over every history of provide / swap / withdraw / collect from the empty pool (any initial user
    balances, any amp and fees, decimals ≤ 18): the pending protocol fees are always covered by the pair's
    balances (so the reported reserves `balance − pending` never underflow and every `checked_sub` of
    them succeeds) and the LP supply is exactly the pair's locked minimum plus the users' holdings. -/
theorem reach_solvent_and_lp_accounted {cfg : SsCfg} (hd0 : cfg.dec0 ≤ 18) (hd1 : cfg.dec1 ≤ 18)
    (balA balB : Nat) (ops : List SsOp) :
    let s := ssReach cfg (ssInit balA balB) ops
    s.pend0 ≤ s.bal0 ∧ s.pend1 ≤ s.bal1 ∧ s.sup = s.lpPair + lpSum s.users := by
  intro s
  have h := SsInv.reach cfg ops (ssInit balA balB) (SsInv.init balA balB)
  exact ⟨h.p0, h.p1, h.lp⟩

/-- `ss_le_reserve` along every history: in any reachable state a successful swap pays the trader,
    the protocol-fee ledger and the burn together no more than the reported ask reserve, and the
    reported ask reserve afterwards is exactly the old one minus those three. -/
theorem reach_swap_le_reserve {cfg : SsCfg} (hd0 : cfg.dec0 ≤ 18) (hd1 : cfg.dec1 ≤ 18)
    {s s' : SsSt} (hr : Reachable cfg s) {u off : Nat} (h : ssSwapOp cfg s u 0 off = .ok s') :
    ∃ c, ssSwap s.r0 s.r1 off cfg.fees cfg.amp cfg.dec0 cfg.dec1 = .ok c ∧
      c.ret + c.protFee + c.burnFee ≤ s.r1 ∧ s'.r1 = s.r1 - (c.ret + c.protFee + c.burnFee) ∧
      s'.r0 = s.r0 + off := by
  obtain ⟨l0, l1, -, -, -, c, hc⟩ := ssSwapOp_ok h
  obtain ⟨hc, e0, q0, e1, q1⟩ := (if_pos rfl).mp hc
  have hle := ssSwap_pay_le hc
  obtain ⟨hr1, -, -⟩ := res_after_pay rfl l1 hle
  refine ⟨c, hc, hle, ?_, ?_⟩
  · unfold SsSt.r1; rw [e1, q1]; exact hr1
  · unfold SsSt.r0; rw [e0, q0]; exact Nat.sub_add_comm l0

/-- a swap on a balanced (6,6) pool of 10⁶ whole tokens, amp 100, fees 0.1 % / 0.2 % / 0:
    offer 1 token → gross 1 000 000, fees 2000 + 1000, proceeds 997 000 -/
example : ssSwap 1000000000000 1000000000000 1000000
    { prot := 1000000000000000, swap := 2000000000000000, burn := 0 } 100 6 6
    = .ok { ret := 997000, spread := 0, swapFee := 2000, protFee := 1000, burnFee := 0 } := by decide +kernel

/-- the same pool seen through (18, 6) decimals: offer 1 whole 18-decimal token -/
example : (ssSwap 1000000000000000000000000 1000000000000 1000000000000000000
    { prot := 0, swap := 0, burn := 0 } 100 18 6).isOk = true := by decide +kernel

/-- `SwapDom` is inhabited by the first example's inputs -/
example : SwapDom 1000000000000 1000000000000 1000000
    { prot := 1000000000000000, swap := 2000000000000000, burn := 0 } 100 6 6 :=
  ⟨by decide +kernel, by decide +kernel, by decide +kernel, by decide +kernel, by decide +kernel, by decide +kernel, by decide +kernel, by decide +kernel, by decide +kernel, by decide +kernel⟩

/-- `compute_d` and the LP mint on raw amounts -/
example : computeD 100 1000000 2000000 = .ok 2998146 ∧
    ssLpMint 100 5 7 1000000 2000000 3000000 = .ok (some 12) := by decide +kernel

/-- a reachable live pool (hypotheses of `provide_code_invariant_per_lp` and of clauses 3/4) -/
example : Reachable wCfg wS0 ∧ wS0.sup ≠ 0 ∧ (ssProvide wCfg wS0 1 1 1000000000000000000000000).isOk = true :=
  ⟨⟨_, _, _, rfl⟩, by decide +kernel, by decide +kernel⟩

end WW.C03
