/- C11 `helper_keeps_nothing`: the helper deposit message by message (`WW.Model.HelperReentry`). What each of the four
   messages does to the helper's balances; on the ledger the reply is one transfer of the helper's whole LP balance
   to the contract, so the helper is left with no LP and with its other balances unchanged. -/
import WW.Model.HelperReentry
import WW.Proofs.Ledger
import WW.Proofs.Res
namespace WW.Inc
open WW WW.Gen

/-- the two branches of the reply's position message -/
theorem replyPos_funds {c : Cfg} {s s' : St} {e : Env} {amount dur : Nat} {u : Addr} {has : Bool} {msgs : List Msg}
    (h : (if has then expandPosition c s e amount dur (some u) else openPosition c s e amount dur (some u)) = .ok (s', msgs)) :
    s'.bal = s.bal ∧ s'.flows = s.flows ∧ validateFunds c e amount = .ok msgs := by
  split at h
  · obtain ⟨_, _, _, _, rfl, hv, -⟩ := expandPosition_ok rfl h
    exact ⟨rfl, rfl, hv⟩
  · obtain ⟨_, rfl, hv, -⟩ := openPosition_ok rfl h
    exact ⟨rfl, rfl, hv⟩

/-- the plain helper deposit is `hdPull`, `hdPair`, `hdMint`, `hdReply` in a row, with the depositor's own
    `TEMP_STATE` -/
theorem helperDeposit_phases (c : Cfg) (s : St) (e : Env) (a0 a1 dur : Nat) :
    helperDeposit c s e a0 a1 dur = helperDepositP c s e a0 a1 dur := by
  unfold helperDeposit helperDepositP hdPull hdPair hdMint hdReply
  -- once the binds are nested the same way the sides differ by `pure x >>= f`, which computes
  simp only [Res.bind_assoc']
  rfl

theorem hdPull_spec {c : Cfg} {s s' : St} {e : Env} {a1 : Nat} (h : hdPull c s e a1 = .ok s') :
    ∃ b, s' = { s with bal := b } ∧ aget (allowOf c e.offers) 3 = a1
      ∧ applyMsgs c s.bal (allowOf c e.offers) [.pull e.sender HELPER 3 a1] = .ok b := by
  simp only [hdPull, Res.bind_eq_ok, guardErr_eq_ok, decide_eq_true_eq, Res.pure_eq, Res.ok.injEq] at h
  obtain ⟨-, hg, b, hb, rfl⟩ := h
  exact ⟨b, rfl, hg, hb⟩

theorem hdPair_spec {c : Cfg} {s s' : St} {e : Env} {a0 a1 lp : Nat} (h : hdPair c s e a0 a1 = .ok (s', lp)) :
    ∃ b1 b, s' = { s with bal := b } ∧ lp = a0 + a1 ∧ lp ≠ 0
      ∧ attachFunds c s.bal HELPER PAIR (fundsOf c e.offers) = .ok b1
      ∧ applyMsgs c b1 [(3, a1)] [.pull HELPER PAIR 3 a1] = .ok b := by
  simp only [hdPair, Res.bind_eq_ok, guardErr_eq_ok, cadd_eq_ok, decide_eq_true_eq, Res.pure_eq, Res.ok.injEq,
    Prod.mk.injEq] at h
  obtain ⟨b1, hb1, -, -, _, ⟨-, rfl⟩, -, hne, b, hb, rfl, rfl⟩ := h
  exact ⟨b1, b, rfl, rfl, hne, hb1, hb⟩

theorem hdMint_spec {c : Cfg} {s s' : St} {lp : Nat} (h : hdMint c s lp = .ok s') :
    ∃ b, s' = { s with bal := b } ∧ applyMsgs c s.bal [] [.send PAIR HELPER 0 lp] = .ok b := by
  simp only [hdMint, Res.bind_eq_ok, Res.pure_eq, Res.ok.injEq] at h
  obtain ⟨b, hb, rfl⟩ := h
  exact ⟨b, rfl, hb⟩

/-- what the reply consists of: (native LP) the helper's whole LP balance attached, the position message for
    `u` / `dur` with that amount sent by the helper, its messages applied -/
theorem hdReply_spec {c : Cfg} {s s' : St} {e : Env} {u : Addr} {dur : Nat} (h : hdReply c s e u dur = .ok s') :
    ∃ b2 s3 msgs b3,
      (if c.native 0 then attachFunds c s.bal HELPER INC [(0, aget s.bal (HELPER, 0))] else pure s.bal) = .ok b2
      ∧ (if (openOf s u).any (fun p => p.dur = dur)
          then expandPosition c { s with bal := b2 } { e with sender := HELPER, offers := [(0, aget s.bal (HELPER, 0))] }
                 (aget s.bal (HELPER, 0)) dur (some u)
          else openPosition c { s with bal := b2 } { e with sender := HELPER, offers := [(0, aget s.bal (HELPER, 0))] }
                 (aget s.bal (HELPER, 0)) dur (some u)) = .ok (s3, msgs)
      ∧ applyMsgs c s3.bal (allowOf c [(0, aget s.bal (HELPER, 0))]) msgs = .ok b3
      ∧ s' = { s3 with bal := b3 } := by
  simp only [hdReply, Res.bind_eq_ok, Res.pure_eq, Res.ok.injEq] at h
  obtain ⟨-, -, b2, hb2, ⟨s3, msgs⟩, h3, b3, hb3, rfl⟩ := h
  exact ⟨b2, s3, msgs, b3, hb2, h3, hb3, rfl⟩

/-- `t` is `s` with another ledger: what the depositor's funds and the first three messages do -/
def LedgerOnly (s t : St) : Prop := ∃ b, t = { s with bal := b }

theorem LedgerOnly.trans {s t u : St} (h1 : LedgerOnly s t) (h2 : LedgerOnly t u) : LedgerOnly s u := by
  obtain ⟨b1, rfl⟩ := h1
  obtain ⟨b2, rfl⟩ := h2
  exact ⟨b2, rfl⟩

theorem LedgerOnly.openPos {s t : St} (h : LedgerOnly s t) : t.openPos = s.openPos := by
  obtain ⟨b, rfl⟩ := h; rfl

theorem LedgerOnly.closedPos {s t : St} (h : LedgerOnly s t) : t.closedPos = s.closedPos := by
  obtain ⟨b, rfl⟩ := h; rfl

theorem LedgerOnly.flows {s t : St} (h : LedgerOnly s t) : t.flows = s.flows := by
  obtain ⟨b, rfl⟩ := h; rfl

theorem hdPull_ledgerOnly {c : Cfg} {s s' : St} {e : Env} {a1 : Nat} (h : hdPull c s e a1 = .ok s') :
    LedgerOnly s s' :=
  (hdPull_spec h).imp fun _ h => h.1

theorem hdPair_ledgerOnly {c : Cfg} {s s' : St} {e : Env} {a0 a1 lp : Nat} (h : hdPair c s e a0 a1 = .ok (s', lp)) :
    LedgerOnly s s' := by
  obtain ⟨-, b, hs', -⟩ := hdPair_spec h
  exact ⟨b, hs'⟩

theorem hdMint_ledgerOnly {c : Cfg} {s s' : St} {lp : Nat} (h : hdMint c s lp = .ok s') : LedgerOnly s s' :=
  (hdMint_spec h).imp fun _ h => h.1

/-- a helper deposit as the helper's own four messages (what the contract sees of it is `step_ok`) -/
theorem step_helperDeposit_iff {c : Cfg} {s s' : St} {e : Env} {a0 a1 dur : Nat} :
    step c s e (.helperDeposit a0 a1 dur) = .ok s' ↔
      ∃ b, attachFunds c s.bal e.sender HELPER (fundsOf c e.offers) = .ok b
        ∧ ∃ s1, hdPull c { s with bal := b } e a1 = .ok s1 ∧ ∃ s2 lp, hdPair c s1 e a0 a1 = .ok (s2, lp)
        ∧ ∃ s3, hdMint c s2 lp = .ok s3 ∧ hdReply c s3 e e.sender dur = .ok s' := by
  simp only [step, helperDeposit_phases, helperDepositP, Res.bind_eq_ok, Prod.exists]

theorem applyMsgs_one {c : Cfg} {b b' : Bal} {al : List (Nat × Nat)} {m : Msg} (X : Addr) (a : Nat)
    (h : applyMsgs c b al [m] = .ok b') : aget b' (X, a) + msgOut X a m = aget b (X, a) + msgIn X a m :=
  applyMsgs_eff X a _ _ _ _ h

/-- a single native coin attached, seen from account `X` in asset `a`: one transfer -/
theorem attachFunds_one {c : Cfg} {b b' : Bal} {x y : Addr} {a' v : Nat} (hn : c.native a' = true) (X : Addr) (a : Nat)
    (h : attachFunds c b x y [(a', v)] = .ok b') :
    aget b' (X, a) + msgOut X a (.send x y a' v) = aget b (X, a) + msgIn X a (.send x y a' v) := by
  simp only [attachFunds, hn, if_true] at h
  split at h
  · cases h
  · cases h; exact moveBal_eff X a (by omega)

theorem attach_helper {c : Cfg} {s : St} {e : Env} {b : Bal} (hs : e.sender ≠ HELPER)
    (hb : attachFunds c s.bal e.sender HELPER (fundsOf c e.offers) = .ok b) (a : Nat) :
    balOf { s with bal := b } HELPER a = balOf s HELPER a + att c a (fundsOf c e.offers) := by
  have t0 := attachFunds_eff (x := e.sender) (y := HELPER) HELPER a _ _ _ hb
  rw [if_neg (fun hh => hs hh.1), if_pos ⟨rfl, hs⟩] at t0
  exact t0

theorem hdPull_helper {c : Cfg} {s s' : St} {e : Env} {a1 : Nat} (h : hdPull c s e a1 = .ok s')
    (hs : e.sender ≠ HELPER) (a : Nat) : balOf s' HELPER a = balOf s HELPER a + (if a = 3 then a1 else 0) := by
  obtain ⟨b, rfl, -, hb⟩ := hdPull_spec h
  simpa [balOf, msgIn, msgOut, hs, @eq_comm _ 3 a] using applyMsgs_one HELPER a hb

theorem hdPair_helper {c : Cfg} {s s' : St} {e : Env} {a0 a1 lp : Nat} (h : hdPair c s e a0 a1 = .ok (s', lp)) (a : Nat) :
    balOf s' HELPER a + att c a (fundsOf c e.offers) + (if a = 3 then a1 else 0) = balOf s HELPER a := by
  obtain ⟨b1, b, rfl, -, -, hb1, hb⟩ := hdPair_spec h
  have t1 := attachFunds_eff (x := HELPER) (y := PAIR) HELPER a _ _ _ hb1
  have t := applyMsgs_one HELPER a hb
  simp [msgIn, msgOut, pair_ne_helper, @eq_comm _ 3 a] at t1 t
  simp only [balOf]
  omega

theorem hdMint_helper {c : Cfg} {s s' : St} {lp : Nat} (h : hdMint c s lp = .ok s') (a : Nat) :
    balOf s' HELPER a = balOf s HELPER a + (if a = 0 then lp else 0) := by
  obtain ⟨b, rfl, hb⟩ := hdMint_spec h
  simpa [balOf, msgIn, msgOut, pair_ne_helper, @eq_comm _ 0 a] using applyMsgs_one HELPER a hb

/-- **the reply on the ledger**: whatever the kind of the LP asset (attached as funds, or pulled by the contract),
    it is one transfer of the helper's whole LP balance from the helper to the contract -/
theorem hdReply_ledger {c : Cfg} {s s' : St} {e : Env} {u : Addr} {dur : Nat} (h : hdReply c s e u dur = .ok s')
    (X : Addr) (a : Nat) :
    balOf s' X a + msgOut X a (.send HELPER INC 0 (balOf s HELPER 0))
      = balOf s X a + msgIn X a (.send HELPER INC 0 (balOf s HELPER 0)) := by
  obtain ⟨b2, s3, msgs, b3, hb2, h3, hb3, rfl⟩ := hdReply_spec h
  obtain ⟨hbal3, -, hv⟩ := replyPos_funds h3
  rw [hbal3] at hb3
  obtain ⟨-, ⟨hn, -, rfl⟩ | ⟨hn, -, rfl⟩⟩ := validateFunds_spec hv
  · rw [if_pos hn] at hb2
    cases hb3
    exact attachFunds_one hn X a hb2
  · rw [if_neg (by simp [hn])] at hb2
    cases hb2
    have t := applyMsgs_one X a hb3
    exact t

theorem hdReply_helper {c : Cfg} {s s' : St} {e : Env} {u : Addr} {dur : Nat} (h : hdReply c s e u dur = .ok s') (a : Nat) :
    balOf s' HELPER a = (if a = 0 then 0 else balOf s HELPER a) := by
  have t := hdReply_ledger h HELPER a
  simp [msgIn, msgOut, inc_ne_helper, @eq_comm _ 0 a] at t
  split <;> simp_all

/-- a plain helper deposit up to its reply: only the ledger has moved, and what came to the helper with the
    depositor's funds and the first message went on to the pair with the second; the LP minted is all that stays -/
theorem step_helperDeposit_reply {c : Cfg} {s s' : St} {e : Env} {a0 a1 dur : Nat} (hs : e.sender ≠ HELPER)
    (h : step c s e (.helperDeposit a0 a1 dur) = .ok s') :
    ∃ t, LedgerOnly s t ∧ (∀ a, balOf t HELPER a = balOf s HELPER a + (if a = 0 then a0 + a1 else 0))
      ∧ hdReply c t e e.sender dur = .ok s' := by
  obtain ⟨b, hb, s1, h1, s2, lp, h2, s3, h3, h4⟩ := step_helperDeposit_iff.mp h
  refine ⟨s3, ((LedgerOnly.trans ⟨b, rfl⟩ (hdPull_ledgerOnly h1)).trans (hdPair_ledgerOnly h2)).trans
    (hdMint_ledgerOnly h3), fun a => ?_, h4⟩
  have p0 := attach_helper (s := s) hs hb a
  have p1 := hdPull_helper h1 hs a
  have p2 := hdPair_helper h2 a
  have p3 := hdMint_helper h3 a
  obtain ⟨-, -, -, rfl, -⟩ := hdPair_spec h2
  omega

theorem step_helper_keeps_nothing {c : Cfg} {s s' : St} {e : Env} {a0 a1 dur : Nat} (hs : e.sender ≠ HELPER)
    (h : step c s e (.helperDeposit a0 a1 dur) = .ok s') :
    balOf s' HELPER 0 = 0 ∧ ∀ a, a ≠ 0 → balOf s' HELPER a = balOf s HELPER a := by
  obtain ⟨t, -, hrow, h4⟩ := step_helperDeposit_reply hs h
  refine ⟨by simpa using hdReply_helper h4 0, fun a ha => ?_⟩
  rw [hdReply_helper h4 a, if_neg ha, hrow a, if_neg ha]
  rfl

end WW.Inc
