/- What one message does to the ledger, the funds checks of the position and flow handlers in closed form,
   and `close_flow` and `withdraw` as whole transactions without attached funds (C11, C12). -/
import WW.Proofs.Incentive
namespace WW.Inc
open WW WW.Gen

theorem moveBal_dst {b : Bal} {src dst : Addr} {a amt : Nat} (h : src ≠ dst) :
    aget (moveBal b src dst a amt) (dst, a) = aget b (dst, a) + amt := by
  unfold moveBal
  simp only
  rw [aget_aset_same]
  have : (dst, a) ≠ (src, a) := fun he => h (by injection he with h1 _; exact h1.symm)
  rw [aget_aset_other _ _ this]

theorem moveBal_src {b : Bal} {src dst : Addr} {a amt : Nat} (h : src ≠ dst) :
    aget (moveBal b src dst a amt) (src, a) = aget b (src, a) - amt := by
  unfold moveBal
  simp only
  have : (src, a) ≠ (dst, a) := fun he => h (by injection he with h1 _)
  rw [aget_aset_other _ _ this, aget_aset_same]

theorem moveBal_other {b : Bal} {src dst : Addr} {a amt : Nat} {k : Addr × Nat}
    (h1 : k ≠ (src, a)) (h2 : k ≠ (dst, a)) : aget (moveBal b src dst a amt) k = aget b k := by
  unfold moveBal
  simp only
  rw [aget_aset_other _ _ h2, aget_aset_other _ _ h1]

/-- a message that goes through moves its amount, which the source had -/
theorem applyMsg_ok {c : Cfg} {b b' : Bal} {al al' : List (Nat × Nat)} {m : Msg}
    (h : applyMsg c b al m = .ok (b', al')) :
    ∃ src dst a amt, (m = .send src dst a amt ∨ m = .pull src dst a amt)
      ∧ b' = moveBal b src dst a amt ∧ amt ≤ aget b (src, a) := by
  cases m with
  | send src dst a amt =>
    simp only [applyMsg, Res.ite_eq_ok, reduceCtorEq, and_false, false_or, Res.ok.injEq, Prod.mk.injEq,
      Nat.not_lt] at h
    rcases h with ⟨-, -, hle, rfl, -⟩ | ⟨-, -, hle, rfl, -⟩
    · exact ⟨src, dst, a, amt, Or.inl rfl, rfl, hle⟩
    · exact ⟨src, dst, a, amt, Or.inl rfl, rfl, hle⟩
  | pull src dst a amt =>
    unfold applyMsg at h
    dsimp only at h
    split at h
    · cases h
    · split at h
      · cases h
      · simp only [Res.ite_eq_ok, reduceCtorEq, and_false, false_or, Res.ok.injEq, Prod.mk.injEq,
          Nat.not_lt] at h
        obtain ⟨-, hle, rfl, -⟩ := h
        exact ⟨src, dst, a, amt, Or.inr rfl, rfl, hle⟩

theorem applyMsgs_send {c : Cfg} {b b' : Bal} {allow : List (Nat × Nat)} {src dst : Addr} {a amt : Nat}
    (h : applyMsgs c b allow [.send src dst a amt] = .ok b') : b' = moveBal b src dst a amt ∧ amt ≤ aget b (src, a) := by
  unfold applyMsgs at h
  split at h
  · rename_i b1 al heq
    cases h
    obtain ⟨_, _, _, _, hm | hm, hb, hle⟩ := applyMsg_ok heq <;> cases hm
    exact ⟨hb, hle⟩
  · cases h
  · cases h

/-- a transaction without offers: nothing is attached, the handler runs on the state as it is -/
theorem step_no_offers {c : Cfg} {s s' : St} {e : Env} {op : Op} (hoff : e.offers = [])
    (hop : ∀ a0 a1 dur, op ≠ .helperDeposit a0 a1 dur) (h : step c s e op = .ok s') :
    ∃ s1 msgs b1, handler c s e op = .ok (s1, msgs) ∧ applyMsgs c s1.bal [] msgs = .ok b1
      ∧ s' = { s1 with bal := b1 } := by
  obtain ⟨_, _, b, s1, msgs, b1, hc, h1, hb1, rfl⟩ := step_ok h
  cases hc with
  | self _ _ hb =>
    rw [hoff] at hb hb1
    cases hb
    exact ⟨s1, msgs, b1, h1, hb1, rfl⟩
  | helperOpen a0 a1 dur => exact absurd rfl (hop a0 a1 dur)
  | helperExpand a0 a1 dur => exact absurd rfl (hop a0 a1 dur)

/-- `close_flow` as a whole transaction (no funds attached) -/
theorem step_closeFlow {c : Cfg} {s s' : St} {e : Env} {id : Nat} (hoff : e.offers = [])
    (h : step c s e (.closeFlow id) = .ok s') :
    ∃ f, findFlow s.flows id = some f ∧ (f.creator = e.sender ∨ e.sender = OWNER)
      ∧ findFlow s'.flows id = none
      ∧ (f.creator ≠ INC →
          balOf s' f.creator f.asset = balOf s f.creator f.asset + (f.funded - f.claimed)
          ∧ balOf s' INC f.asset + (f.funded - f.claimed) = balOf s INC f.asset) := by
  obtain ⟨s1, msgs, b1, h1, hb1, rfl⟩ := step_no_offers hoff (fun _ _ _ => Op.noConfusion) h
  obtain ⟨f, rfl, hf, hauth, rfl⟩ := closeFlow_ok h1
  refine ⟨f, hf, hauth, findFlow_removeFlow _ _, fun hne => ?_⟩
  obtain ⟨rfl, hle⟩ := applyMsgs_send hb1
  simp only [balOf]
  rw [moveBal_dst (Ne.symm hne), moveBal_src (Ne.symm hne)]
  exact ⟨rfl, by simp only at hle; omega⟩

theorem closedOf_aset_same (s : St) (r : Addr) (ps : List ClosedPos) :
    closedOf { s with closedPos := aset s.closedPos r ps } r = ps := by
  simp [closedOf, alook_aset_same]

theorem closedOf_aset_other (s : St) {r u : Addr} (ps : List ClosedPos) (h : u ≠ r) :
    closedOf { s with closedPos := aset s.closedPos r ps } u = closedOf s u := by
  simp [closedOf, alook_aset_other _ _ h]

/-- `withdraw` as a whole transaction (no funds attached): the sender gets exactly the sum of the
    sender's closed positions out of the contract's LP balance, the sender's closed positions are gone,
    nobody else's positions or LP balance move -/
theorem step_withdraw {c : Cfg} {s s' : St} {e : Env} (hoff : e.offers = []) (hne : e.sender ≠ INC)
    (h : step c s e .withdraw = .ok s') :
    balOf s' e.sender 0 = balOf s e.sender 0 + closedSum (closedOf s e.sender)
    ∧ balOf s' INC 0 + closedSum (closedOf s e.sender) = balOf s INC 0
    ∧ closedOf s' e.sender = []
    ∧ (∀ v, v ≠ e.sender → closedOf s' v = closedOf s v)
    ∧ (∀ v, openOf s' v = openOf s v)
    ∧ (∀ v, v ≠ e.sender → v ≠ INC → balOf s' v 0 = balOf s v 0) := by
  obtain ⟨s1, msgs, b1, h1, hb1, rfl⟩ := step_no_offers hoff (fun _ _ _ => Op.noConfusion) h
  obtain ⟨rfl, -, rfl⟩ := withdrawOp_ok h1
  simp only [balOf]
  split at hb1
  · rename_i h0
    cases hb1
    rw [h0]
    exact ⟨rfl, rfl, closedOf_aset_same s _ _, fun v hv => closedOf_aset_other s _ hv, fun v => rfl,
      fun _ _ _ => rfl⟩
  · obtain ⟨rfl, hle⟩ := applyMsgs_send hb1
    refine ⟨moveBal_dst (Ne.symm hne), ?_, closedOf_aset_same s _ _, fun v hv => closedOf_aset_other s _ hv,
      fun v => rfl, fun v hv1 hv2 =>
        moveBal_other (fun he => hv2 (Prod.mk.inj he).1) (fun he => hv1 (Prod.mk.inj he).1)⟩
    rw [moveBal_src (Ne.symm hne)]
    simp only at hle ⊢
    omega

/-! ### the funds checks of `open_position` / `expand_position` and of `expand_flow`, in closed form -/

/-- `must_pay`: exactly one coin, of the stated denom, not zero -/
theorem mustPay_eq_ok {funds : List (Nat × Nat)} {a v : Nat} :
    mustPay funds a = .ok v ↔ funds = [(a, v)] ∧ v ≠ 0 := by
  unfold mustPay
  split
  · rename_i d w
    by_cases hw : w = 0
    · subst hw; simp; rintro - rfl; rfl
    · by_cases hd : d = a
      · subst hd; simp [hw]; rintro rfl; exact hw
      · simp [hw, hd]
  · rename_i hne
    simp only [reduceCtorEq, false_iff, not_and]
    intro hf; exact absurd hf (hne _ _)

theorem validateFunds_spec {c : Cfg} {e : Env} {amount : Nat} {m : List Msg} (h : validateFunds c e amount = .ok m) :
    amount ≠ 0 ∧ ((c.native 0 = true ∧ fundsOf c e.offers = [(0, amount)] ∧ m = [])
      ∨ (c.native 0 = false ∧ amount ≤ aget (allowOf c e.offers) 0 ∧ m = [.pull e.sender INC 0 amount])) := by
  simp only [validateFunds, Res.ite_eq_ok, reduceCtorEq, and_false, false_or, Res.bind_eq_ok, mustPay_eq_ok,
    Res.pure_eq, Res.ok.injEq, not_not, Nat.not_lt, Bool.not_eq_true] at h
  obtain ⟨h0, ⟨hn, paid, ⟨hf, -⟩, rfl, rfl⟩ | ⟨hn, hal, rfl⟩⟩ := h
  · exact ⟨h0, Or.inl ⟨hn, hf, rfl⟩⟩
  · exact ⟨h0, Or.inr ⟨hn, hal, rfl⟩⟩

/-- the funds part of `expand_flow` (after the repair): a cw20 expansion pulls exactly `amount` from the
    sender, a native one requires exactly `amount` of the denom (and nothing else) attached -/
theorem expandFlowFunds_spec {c : Cfg} {e : Env} {a amount : Nat} {m : List Msg}
    (h : expandFlowFunds c e a amount = .ok m) :
    (c.native a = true ∧ fundsOf c e.offers = [(a, amount)] ∧ amount ≠ 0 ∧ m = [])
    ∨ (c.native a = false ∧ amount ≤ aget (allowOf c e.offers) a ∧ m = [.pull e.sender INC a amount]) := by
  unfold expandFlowFunds at h
  split at h
  · rename_i hn
    split at h
    · rename_i paid hp
      split at h
      · rename_i hpa
        cases h
        subst hpa
        exact Or.inl ⟨hn, (mustPay_eq_ok.mp hp).1, (mustPay_eq_ok.mp hp).2, rfl⟩
      · cases h
    · cases h
    · cases h
  · rename_i hn
    split at h
    · rename_i hal
      cases h
      exact Or.inr ⟨by simpa using hn, hal, rfl⟩
    · cases h

def openSum : List OpenPos → Nat
  | [] => 0
  | p :: t => p.amt + openSum t

theorem openSum_append (a b : List OpenPos) : openSum (a ++ b) = openSum a + openSum b := by
  induction a with
  | nil => exact (Nat.zero_add _).symm
  | cons p t ih =>
    show p.amt + openSum (t ++ b) = p.amt + openSum t + openSum b
    rw [ih, Nat.add_assoc]

end WW.Inc
