/- Sums over the flows and over the position maps of the incentive model, and the flow-list
   bookkeeping (`insertFlow` / `removeFlow` / `findFlow`) they need (C11, C12). -/
import WW.Proofs.Flows
namespace WW.Inc
open WW WW.Gen

/-- everything staked: the open and the closed positions of all addresses -/
def staked (s : St) : Nat := sumBy openSum s.openPos + sumBy closedSum s.closedPos

theorem closedSum_append (a b : List ClosedPos) : closedSum (a ++ b) = closedSum a + closedSum b := by
  induction a with
  | nil => exact (Nat.zero_add _).symm
  | cons p t ih =>
    show closedSum (t ++ b) + p.amt = closedSum t + p.amt + closedSum b
    rw [ih, Nat.add_right_comm]

/-- unclaimed funds of flow `f` if it is denominated in asset `a` -/
def contrib (a : Nat) (f : Flow) : Nat := if f.asset = a then f.funded - f.claimed else 0

/-- the flows' unclaimed funds ("flow funds") in asset `a` -/
def ffSum (a : Nat) : List Flow → Nat
  | [] => 0
  | f :: t => contrib a f + ffSum a t

theorem ffSum_eq (a : Nat) (l : List Flow) :
    ffSum a l = ((l.filter (fun f => f.asset = a)).map (fun f => f.funded - f.claimed)).sum := by
  induction l with
  | nil => rfl
  | cons f t ih =>
    by_cases h : f.asset = a
    · simp [ffSum, contrib, h, ih]
    · simp [ffSum, contrib, h, ih]

theorem ffSum_insertFlow (a : Nat) (f : Flow) (l : List Flow) :
    ffSum a (insertFlow f l) = contrib a f + ffSum a l := by
  induction l with
  | nil => rfl
  | cons g t ih =>
    unfold insertFlow
    split
    · rfl
    · show contrib a g + ffSum a (insertFlow f t) = contrib a f + (contrib a g + ffSum a t)
      rw [ih, Nat.add_left_comm]

/-- inserting in key order is inserting at the head, up to the order of the list -/
theorem insertFlow_perm (f : Flow) (l : List Flow) : (insertFlow f l).Perm (f :: l) := by
  induction l with
  | nil => exact .refl _
  | cons g t ih =>
    unfold insertFlow
    split
    · exact .refl _
    · exact (ih.cons g).trans (List.Perm.swap f g t)

theorem mem_insertFlow {f g : Flow} {l : List Flow} : g ∈ insertFlow f l ↔ g = f ∨ g ∈ l :=
  (insertFlow_perm f l).mem_iff.trans List.mem_cons

def flowIds (l : List Flow) : List Nat := l.map (·.id)

theorem nodup_insertFlow {f : Flow} {l : List Flow} (hn : (flowIds l).Nodup) (hf : f.id ∉ flowIds l) :
    (flowIds (insertFlow f l)).Nodup :=
  ((insertFlow_perm f l).map _).nodup_iff.mpr (List.nodup_cons.mpr ⟨hf, hn⟩)

theorem mem_removeFlow {g : Flow} {l : List Flow} {id : Nat} : g ∈ removeFlow l id ↔ g ∈ l ∧ g.id ≠ id := by
  unfold removeFlow
  simp [List.mem_filter]

theorem not_mem_flowIds_removeFlow (l : List Flow) (id : Nat) : id ∉ flowIds (removeFlow l id) := by
  unfold flowIds
  intro h
  obtain ⟨g, hg, hid⟩ := List.mem_map.mp h
  exact (mem_removeFlow.mp hg).2 hid

theorem nodup_removeFlow {l : List Flow} (id : Nat) (hn : (flowIds l).Nodup) :
    (flowIds (removeFlow l id)).Nodup :=
  hn.sublist (List.filter_sublist.map _)

theorem findFlow_mem {l : List Flow} {id : Nat} {f : Flow} (h : findFlow l id = some f) : f ∈ l ∧ f.id = id := by
  unfold findFlow at h
  exact ⟨List.mem_of_find?_eq_some h, by simpa using List.find?_some h⟩

theorem ffSum_filter_le (a : Nat) (p : Flow → Bool) (l : List Flow) : ffSum a (l.filter p) ≤ ffSum a l := by
  induction l with
  | nil => exact Nat.le_refl _
  | cons x t ih =>
    rw [List.filter_cons]
    split
    · exact Nat.add_le_add_left ih _
    · exact Nat.le_trans ih (Nat.le_add_left _ _)

/-- removing flow `id` (all flows carrying that id) takes at least the found flow's funds off the sum,
    and exactly those when the ids are distinct -/
theorem ffSum_removeFlow (a : Nat) {l : List Flow} {id : Nat} {f : Flow} (h : findFlow l id = some f) :
    ffSum a (removeFlow l id) + contrib a f ≤ ffSum a l
    ∧ ((flowIds l).Nodup → ffSum a (removeFlow l id) + contrib a f = ffSum a l) := by
  induction l with
  | nil => cases h
  | cons g t ih =>
    unfold findFlow at h
    unfold removeFlow
    by_cases hg : g.id = id
    · rw [List.find?_cons_of_pos (p := fun f : Flow => decide (f.id = id)) (decide_eq_true hg)] at h
      cases h
      rw [List.filter_cons_of_neg (p := fun f : Flow => decide (f.id ≠ id))
        (fun hh => of_decide_eq_true hh hg), Nat.add_comm]
      refine ⟨Nat.add_le_add_left (ffSum_filter_le a _ t) _, fun hn => ?_⟩
      -- no other flow carries the id
      have hall : t.filter (fun f => decide (f.id ≠ id)) = t :=
        List.filter_eq_self.mpr fun x hx => decide_eq_true fun he =>
          (List.nodup_cons.mp hn).1 (List.mem_map.mpr ⟨x, hx, he.trans hg.symm⟩)
      rw [hall]
      rfl
    · rw [List.find?_cons_of_neg (p := fun f : Flow => decide (f.id = id))
        (fun hh => hg (of_decide_eq_true hh))] at h
      rw [List.filter_cons_of_pos (p := fun f : Flow => decide (f.id ≠ id)) (decide_eq_true hg)]
      show contrib a g + ffSum a (removeFlow t id) + contrib a f ≤ contrib a g + ffSum a t
        ∧ (_ → contrib a g + ffSum a (removeFlow t id) + contrib a f = contrib a g + ffSum a t)
      rw [Nat.add_assoc]
      exact ⟨Nat.add_le_add_left (ih h).1 _, fun hn => by rw [(ih h).2 (List.nodup_cons.mp hn).2]⟩

theorem ffSum_removeFlow_le (a : Nat) {l : List Flow} {id : Nat} {f : Flow} (h : findFlow l id = some f) :
    ffSum a (removeFlow l id) + contrib a f ≤ ffSum a l :=
  (ffSum_removeFlow a h).1

theorem ffSum_removeFlow_eq (a : Nat) {l : List Flow} {id : Nat} {f : Flow} (hn : (flowIds l).Nodup)
    (h : findFlow l id = some f) : ffSum a (removeFlow l id) + contrib a f = ffSum a l :=
  (ffSum_removeFlow a h).2 hn

theorem findFlow_insertFlow {l : List Flow} {f : Flow} {id : Nat} (hl : ∀ g ∈ l, g.id ≠ id) (hf : f.id = id) :
    findFlow (insertFlow f l) id = some f := by
  induction l with
  | nil => simp [insertFlow, findFlow, hf]
  | cons g t ih =>
    unfold insertFlow
    split
    · unfold findFlow; rw [List.find?_cons_of_pos (by simpa using hf)]
    · have hg : g.id ≠ id := hl g List.mem_cons_self
      unfold findFlow
      rw [List.find?_cons_of_neg (by simpa using hg)]
      exact ih (fun x hx => hl x (List.mem_cons_of_mem _ hx))

end WW.Inc
