/- C13: the weight the claim loop uses. `earliest` semantics, the last-claimed / history invariant, the
   carried pair at the first iteration (`claimStart`) and through every iteration (after the repair the loop
   also reads the history for the epochs it skips before the flow's start). -/
import WW.Proofs.SharesHist
import WW.Proofs.Claim
namespace WW.Inc
open WW WW.Gen

/-- what the claim / rewards loops know about address `u` when they reach epoch `ep`, carrying
    `(last_epoch_user_weight_update, last_user_weight_seen) = (lu, ls)`: either an entry was seen at
    `lu < ep` and nothing is recorded strictly between `lu` and `ep`; or nothing is recorded before `ep`
    and `lu`, if non-zero, is the earliest entry (at or after `ep`) -/
def Carry (wh : List ((Addr × Nat) × Nat)) (u : Addr) (ep lu ls : Nat) : Prop :=
  (lu ≠ 0 ∧ lu < ep ∧ alook wh (u, lu) = some ls ∧ ∀ k, lu < k → k < ep → alook wh (u, k) = none)
  ∨ ((∀ k, k < ep → alook wh (u, k) = none)
      ∧ (lu ≠ 0 → ep ≤ lu ∧ alook wh (u, lu) = some ls ∧ ∀ k, k < lu → alook wh (u, k) = none))

theorem effW_carry {wh : List ((Addr × Nat) × Nat)} {u lu ls ep : Nat} (hlt : lu ≤ ep)
    (h1 : alook wh (u, lu) = some ls) (h2 : ∀ k, lu < k → k ≤ ep → alook wh (u, k) = none) :
    effW wh u ep = ls := by
  have : ep = lu + (ep - lu) := by omega
  rw [this, effW_extend (ep - lu) (fun k a b => h2 k a (by omega)), effW_top h1]

/-- an entry at `ep` becomes the carried pair -/
theorem Carry.found {wh : List ((Addr × Nat) × Nat)} {u ep w : Nat} (hep : ep ≠ 0)
    (hl : alook wh (u, ep) = some w) : Carry wh u (ep + 1) ep w :=
  .inl ⟨hep, Nat.lt_succ_self ep, hl, fun k a b => by omega⟩

/-- no entry at `ep`: the carried pair stays correct for `ep + 1` -/
theorem Carry.skip {wh : List ((Addr × Nat) × Nat)} {u ep lu ls : Nat} (hC : Carry wh u ep lu ls)
    (hl : alook wh (u, ep) = none) : Carry wh u (ep + 1) lu ls := by
  have hlast : ∀ k, k < ep + 1 → k < ep ∨ alook wh (u, k) = none :=
    fun k b => (Nat.lt_succ_iff_lt_or_eq.mp b).imp_right fun (hk : k = ep) => hk ▸ hl
  rcases hC with ⟨c1, c2, c3, c4⟩ | ⟨c1, c2⟩
  · exact .inl ⟨c1, by omega, c3, fun k a b => (hlast k b).elim (c4 k a) id⟩
  · refine .inr ⟨fun k b => (hlast k b).elim (c1 k) id, fun h0 => ?_⟩
    obtain ⟨d1, d2, d3⟩ := c2 h0
    refine ⟨?_, d2, d3⟩
    -- the earliest entry is not at `ep`, where nothing is recorded
    by_contra hcon
    rw [show lu = ep by omega, hl] at d2
    cases d2

/-- the pair carried into `ep + 1` says what the weight at `ep` is -/
theorem Carry.effW_prev {wh : List ((Addr × Nat) × Nat)} {u ep lu ls : Nat} (hC : Carry wh u (ep + 1) lu ls) :
    effW wh u ep = if lu ≠ 0 ∧ lu ≤ ep then ls else 0 := by
  rcases hC with ⟨c1, c2, c3, c4⟩ | ⟨c1, c2⟩
  · rw [if_pos ⟨c1, by omega⟩]
    exact effW_carry (by omega) c3 fun k a b => c4 k a (by omega)
  · rw [if_neg fun hc => by have := (c2 hc.1).1; omega]
    exact effW_none ep fun k hk => c1 k (by omega)

theorem weightAt_found {s : St} {u ep w : Nat} (lu ls : Nat) (hl : alook s.whist (u, ep) = some w) :
    weightAt s u ep lu ls = (ep, w, some w) := by
  unfold weightAt
  rw [hl]

theorem weightAt_skip {s : St} {u ep lu ls : Nat} (hl : alook s.whist (u, ep) = none) :
    weightAt s u ep lu ls = (lu, ls, if lu ≠ 0 ∧ lu ≤ ep then some ls else none) := by
  unfold weightAt
  rw [hl]
  by_cases hc : lu ≠ 0 ∧ lu ≤ ep
  · rw [if_pos hc, if_pos (by simpa using hc)]
  · rw [if_neg hc, if_neg (by simpa using hc)]

/-- one iteration of the epoch loop of `claim.rs` / `get_rewards.rs`: the weight it uses for epoch `ep`
    (`none` = epoch skipped = weight 0) is `effW … u ep`, and the carried pair stays correct -/
theorem weightAt_effW_of_zero {s : St} {u ep lu ls : Nat} (hz : ep = 0 → alook s.whist (u, 0) = none)
    (hC : Carry s.whist u ep lu ls) :
    (weightAt s u ep lu ls).2.2.getD 0 = effW s.whist u ep
    ∧ Carry s.whist u (ep + 1) (weightAt s u ep lu ls).1 (weightAt s u ep lu ls).2.1 := by
  cases hl : alook s.whist (u, ep) with
  | some w =>
    rw [weightAt_found lu ls hl]
    exact ⟨(effW_top hl).symm, .found (fun h0 => by rw [h0, hz h0] at hl; cases hl) hl⟩
  | none =>
    have hC' := hC.skip hl
    rw [weightAt_skip hl]
    refine ⟨?_, hC'⟩
    rw [hC'.effW_prev]
    split
    · rfl
    · rfl

/-- from epoch 1 on, the condition at epoch 0 is void -/
theorem weightAt_effW {s : St} {u ep lu ls : Nat} (hep : 1 ≤ ep) (hC : Carry s.whist u ep lu ls) :
    (weightAt s u ep lu ls).2.2.getD 0 = effW s.whist u ep
    ∧ Carry s.whist u (ep + 1) (weightAt s u ep lu ls).1 (weightAt s u ep lu ls).2.1 :=
  weightAt_effW_of_zero (fun h0 => by omega) hC

/-- the fold step of the model's `earliest`: keep the entry of `u` with the smallest epoch -/
def estep (u : Addr) (acc : Option (Nat × Nat)) (p : (Addr × Nat) × Nat) : Option (Nat × Nat) :=
  if p.1.1 = u then
    match acc with
    | none => some (p.1.2, p.2)
    | some q => if p.1.2 < q.1 then some (p.1.2, p.2) else acc
  else acc

theorem earliest_eq_foldl (wh : List ((Addr × Nat) × Nat)) (u : Addr) : earliest wh u = wh.foldl (estep u) none := rfl

theorem estep_other {u a : Addr} (acc : Option (Nat × Nat)) (b v : Nat) (ha : a ≠ u) :
    estep u acc ((a, b), v) = acc := by
  simp [estep, ha]

/-- an entry of `u` replaces the accumulator when it is strictly earlier, else the accumulator stays -/
theorem estep_self (u : Addr) (acc : Option (Nat × Nat)) (b v : Nat) :
    (estep u acc ((u, b), v) = some (b, v) ∧ ∀ q, acc = some q → b < q.1)
    ∨ (estep u acc ((u, b), v) = acc ∧ ∃ q, acc = some q ∧ q.1 ≤ b) := by
  cases acc with
  | none => exact .inl ⟨by simp [estep], fun q hq => by cases hq⟩
  | some q =>
    by_cases hbq : b < q.1
    · exact .inl ⟨by simp [estep, hbq], fun q' hq' => by cases hq'; exact hbq⟩
    · exact .inr ⟨by simp [estep, hbq], q, rfl, by omega⟩

/-- the invariant of the fold in `earliest`: the accumulator is the entry of `u` with the smallest epoch among
    the entries read so far (none if there is none) -/
structure EarliestOf (u : Addr) (l : List ((Addr × Nat) × Nat)) (acc : Option (Nat × Nat)) : Prop where
  empty : acc = none → ∀ k, alook l (u, k) = none
  least : ∀ k w, acc = some (k, w) → alook l (u, k) = some w ∧ ∀ k', k' < k → alook l (u, k') = none

theorem EarliestOf.init (u : Addr) : EarliestOf u [] none :=
  ⟨fun _ _ => rfl, fun _ _ h => by cases h⟩

theorem EarliestOf.step {u : Addr} {l : List ((Addr × Nat) × Nat)} {acc : Option (Nat × Nat)}
    (h : EarliestOf u l acc) (p : (Addr × Nat) × Nat) : EarliestOf u (l ++ [p]) (estep u acc p) := by
  obtain ⟨⟨a, b⟩, v⟩ := p
  by_cases ha : a = u
  · subst ha
    have hlook : ∀ k, alook (l ++ [((a, b), v)]) (a, k) = (alook l (a, k)).or (if b = k then some v else none) := by
      intro k
      rw [alook_snoc]
      simp only [Prod.mk.injEq, true_and]
    rcases estep_self a acc b v with ⟨hs, hlt⟩ | ⟨hs, q, rfl, hqb⟩
    · -- the new entry is the earliest: nothing read before lies at or below its epoch
      have hn : ∀ k, k ≤ b → alook l (a, k) = none := by
        intro k hk
        cases acc with
        | none => exact h.empty rfl k
        | some q => exact (h.least q.1 q.2 rfl).2 k (Nat.lt_of_le_of_lt hk (hlt q rfl))
      rw [hs]
      refine ⟨nofun, fun k w hk => ?_⟩
      cases hk
      refine ⟨by rw [hlook, hn b (Nat.le_refl b), Option.none_or, if_pos rfl], fun k' hk' => ?_⟩
      rw [hlook, hn k' (Nat.le_of_lt hk'), Option.none_or, if_neg (by omega)]
    · rw [hs]
      refine ⟨nofun, fun k w hk => ?_⟩
      obtain ⟨hq, hbefore⟩ := h.least k w hk
      cases hk
      refine ⟨by rw [hlook, hq, Option.some_or], fun k' hk' => ?_⟩
      rw [hlook, hbefore k' hk', Option.none_or, if_neg (by omega)]
  · have hlook : ∀ k, alook (l ++ [((a, b), v)]) (u, k) = alook l (u, k) := by
      intro k
      rw [alook_snoc, if_neg (fun he => ha (by injection he)), Option.or_none]
    rw [estep_other acc b v ha]
    refine ⟨fun h0 k => ?_, fun k w hk => ?_⟩
    · rw [hlook]; exact h.empty h0 k
    · simp only [hlook]; exact h.least k w hk

theorem EarliestOf.foldl {u : Addr} : ∀ (t l : List ((Addr × Nat) × Nat)) (acc : Option (Nat × Nat)),
    EarliestOf u l acc → EarliestOf u (l ++ t) (t.foldl (estep u) acc) := by
  intro t
  induction t with
  | nil => intro l acc h; rwa [List.append_nil]
  | cons p t ih =>
    intro l acc h
    have := ih (l ++ [p]) (estep u acc p) (h.step p)
    rwa [List.append_assoc] at this

/-- `get_earliest_available_weight_snapshot_for_user`: no entry at all, or the entry with the smallest epoch -/
theorem earliest_spec (wh : List ((Addr × Nat) × Nat)) (u : Addr) :
    (earliest wh u = none → ∀ k, alook wh (u, k) = none)
    ∧ (∀ k w, earliest wh u = some (k, w) → alook wh (u, k) = some w ∧ ∀ k', k' < k → alook wh (u, k') = none) := by
  have h := EarliestOf.foldl wh [] none (.init u)
  rw [earliest_eq_foldl]
  exact ⟨h.empty, h.least⟩

theorem step_claim_whist {c : Cfg} {s s' : St} {e : Env} (h : step c s e .claim = .ok s') :
    s'.whist = aset (s.whist.filter (fun p => p.1.1 ≠ e.sender)) (e.sender, e.epoch + 1) (aget s.addrW e.sender) := by
  obtain ⟨_, _, b, s1, msgs, b1, hc, h1, _, rfl⟩ := step_ok h
  cases hc
  obtain ⟨_, rfl, _⟩ := claimCore_ok (claimExec_ok h1).2
  rfl

/-- last-claimed / history invariant: a recorded last-claimed epoch is not in the future and the address has
    no history entry at or before it; nobody has an entry for epoch 0 -/
structure LCI (s : St) (cur : Nat) : Prop where
  le : ∀ u l, alook s.lastClaimed u = some l → l ≤ cur
  gone : ∀ u l, alook s.lastClaimed u = some l → ∀ k, k ≤ l → alook s.whist (u, k) = none
  zero : ∀ u, alook s.whist (u, 0) = none

theorem LCI.adv {s : St} {cur e : Nat} (h : LCI s cur) (hle : cur ≤ e) : LCI s e :=
  ⟨fun u l hl => Nat.le_trans (h.le u l hl) hle, h.gone, h.zero⟩

/-- a transaction records nothing at or before the current epoch -/
theorem step_whist_none {c : Cfg} {s s' : St} {e : Env} {op : Op} {u k : Nat} (h : step c s e op = .ok s')
    (hk : k ≤ e.epoch) (hn : alook s.whist (u, k) = none) : alook s'.whist (u, k) = none := by
  rcases step_weff h with ⟨_, h2, _⟩ | ⟨_, _, h2, _⟩ | ⟨_, r, x, _, h3⟩ | ⟨_, _, _, _, v, h4⟩
  · rw [h2]; exact hn
  · rw [h2]; exact hn
  · rw [h3, alook_aset_other _ _ (fun he => by injection he with _ h2; omega)]; exact hn
  · rw [h4]
    by_cases hu : u = v
    · subst hu; exact alook_claim_self _ _ _ _ (by omega)
    · rw [alook_claim_other _ _ _ _ hu]; exact hn

theorem step_LCI {c : Cfg} {s s' : St} {e : Env} {op : Op} (hI : LCI s e.epoch) (h : step c s e op = .ok s') :
    LCI s' e.epoch := by
  -- a last-claimed record is an old one, or the claimer's: the current epoch, its history cleared up to there
  have hlc : ∀ u l, alook s'.lastClaimed u = some l →
      alook s.lastClaimed u = some l ∨ (l = e.epoch ∧ ∀ k, k ≤ l → alook s'.whist (u, k) = none) := by
    intro u l hl
    by_cases hc : op = .claim ∧ e.sender = u
    · obtain ⟨rfl, rfl⟩ := hc
      rw [step_claim_records h] at hl
      injection hl with hl
      refine .inr ⟨hl.symm, fun k hk => ?_⟩
      rw [step_claim_whist h]
      exact alook_claim_self _ _ _ _ (by omega)
    · rw [step_lastClaimed u hc h] at hl
      exact .inl hl
  refine ⟨fun u l hl => ?_, fun u l hl k hk => ?_, fun u => step_whist_none h (Nat.zero_le _) (hI.zero u)⟩
  · rcases hlc u l hl with h0 | ⟨h1, _⟩
    · exact hI.le u l h0
    · exact Nat.le_of_eq h1
  · rcases hlc u l hl with h0 | ⟨_, h1⟩
    · exact step_whist_none h (Nat.le_trans hk (hI.le u l h0)) (hI.gone u l h0 k hk)
    · exact h1 k hk

theorem init_LCI (e0 : Nat) (bal : Bal) : LCI (init e0 bal) e0 :=
  ⟨fun u l hl => (by cases hl), fun u l hl => (by cases hl), fun u => rfl⟩

theorem reach_LCI {c : Cfg} :
    ∀ (ops : List (Env × Op)) (s : St) (ep : Nat), LCI s ep → EpochsFrom ep ops → ∃ ep', LCI (reach c s ops) ep' :=
  fun ops s ep hI hep =>
    (reach_keeps_from (P := LCI) LCI.adv step_LCI [] ops s ep hI (by rwa [List.append_nil])).imp fun _ h => h.1

/-- the earliest entry `(lu, ls)` of `u` may be carried from any epoch at or before `lu` -/
theorem Carry.earliest {wh : List ((Addr × Nat) × Nat)} {u ep lu ls : Nat} (hle : ep ≤ lu)
    (hl : alook wh (u, lu) = some ls) (hbefore : ∀ k, k < lu → alook wh (u, k) = none) : Carry wh u ep lu ls :=
  .inr ⟨fun k hk => hbefore k (Nat.lt_of_lt_of_le hk hle), fun _ => ⟨hle, hl, hbefore⟩⟩

/-- the pair `claim` / `get_rewards` start a flow's loop with is correct for the first claimable epoch -/
theorem claimStart_carry {s : St} {cur : Nat} (hI : LCI s cur) (u : Addr) (f : Flow) :
    Carry s.whist u (claimStart s u f).1 (claimStart s u f).2.1 (claimStart s u f).2.2 := by
  obtain ⟨e1, e2⟩ := earliest_spec s.whist u
  unfold claimStart
  cases he : earliest s.whist u with
  | none => exact .inr ⟨fun k _ => e1 he k, fun h0 => absurd rfl h0⟩
  | some p =>
    obtain ⟨lu, ls⟩ := p
    obtain ⟨hl, hbefore⟩ := e2 lu ls he
    refine .earliest ?_ hl hbefore
    simp only [Option.getD_some]
    cases hlc : alook s.lastClaimed u with
    | some l =>
      -- the history up to the last claim is gone, so the earliest entry lies after it
      simp only
      by_contra hc
      rw [hI.gone u l hlc lu (by omega)] at hl
      cases hl
    | none =>
      simp only
      split
      · exact Nat.le_refl lu
      · omega

theorem ClaimLoop.pay_carry (st : ClaimLoop) (u r : Nat) :
    (st.pay u r).lastUpd = st.lastUpd ∧ (st.pay u r).lastSeen = st.lastSeen := by
  unfold ClaimLoop.pay
  split <;> exact ⟨rfl, rfl⟩

/-- an iteration of `claim.rs` that goes on hands on the pair `weightAt` computed, also when the epoch lies
    before the flow's start and is skipped: the repaired loop still reads the history entry of that epoch -/
theorem claimEpoch_next {s : St} {u expAmt expEnd ep : Nat} {st st' : ClaimLoop}
    (h : claimEpoch s u expAmt expEnd st ep = .ok (.next st')) :
    st'.lastUpd = (weightAt s u ep st.lastUpd st.lastSeen).1
    ∧ st'.lastSeen = (weightAt s u ep st.lastUpd st.lastSeen).2.1 := by
  obtain ⟨em, lu, ls, reward, hi, -, -, hw⟩ := claimEpoch_ok h
  obtain ⟨rfl, rfl⟩ := hw st' rfl
  have hi : st' = _ := hi
  subst hi
  exact ClaimLoop.pay_carry _ u reward

theorem rewardsEpoch_next {s : St} {u expAmt expEnd ep : Nat} {f : Flow} {rt rt' : RewLoop}
    (h : rewardsEpoch s u f expAmt expEnd rt ep = .ok (.next rt')) :
    rt'.lastUpd = (weightAt s u ep rt.lastUpd rt.lastSeen).1
    ∧ rt'.lastSeen = (weightAt s u ep rt.lastUpd rt.lastSeen).2.1 := by
  unfold rewardsEpoch at h
  simp only [] at h
  split at h
  · cases h; exact ⟨rfl, rfl⟩
  · split at h
    · cases h
    · split at h
      · split at h
        · cases h; exact ⟨rfl, rfl⟩
        · obtain ⟨_, hi⟩ := rewardsAdd_ok h
          cases hi; exact ⟨rfl, rfl⟩
      · cases h
      · cases h

theorem claimEpoch_carry {s : St} {u expAmt expEnd ep : Nat} {st st' : ClaimLoop}
    (hz : alook s.whist (u, 0) = none) (hC : Carry s.whist u ep st.lastUpd st.lastSeen)
    (h : claimEpoch s u expAmt expEnd st ep = .ok (.next st')) :
    Carry s.whist u (ep + 1) st'.lastUpd st'.lastSeen := by
  obtain ⟨h1, h2⟩ := claimEpoch_next h
  rw [h1, h2]
  exact (weightAt_effW_of_zero (fun _ => hz) hC).2

theorem rewardsEpoch_carry {s : St} {u expAmt expEnd ep : Nat} {f : Flow} {rt rt' : RewLoop}
    (hz : alook s.whist (u, 0) = none) (hC : Carry s.whist u ep rt.lastUpd rt.lastSeen)
    (h : rewardsEpoch s u f expAmt expEnd rt ep = .ok (.next rt')) :
    Carry s.whist u (ep + 1) rt'.lastUpd rt'.lastSeen := by
  obtain ⟨h1, h2⟩ := rewardsEpoch_next h
  rw [h1, h2]
  exact (weightAt_effW_of_zero (fun _ => hz) hC).2

/-- every iteration the claim loop reaches from `(ep, st)` uses `effW … u ·` as the address weight -/
def LoopReadsEffW (s : St) (u : Addr) (expAmt expEnd : Nat) : Nat → Nat → ClaimLoop → Prop
  | 0, _, _ => True
  | n + 1, ep, st =>
    (weightAt s u ep st.lastUpd st.lastSeen).2.2.getD 0 = effW s.whist u ep
    ∧ ∀ st', claimEpoch s u expAmt expEnd st ep = .ok (.next st') → LoopReadsEffW s u expAmt expEnd n (ep + 1) st'

theorem loop_reads_effW {s : St} {u expAmt expEnd : Nat} (hz : alook s.whist (u, 0) = none) :
    ∀ (n ep : Nat) (st : ClaimLoop), Carry s.whist u ep st.lastUpd st.lastSeen →
      LoopReadsEffW s u expAmt expEnd n ep st := by
  intro n
  induction n with
  | zero => intro _ _ _; trivial
  | succ n ih =>
    intro ep st hC
    refine ⟨(weightAt_effW_of_zero (fun _ => hz) hC).1, ?_⟩
    intro st' h
    exact ih (ep + 1) st' (claimEpoch_carry hz hC h)

/-- … and so does every iteration of the rewards-query loop -/
def QueryReadsEffW (s : St) (u : Addr) (f : Flow) (expAmt expEnd : Nat) : Nat → Nat → RewLoop → Prop
  | 0, _, _ => True
  | n + 1, ep, rt =>
    (weightAt s u ep rt.lastUpd rt.lastSeen).2.2.getD 0 = effW s.whist u ep
    ∧ ∀ rt', rewardsEpoch s u f expAmt expEnd rt ep = .ok (.next rt') → QueryReadsEffW s u f expAmt expEnd n (ep + 1) rt'

theorem query_reads_effW {s : St} {u : Addr} {f : Flow} {expAmt expEnd : Nat} (hz : alook s.whist (u, 0) = none) :
    ∀ (n ep : Nat) (rt : RewLoop), Carry s.whist u ep rt.lastUpd rt.lastSeen →
      QueryReadsEffW s u f expAmt expEnd n ep rt := by
  intro n
  induction n with
  | zero => intro _ _ _; trivial
  | succ n ih =>
    intro ep rt hC
    refine ⟨(weightAt_effW_of_zero (fun _ => hz) hC).1, ?_⟩
    intro rt' h
    exact ih (ep + 1) rt' (rewardsEpoch_carry hz hC h)

end WW.Inc
