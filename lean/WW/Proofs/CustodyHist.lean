/- C11: the custody equation through one transaction and through every history. -/
import WW.Proofs.Custody
namespace WW.Inc
open WW WW.Gen

/-- custody invariant: LP balance = staked + LP-asset flows' unclaimed funds + `K` (everything counted as
    stray so far, plus whatever the contract held at instantiation) -/
structure CInv (s : St) (ep : Nat) (K : Nat) : Prop where
  winv : WInv s
  finv : FInv s
  hist : HistLe s ep
  creators : CreatorsOk s
  bal : balOf s INC 0 = owed s 0 + K

theorem CInv.mono {s : St} {ep ep' K : Nat} (h : CInv s ep K) (hle : ep ≤ ep') : CInv s ep' K :=
  ⟨h.winv, h.finv, h.hist.mono hle, h.creators, h.bal⟩

theorem run_custody {c : Cfg} {s s1 : St} {e : Env} {msgs : List Msg} {b0 b b1 : Bal} {al : List (Nat × Nat)}
    {K stray : Nat}
    (hB : aget b0 (INC, 0) = owed s 0 + K)
    (hatt : aget b (INC, 0) = aget b0 (INC, 0) + att c 0 (fundsOf c e.offers))
    (hbal : s1.bal = b)
    (heq : owed s1 0 + outsOf INC 0 msgs + stray = owed s 0 + att c 0 (fundsOf c e.offers) + insOf INC 0 msgs)
    (hmsg : applyMsgs c s1.bal al msgs = .ok b1) : aget b1 (INC, 0) = owed s1 0 + (K + stray) := by
  have h1 := applyMsgs_eff INC 0 msgs _ _ _ hmsg
  rw [hbal] at h1
  omega

theorem step_custody {c : Cfg} {s s' : St} {e : Env} {op : Op} {K : Nat} (hI : CInv s e.epoch K)
    (hs : e.sender ≠ INC) (hn : (keysOf e.offers).Nodup) (h : step c s e op = .ok s') :
    CInv s' e.epoch (K + strayOf c e op) := by
  have hW' := step_WInv hI.winv h
  obtain ⟨e', op', b, s1, msgs, b1, hc, h1, hb1, rfl⟩ := step_ok h
  have hok := handler_ok (hI.winv.with_bal b) (hI.finv.with_bal b) h1
  have hcu := handler_custody (hI.winv.with_bal b) (hI.finv.with_bal b) h1
  rw [hc.stray] at hcu
  have hs' := hc.sender hs
  have hH : HistLe ({ s with bal := b } : St) e'.epoch := by rw [hc.epoch]; exact hI.hist
  have hH' := hcu.hist hH
  rw [hc.epoch] at hH'
  have hfin := run_custody (s := s) (s1 := s1) (b0 := s.bal) (b := b) (K := K) hI.bal (hc.arrives hs 0) hok.bal
    (hcu.eq0 hs' (hc.offers hn) hH hI.creators) hb1
  exact ⟨hW', hok.finv.with_bal b1, hH', hcu.creators hs' hI.creators, hfin⟩

/-- coins attached to a call have distinct denoms (and allowances distinct tokens) -/
def OffersOk (ops : List (Env × Op)) : Prop := ∀ p ∈ ops, (keysOf p.1.offers).Nodup

/-- LP-denom funds kept without being asked for, summed over the successful operations of a history -/
def keptLp (c : Cfg) : St → List (Env × Op) → Nat
  | _, [] => 0
  | s, p :: t =>
    (match step c s p.1 p.2 with
      | .ok _ => strayOf c p.1 p.2
      | _ => 0) + keptLp c (stepOrStay c s p.1 p.2) t

theorem reach_custody {c : Cfg} :
    ∀ (ops : List (Env × Op)) (s : St) (ep K : Nat), CInv s ep K → SendersOk ops → OffersOk ops →
      EpochsFrom ep ops → ∃ ep', CInv (reach c s ops) ep' (K + keptLp c s ops) := by
  intro ops
  induction ops with
  | nil => intro s ep K hI _ _ _; exact ⟨ep, hI⟩
  | cons p t ih =>
    intro s ep K hI hso hof hep
    obtain ⟨e, op⟩ := p
    have hs : e.sender ≠ INC := hso (e, op) List.mem_cons_self
    have hn : (keysOf e.offers).Nodup := hof (e, op) List.mem_cons_self
    have hso' : SendersOk t := fun q hq => hso q (List.mem_cons_of_mem _ hq)
    have hof' : OffersOk t := fun q hq => hof q (List.mem_cons_of_mem _ hq)
    obtain ⟨hle, hep'⟩ := hep
    simp only at hle hep'
    have hI' := hI.mono hle
    show ∃ ep', CInv (reach c (stepOrStay c s e op) t) ep' (K + keptLp c s ((e, op) :: t))
    unfold keptLp stepOrStay
    simp only
    cases hstep : step c s e op with
    | ok s' =>
      simp only
      have := ih s' e.epoch _ (step_custody hI' hs hn hstep) hso' hof' hep'
      rw [Nat.add_assoc] at this
      exact this
    | err =>
      simp only
      have := ih s e.epoch K hI' hso' hof' hep'
      rw [Nat.zero_add]; exact this
    | panic =>
      simp only
      have := ih s e.epoch K hI' hso' hof' hep'
      rw [Nat.zero_add]; exact this

theorem init_CInv (e0 : Nat) (bal : Bal) : CInv (init e0 bal) e0 (balOf (init e0 bal) INC 0) := by
  refine ⟨init_WInv e0 bal, init_FInv e0 bal, ?_, ?_, ?_⟩
  · intro f hf; cases hf
  · intro f hf; cases hf
  · have : owed (init e0 bal) 0 = 0 := by
      unfold owed init staked
      simp [ffSum, sumBy]
    rw [this]; omega

theorem step_HistLe {c : Cfg} {s s' : St} {e : Env} {op : Op} (hW : WInv s) (hF : FInv s)
    (hH : HistLe s e.epoch) (h : step c s e op = .ok s') : HistLe s' e.epoch := by
  obtain ⟨e', op', b, s1, msgs, b1, hc, h1, _, rfl⟩ := step_ok h
  have := (handler_custody (hW.with_bal b) (hF.with_bal b) h1).hist (by rw [hc.epoch]; exact hH)
  rw [hc.epoch] at this
  exact this

theorem reach_HistLe {c : Cfg} (e : Env) (op : Op) :
    ∀ (ops : List (Env × Op)) (s : St) (ep : Nat), WInv s → FInv s → HistLe s ep →
      EpochsFrom ep (ops ++ [(e, op)]) → HistLe (reach c s ops) e.epoch := by
  intro ops s ep hW hF hH hep
  obtain ⟨ep', h, hle, -⟩ := reach_keeps_from (P := fun s ep => WInv s ∧ FInv s ∧ HistLe s ep)
    (fun h hle => ⟨h.1, h.2.1, h.2.2.mono hle⟩)
    (fun h hs => ⟨step_WInv h.1 hs, step_FInv h.1 h.2.1 hs, step_HistLe h.1 h.2.1 h.2.2 hs⟩)
    [(e, op)] ops s ep ⟨hW, hF, hH⟩ hep
  exact h.2.2.mono hle

end WW.Inc
