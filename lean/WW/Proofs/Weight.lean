/- Closed form of `calcWeight` on the property's domain and the monotonicity facts behind C13's
   pure clauses. -/
import WW.Model.Weight
import WW.Proofs.Basic
namespace WW
open WW.Gen

/-- the `Decimal256` multiplier `a·d² + b·d + c` exactly as the Rust rounds it (atomics, 18 decimals) -/
def wMul (d : Nat) : Nat :=
  (d * E18 * (d * E18) / E18 * E18 / E18) * INCENTIVE_WEIGHT_SQ_COEFF / E18 * E18 / INCENTIVE_WEIGHT_SQ_DENOM
  + (d * E18) * INCENTIVE_WEIGHT_LIN_COEFF / E18 * E18 / INCENTIVE_WEIGHT_LIN_DENOM
  + INCENTIVE_WEIGHT_CONST_NUM * E18 / INCENTIVE_WEIGHT_CONST_DEN

/-- the weight before clamping: `⌊⌊amount·10¹⁸ · mult / 10¹⁸⌋ / 10¹⁸⌋` -/
def wRaw (d amt : Nat) : Nat := amt * E18 * wMul d / E18 / E18

theorem div_mono_num {a b c : Nat} (h : a ≤ b) : a / c ≤ b / c := Nat.div_le_div_right h

/-- scaling by a ratio of at most one does not increase -/
theorem mul_div_le_self {x k c : Nat} (h : k ≤ c) : x * k / c ≤ x :=
  Nat.div_le_of_le_mul (Nat.mul_comm c x ▸ Nat.mul_le_mul_left x h)

theorem wMul_mono {d1 d2 : Nat} (h : d1 ≤ d2) : wMul d1 ≤ wMul d2 := by
  unfold wMul
  have hdd : d1 * E18 ≤ d2 * E18 := Nat.mul_le_mul_right _ h
  have h1 : d1 * E18 * (d1 * E18) ≤ d2 * E18 * (d2 * E18) := Nat.mul_le_mul hdd hdd
  have h2 := div_mono_num (c := E18) h1
  have h3 := div_mono_num (c := E18) (Nat.mul_le_mul_right E18 h2)
  have h4 := div_mono_num (c := E18) (Nat.mul_le_mul_right INCENTIVE_WEIGHT_SQ_COEFF h3)
  have h5 := div_mono_num (c := INCENTIVE_WEIGHT_SQ_DENOM) (Nat.mul_le_mul_right E18 h4)
  have h6 := div_mono_num (c := E18) (Nat.mul_le_mul_right INCENTIVE_WEIGHT_LIN_COEFF hdd)
  have h7 := div_mono_num (c := INCENTIVE_WEIGHT_LIN_DENOM) (Nat.mul_le_mul_right E18 h6)
  exact Nat.add_le_add_right (Nat.add_le_add h5 h7) _

theorem wRaw_mono_amount {d a1 a2 : Nat} (h : a1 ≤ a2) : wRaw d a1 ≤ wRaw d a2 := by
  unfold wRaw
  exact div_mono_num (div_mono_num (Nat.mul_le_mul_right _ (Nat.mul_le_mul_right _ h)))

theorem wRaw_mono_duration {d1 d2 a : Nat} (h : d1 ≤ d2) : wRaw d1 a ≤ wRaw d2 a := by
  unfold wRaw
  exact div_mono_num (div_mono_num (Nat.mul_le_mul_left _ (wMul_mono h)))

/-- duration in the range accepted by `calculate_weight` -/
def DurOk (d : Nat) : Prop := INCENTIVE_WEIGHT_MIN_DURATION ≤ d ∧ d ≤ INCENTIVE_WEIGHT_MAX_DURATION

/- the closed constants the no-overflow argument needs: the largest duration in atomics fits 128 bits
   (fD); the coefficients `a`, `b` of `wMul` are applied as two ratios below one each (c1–c4) and the
   constant term fits (f7); the multiplier is at most 17 at the largest duration (f8), so the product of
   `amount · 10¹⁸` with it fits for a 128-bit amount (f10); the three denominators are not zero (n1–n3) -/
private theorem max_facts :
    INCENTIVE_WEIGHT_MAX_DURATION * E18 ≤ U128MAX
    ∧ INCENTIVE_WEIGHT_SQ_COEFF ≤ E18 ∧ E18 ≤ INCENTIVE_WEIGHT_SQ_DENOM
    ∧ INCENTIVE_WEIGHT_LIN_COEFF ≤ E18 ∧ E18 ≤ INCENTIVE_WEIGHT_LIN_DENOM
    ∧ INCENTIVE_WEIGHT_CONST_NUM * E18 / INCENTIVE_WEIGHT_CONST_DEN ≤ U256MAX
    ∧ wMul INCENTIVE_WEIGHT_MAX_DURATION ≤ 17 * E18
    ∧ U128MAX * E18 * (17 * E18) / E18 ≤ U256MAX
    ∧ INCENTIVE_WEIGHT_SQ_DENOM ≠ 0 ∧ INCENTIVE_WEIGHT_LIN_DENOM ≠ 0 ∧ INCENTIVE_WEIGHT_CONST_DEN ≠ 0 := by
  decide +kernel

theorem guardErr_true : guardErr true = .ok () := rfl
theorem guardErr_false : guardErr false = .err := rfl

theorem dmulC_ok {a b : Nat} (h : a * b / E18 ≤ U256MAX) : dmulC a b = .ok (a * b / E18) := by
  simp [dmulC, h]
theorem dmulP_ok {a b : Nat} (h : a * b / E18 ≤ U256MAX) : dmulP a b = .ok (a * b / E18) := by
  simp [dmulP, h]
theorem ddivC_ok {a b : Nat} (hb : b ≠ 0) (h : a * E18 / b ≤ U256MAX) : ddivC a b = .ok (a * E18 / b) :=
  mulRatioC_ok hb h

/-- **closed form**: for a duration in range and a `Uint128` amount the weight computation never
    panics; it is `max(amount, ⌊amount·mult⌋)` and fails (with an error) exactly when the unclamped
    value does not fit 128 bits. -/
theorem calcWeight_closed {d amt : Nat} (hd : DurOk d) (ha : amt ≤ U128MAX) :
    calcWeight d amt = if wRaw d amt ≤ U128MAX then .ok (max (wRaw d amt) amt) else .err := by
  obtain ⟨hmin, hmax⟩ := hd
  obtain ⟨fD, c1, c2, c3, c4, f7, f8, f10, n1, n2, n3⟩ := max_facts
  have hdd : d * E18 ≤ U128MAX := le_trans (Nat.mul_le_mul_right _ hmax) fD
  have b1 := u128_le_u256 hdd
  have b2 := u128_mul_E18_le_u256 ha
  -- the square of a 128-bit value fits; every later step of the two terms scales by a ratio below one
  have b3 : d * E18 * (d * E18) / E18 ≤ U256MAX :=
    le_trans (Nat.div_le_self _ _) (u128_mul_le_u256 hdd hdd)
  have b4 := le_trans (mul_div_le_self (le_refl E18)) b3
  have b5 := le_trans (mul_div_le_self c1) b4
  have b6 := le_trans (mul_div_le_self c2) b5
  have b7 := le_trans (mul_div_le_self c3) b1
  have b8 := le_trans (mul_div_le_self c4) b7
  -- the sums and the product with the amount: the multiplier is monotone in the duration
  have hK : wMul d ≤ 17 * E18 := le_trans (wMul_mono hmax) f8
  unfold wMul at hK
  have b10 := le_trans hK (by decide : 17 * E18 ≤ U256MAX)
  have b9 := le_trans (Nat.le_add_right _ _) b10
  have b11 := le_trans (div_mono_num (Nat.mul_le_mul (Nat.mul_le_mul_right E18 ha) hK)) f10
  unfold calcWeight
  rw [decide_eq_true hmin, decide_eq_true hmax, Bool.and_self, guardErr_true, Res.bind_ok,
    pmul_ok b1, Res.bind_ok, pmul_ok b2, Res.bind_ok, dmulC_ok b3, Res.bind_ok,
    dmulP_ok b4, Res.bind_ok, dmulC_ok b5, Res.bind_ok, ddivC_ok n1 b6, Res.bind_ok, dmulC_ok b7, Res.bind_ok,
    ddivC_ok n2 b8, Res.bind_ok, dec256FromRatio_ok n3 f7, Res.bind_ok, cadd_ok b9, Res.bind_ok,
    cadd_ok b10, Res.bind_ok, dmulC_ok b11, Res.bind_ok, cdiv_ok (Nat.pos_iff_ne_zero.mp E18_pos),
    Res.bind_ok]
  show (to128 (wRaw d amt) >>= fun w128 => pure (max w128 amt)) = _
  by_cases h : wRaw d amt ≤ U128MAX
  · rw [to128_ok h, Res.bind_ok, if_pos h]; rfl
  · rw [to128_err h, Res.bind_err, if_neg h]

theorem calcWeight_ok_eq {d amt w : Nat} (hd : DurOk d) (ha : amt ≤ U128MAX)
    (h : calcWeight d amt = .ok w) : w = max (wRaw d amt) amt ∧ wRaw d amt ≤ U128MAX := by
  rw [calcWeight_closed hd ha] at h
  split at h
  · injection h with h; exact ⟨h.symm, by assumption⟩
  · cases h

/-- outside the accepted range the function returns an error (never a panic) -/
theorem calcWeight_out_of_range {d amt : Nat} (hd : ¬ DurOk d) : calcWeight d amt = .err := by
  unfold calcWeight
  have hg : guardErr (decide (INCENTIVE_WEIGHT_MIN_DURATION ≤ d) && decide (d ≤ INCENTIVE_WEIGHT_MAX_DURATION)) = .err := by
    unfold DurOk at hd
    by_cases h1 : INCENTIVE_WEIGHT_MIN_DURATION ≤ d
    · have h2 : ¬ d ≤ INCENTIVE_WEIGHT_MAX_DURATION := fun h => hd ⟨h1, h⟩
      simp [guardErr, h1, h2]
    · simp [guardErr, h1]
  rw [hg]; rfl

end WW
