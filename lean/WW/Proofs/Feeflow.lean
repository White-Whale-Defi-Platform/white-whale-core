/- The joint machine `WW.Model.Feeflow`: every operation — with coins attached, inside a flash loan, with a hostile
   contract nesting another one into it — acts on the distributor's ledger state as a history of the distributor's own
   machine.  Core Lean only. (`fun_cases` arms are read as said at the head of `Proofs/Distributor.lean`.) -/
import WW.Model.Feeflow
import WW.Proofs.Distributor
import WW.Proofs.Res

namespace WW.Feeflow
open WW

theorem ofCode_ok {r : Nat} {s s' : St} (h : ofCode r s = .ok s') : s' = s := by
  unfold ofCode at h
  split at h
  · cases h; rfl
  · split at h <;> cases h

theorem newEpoch_eq_ok {cfg : Cfg} {s s' : St} {now : Nat} {router : Nat → Nat → Nat → Nat} {acc : Nat → Nat → Nat}
    {o : Collector.Out} :
    newEpoch cfg s now router acc = .ok (s', o) ↔
      ∃ id start d', Distributor.nextEpoch cfg.d s.d now = .ok (id, start) ∧
        Collector.forwardFees (ccfg cfg s) (cview s) cfg.c.distributor id router acc = .ok o ∧
        Distributor.receiveEpoch s.d id start o.inflow = .ok d' ∧
        s' = { s with d := d', c := o.st, daoBal := Collector.add s.daoBal s.d.dist o.take } := by
  constructor
  · fun_cases newEpoch cfg s now router acc with
    | case1 id start hn o1 hf d' hr => intro h; cases h; exact ⟨id, start, d', hn, hf, hr, rfl⟩
    | _ => nofun
  · rintro ⟨id, start, d', hn, hf, hr, rfl⟩
    simp only [newEpoch, hn, hf, hr]

/-- a `reenter` operation is the hooked run of `outer` where `outer` calls registered contracts, else plain `outer` -/
theorem step_reenter_ok {cfg : Cfg} {s s' : St} {trig : Trig} {caught : Bool}
    {hacc : Nat → Nat → Nat → List (Nat × Nat × Nat)} {inner outer : Op}
    (h : step cfg s (.reenter trig caught hacc inner outer) = .ok s') :
    (∃ hh, stepH cfg { trig := trig, caught := caught, clears := hasNewEpoch inner, run := fun s1 => step cfg s1 inner,
                       hacc := hacc } s outer = some (.ok hh) ∧ s' = hh.s) ∨
      step cfg s outer = .ok s' := by
  unfold step at h
  split at h
  · cases h; exact .inl ⟨_, ‹_›, rfl⟩
  · cases h
  · cases h
  · exact .inr h

/-- the swap execution failed in the real transaction: the operation goes through iff it sent no swap message -/
theorem step_xfail_eq_ok {cfg : Cfg} {s s' : St} {code : Nat} {op : Op} :
    step cfg s (.xfail code op) = .ok s' ↔ step cfg s op = .ok s' ∧ sendsSwaps cfg s op = false := by
  rw [step]
  cases step cfg s op with
  | ok s1 =>
    cases hsw : sendsSwaps cfg s op
    · simp
    · simp [failCode]; split <;> simp
  | err => simp
  | panic => simp

theorem dstep_newEpoch {cfg : Distributor.Cfg} {d d' : Distributor.St} {now id start : Nat} {inflow : Option Nat}
    (hn : Distributor.nextEpoch cfg d now = .ok (id, start)) (hr : Distributor.receiveEpoch d id start inflow = .ok d') :
    Distributor.step cfg d (.newEpoch now inflow) = .ok d' := by
  simp only [Distributor.step, Distributor.newEpoch, hn, hr]

/-- attached coins are a gift to the distributor or do not touch its state at all -/
theorem pay_pres {P : Distributor.St → Prop} (hgift : ∀ d a x, P d → P (Distributor.gift d a x))
    {cfg : Cfg} {s s1 : St} {payer asset amount : Nat} {t : Target}
    (h : pay cfg s payer asset amount t = .ok s1) (hp : P s.d) : P s1.d := by
  cases t <;> simp only [pay] at h
  case nobody => cases h
  case distributor => split at h <;> cases h; exact hgift _ _ _ hp
  all_goals split at h <;> cases h; exact hp

/-- an operation with coins attached is the bank's transfer, then the operation -/
theorem step_coins_eq_ok {cfg : Cfg} {s s' : St} {payer asset amount : Nat} {op : Op} :
    step cfg s (.coins payer asset amount op) = .ok s' ↔
      ∃ s1, pay cfg s payer asset amount (target op) = .ok s1 ∧ step cfg s1 op = .ok s' := by
  rw [step]
  cases pay cfg s payer asset amount (target op) <;> simp

theorem pay_collector_ok {cfg : Cfg} {s s1 : St} {payer a x : Nat} (h : pay cfg s payer a x .collector = .ok s1) :
    s1 = { s with ub := ubAfterPay cfg s payer a x, c := { s.c with bal := Collector.add s.c.bal a x } } := by
  simp only [pay] at h
  split at h <;> cases h; rfl

theorem pay_distributor_ok {cfg : Cfg} {s s1 : St} {payer a x : Nat} (h : pay cfg s payer a x .distributor = .ok s1) :
    s1 = { s with ub := ubAfterPay cfg s payer a x, d := Distributor.gift s.d a x } := by
  simp only [pay] at h
  split at h <;> cases h; rfl

theorem dreach_append (cfg : Distributor.Cfg) : ∀ (xs ys : List Distributor.Op) (s : Distributor.St),
    Distributor.reach cfg s (xs ++ ys) = Distributor.reach cfg (Distributor.reach cfg s xs) ys
  | [], _, _ => rfl
  | x :: xs, ys, s => by
    simp only [List.cons_append, Distributor.reach]
    cases Distributor.step cfg s x <;> exact dreach_append cfg xs ys _

/-! ### the distributor's ledger under the joint machine -/

/-- `d'` is reached from `d` by a history of the distributor's own machine -/
def DR (cfg : Cfg) (d d' : Distributor.St) : Prop := ∃ dops, d' = Distributor.reach cfg.d d dops

theorem DR.refl (cfg : Cfg) (d : Distributor.St) : DR cfg d d := ⟨[], rfl⟩
theorem DR.trans {cfg : Cfg} {a b c : Distributor.St} (h1 : DR cfg a b) (h2 : DR cfg b c) : DR cfg a c := by
  obtain ⟨x, rfl⟩ := h1
  obtain ⟨y, rfl⟩ := h2
  exact ⟨x ++ y, (dreach_append _ _ _ _).symm⟩
theorem DR.one {cfg : Cfg} {d d' : Distributor.St} {dop : Distributor.Op} (h : Distributor.step cfg.d d dop = .ok d') :
    DR cfg d d' := ⟨[dop], by simp only [Distributor.reach, h]⟩
theorem DR.gift (cfg : Cfg) (d : Distributor.St) (a x : Nat) : DR cfg d (Distributor.gift d a x) :=
  DR.one (dop := .gift a x) rfl

/-- the newest epoch has the same id and start time: `create_new_epoch` computes the same next epoch -/
def SameCur (d d' : Distributor.St) : Prop :=
  (Distributor.current d').id = (Distributor.current d).id ∧ (Distributor.current d').start = (Distributor.current d).start

theorem SameCur.refl (d : Distributor.St) : SameCur d d := ⟨rfl, rfl⟩
theorem SameCur.trans {a b c : Distributor.St} (h1 : SameCur a b) (h2 : SameCur b c) : SameCur a c :=
  ⟨h2.1.trans h1.1, h2.2.trans h1.2⟩
theorem SameCur.of_epochs {d d' : Distributor.St} (h : d'.epochs = d.epochs) : SameCur d d' := by
  unfold SameCur Distributor.current; rw [h]; exact ⟨rfl, rfl⟩

theorem nextEpoch_congr {cfg : Distributor.Cfg} {d d' : Distributor.St} (h : SameCur d d') (now : Nat) :
    Distributor.nextEpoch cfg d' now = Distributor.nextEpoch cfg d now := by
  unfold Distributor.nextEpoch
  simp only
  rw [h.1, h.2]

theorem SameCur.of_map {d d' : Distributor.St}
    (h : d'.epochs.map (fun e => (e.id, e.start, e.total)) = d.epochs.map (fun e => (e.id, e.start, e.total))) :
    SameCur d d' := by
  unfold SameCur Distributor.current
  cases hd : d.epochs <;> cases hd' : d'.epochs <;> rw [hd, hd'] at h
  · exact ⟨rfl, rfl⟩
  · cases h
  · cases h
  · simp only [List.map_cons, List.cons.injEq, Prod.mk.injEq] at h
    exact ⟨h.1.1, h.1.2.1⟩

/-- every operation of the distributor's machine except `NewEpoch` keeps the newest epoch's id and start -/
theorem dstep_sameCur {cfg : Distributor.Cfg} {d d' : Distributor.St} {dop : Distributor.Op}
    (h : Distributor.step cfg d dop = .ok d') (hn : ∀ n i, dop ≠ .newEpoch n i) : SameCur d d' := by
  cases dop <;> simp only [Distributor.step] at h
  case newEpoch n i => exact absurd rfl (hn n i)
  case claim u view ans =>
    split at h <;> cases h
    rename_i paid hc
    exact SameCur.of_map (Distributor.claim_frame hc).1
  case grace sender g => obtain ⟨_, _, _, _, rfl⟩ := Distributor.updateGrace_eq_ok.mp h; exact .of_epochs rfl
  case gift a x => cases h; exact .of_epochs rfl
  case setDist sender a => obtain ⟨rfl, _⟩ := Distributor.setDist_ok h; exact .of_epochs rfl

theorem pay_DR {cfg : Cfg} {s s1 : St} {payer asset amount : Nat} {t : Target}
    (h : pay cfg s payer asset amount t = .ok s1) : DR cfg s.d s1.d :=
  pay_pres (P := DR cfg s.d) (fun _ _ _ hd => hd.trans (.gift _ _ _ _)) h (.refl _ _)

theorem pay_sameCur {cfg : Cfg} {s s1 : St} {payer asset amount : Nat} {t : Target}
    (h : pay cfg s payer asset amount t = .ok s1) : SameCur s.d s1.d :=
  pay_pres (P := SameCur s.d) (fun _ _ _ hd => hd.trans (.of_epochs rfl)) h (.refl _)

/-! ### re-entrancy: the hooked pipeline touches the distributor only through the nested message and the final reply -/

/-- a predicate on (distributor state, TMP_EPOCH, the `fired` flag) that the hostile contract's nested message preserves -/
def FirePres (hk : Hook) (Q : Distributor.St → Option (Nat × Nat) → Nat → Prop) : Prop :=
  ∀ h h', fire hk h = .ok h' → Q h.s.d h.tmp h.fired → Q h'.s.d h'.tmp h'.fired

theorem accrueS_d (l : List (Nat × Nat × Nat)) (s : St) : (accrueS l s).d = s.d := rfl

theorem fire_pres_of_run {hk : Hook} {Q : Distributor.St → Option (Nat × Nat) → Nat → Prop}
    (hrun : ∀ s1 s2 t f, hk.run s1 = .ok s2 → Q s1.d t f → Q s2.d (if hk.clears = true then none else t) 1)
    (hcaught : ∀ d t f, Q d t f → Q d t 2) :
    FirePres hk Q := by
  intro h h' e hq
  revert e
  fun_cases fire hk h with
  | case1 _ s' hr => intro e; cases e; exact hrun _ _ _ _ hr hq     -- the nested message went through
  | case2 => intro e; cases e; exact hcaught _ _ _ hq              -- it failed and was caught
  | case5 => intro e; cases e; exact hq                            -- not armed
  | case3 | case4 => nofun

variable {hk : Hook} {Q : Distributor.St → Option (Nat × Nat) → Nat → Prop}

theorem collectPoolsH_pres (hf : FirePres hk Q)
    {l : Collector.Pool → Bool} {h h' : HS} (e : collectPoolsH hk l h = .ok h') (hq : Q h.s.d h.tmp h.fired) :
    Q h'.s.d h'.tmp h'.fired := by
  revert e
  fun_cases collectPoolsH hk l h with
  | case1 k _ hp _ _ h1 hfi => intro e; cases e; exact (hf _ _ hfi hq :)   -- the hostile pair is on the page and fires
  | case2 | case3 => nofun
  | case4 | case5 | case6 => intro e; cases e; exact hq                   -- it is not called

theorem collectVaultsH_pres (hf : FirePres hk Q)
    {l : Collector.Vault → Bool} {h h' : HS} (e : collectVaultsH hk l h = .ok h') (hq : Q h.s.d h.tmp h.fired) :
    Q h'.s.d h'.tmp h'.fired := by
  revert e
  fun_cases collectVaultsH hk l h with
  | case1 k _ hv _ _ h1 hfi => intro e; cases e; exact (hf _ _ hfi hq :)   -- the hostile vault is on the page and fires
  | case2 | case3 => nofun
  | case4 | case5 | case6 => intro e; cases e; exact hq                   -- it is not called

theorem fire_if_pres (hf : FirePres hk Q) {c : Prop} [Decidable c] {h0 h1 : HS}
    (e : (if c then fire hk h0 else .ok h0) = .ok h1) (hq : Q h0.s.d h0.tmp h0.fired) :
    Q h1.s.d h1.tmp h1.fired := by
  split at e
  · exact hf _ _ e hq
  · cases e; exact hq

theorem collectH_pres (hf : FirePres hk Q)
    {f : Collector.FeesFor} {h h' : HS} (e : collectH hk f h = .ok h') (hq : Q h.s.d h.tmp h.fired) :
    Q h'.s.d h'.tmp h'.fired := by
  revert e
  fun_cases collectH hk f h with
  | case1 => exact fun e => collectVaultsH_pres hf e hq             -- the vault factory's page
  | case2 => exact fun e => collectPoolsH_pres hf e hq              -- the pool factory's page
  -- a named pair, a named vault
  | case4 k h1 hh | case9 k h1 hh => intro e; cases e; exact (fire_if_pres hf hh hq :)
  | _ => nofun

theorem aggExecH_pres (hf : FirePres hk Q) {dist : Nat} {router : Nat → Nat → Nat → Nat} {stage : Nat}
    {plan : List (Nat × Nat × List (Nat × Nat))} {h h' : HS} (e : aggExecH hk dist router stage plan h = .ok h')
    (hq : Q h.s.d h.tmp h.fired) : Q h'.s.d h'.tmp h'.fired := by
  fun_induction aggExecH hk dist router stage plan h with
  | case1 => cases e; exact hq                                     -- the plan is empty
  | case4 i amt hops rest h _ _ h1 hh ih => exact ih e (fire_if_pres hf hh hq :)
  | _ => cases e

theorem aggregateH_pres {cfg : Cfg} (hf : FirePres hk Q)
    {f : Collector.FeesFor} {router : Nat → Nat → Nat → Nat} {h h' : HS}
    (e : aggregateH cfg hk f router h = .ok h') (hq : Q h.s.d h.tmp h.fired) : Q h'.s.d h'.tmp h'.fired := by
  revert e
  fun_cases aggregateH cfg hk f router h with
  | case2 cands _ h1 ha => intro e; cases e; exact (aggExecH_pres hf ha hq :)
  | _ => nofun

/-- the four self-calls of `ForwardFees` preserve what the nested message preserves -/
theorem pipelineH_pres {cfg : Cfg} {hk : Hook} {Q : Distributor.St → Option (Nat × Nat) → Nat → Prop} (hf : FirePres hk Q)
    {s : St} {now : Nat} {router : Nat → Nat → Nat → Nat} {h' : HS}
    (e : newEpochH cfg hk s now router = .ok h') :
    ∃ id start h4, Distributor.nextEpoch cfg.d s.d now = .ok (id, start) ∧
      (Q s.d (some (id, start)) 0 → Q h4.s.d h4.tmp h4.fired) ∧ replyH h4 = .ok h' := by
  revert e
  fun_cases newEpochH cfg hk s now router with
  | case1 id start hn h1 h1e h2 h2e h3 h3e h4 h4e =>
    exact fun e => ⟨id, start, h4, hn, fun hq => aggExecH_pres hf h4e (aggExecH_pres hf h3e
      (collectPoolsH_pres hf h2e (collectVaultsH_pres hf h1e hq))), e⟩
  | _ => nofun

theorem replyH_ok {h h' : HS} (e : replyH h = .ok h') :
    ∃ id start d', h.tmp = some (id, start) ∧
      Collector.takeOf h.s.c (h.s.c.bal h.s.d.dist) ≤ h.s.c.bal h.s.d.dist ∧
      Distributor.receiveEpoch h.s.d id start
        (if h.s.c.bal h.s.d.dist - Collector.takeOf h.s.c (h.s.c.bal h.s.d.dist) = 0 then none
         else some (h.s.c.bal h.s.d.dist - Collector.takeOf h.s.c (h.s.c.bal h.s.d.dist))) = .ok d' ∧
      h'.s.d = d' ∧ h'.tmp = none ∧ h'.fired = h.fired ∧
      h'.s.c.bal = Collector.upd h.s.c.bal h.s.d.dist 0 ∧
      h'.s.daoBal = Collector.add h.s.daoBal h.s.d.dist (Collector.takeOf h.s.c (h.s.c.bal h.s.d.dist)) := by
  revert e
  fun_cases replyH h with
  | case2 id start htmp hle d' hr => intro e; cases e; exact ⟨id, start, d', htmp, hle, hr, rfl, rfl, rfl, rfl, rfl⟩
  | _ => nofun

theorem stepH_coins_ok {cfg : Cfg} {s : St} {payer a x : Nat} {op : Op} {h : HS}
    (e : stepH cfg hk s (.coins payer a x op) = some (.ok h)) :
    ∃ s1, pay cfg s payer a x (target op) = .ok s1 ∧ stepH cfg hk s1 op = some (.ok h) := by
  rw [stepH] at e
  split at e
  · exact ⟨_, ‹_›, e⟩
  · cases e
  · cases e

theorem stepH_xfail_ok {cfg : Cfg} {s : St} {code : Nat} {op : Op} {h : HS}
    (e : stepH cfg hk s (.xfail code op) = some (.ok h)) : stepH cfg hk s op = some (.ok h) := by
  rw [stepH] at e
  split at e
  · split at e
    · cases e; assumption
    · unfold failCode at e; split at e <;> cases e
  · exact e

/-- the hooked `NewEpoch`: `TMP_EPOCH` is stored, the four self-calls run, the reply consumes it -/
theorem newEpochH_pres {cfg : Cfg} (hf : FirePres hk Q)
    (hstore : ∀ d now id start, Q d none 0 → Distributor.nextEpoch cfg.d d now = .ok (id, start) →
      Q d (some (id, start)) 0)
    (hreply : ∀ d d' f id start inflow, Q d (some (id, start)) f →
      Distributor.receiveEpoch d id start inflow = .ok d' → Q d' none f)
    {s : St} {now : Nat} {router : Nat → Nat → Nat → Nat} {h : HS}
    (e : newEpochH cfg hk s now router = .ok h) (hq : Q s.d none 0) : Q h.s.d h.tmp h.fired := by
  obtain ⟨id, start, h4, hn, h4q, hr⟩ := pipelineH_pres hf e
  obtain ⟨id', start', d', htmp, _, hrec, hd', ht', hf', _⟩ := replyH_ok hr
  have q4 := h4q (hstore _ _ _ _ hq hn)
  rw [htmp] at q4
  rw [hd', ht', hf']
  exact hreply _ _ _ _ _ _ q4 hrec

/-- what the hostile contract's message preserves, every hooked operation preserves, given that gifts to the
    distributor do and — for an operation with a `NewEpoch` — that storing `TMP_EPOCH` and the final reply do -/
theorem stepH_pres {cfg : Cfg} (hf : FirePres hk Q)
    (hgift : ∀ d a x, Q d none 0 → Q (Distributor.gift d a x) none 0) {op : Op} {s : St} {h : HS}
    (hne : hasNewEpoch op = true →
      (∀ d now id start, Q d none 0 → Distributor.nextEpoch cfg.d d now = .ok (id, start) → Q d (some (id, start)) 0) ∧
      (∀ d d' f id start inflow, Q d (some (id, start)) f → Distributor.receiveEpoch d id start inflow = .ok d' →
        Q d' none f))
    (e : stepH cfg hk s op = some (.ok h)) (hq : Q s.d none 0) : Q h.s.d h.tmp h.fired := by
  induction op generalizing s with
  | newEpoch now router acc => exact newEpochH_pres hf (hne rfl).1 (hne rfl).2 (Option.some.inj e) hq
  | collect sender f => exact collectH_pres hf (Option.some.inj e) hq
  | aggregate sender f router acc => exact aggregateH_pres hf (Option.some.inj e) hq
  | coins payer a x op ih =>
    obtain ⟨s1, hp, e⟩ := stepH_coins_ok e
    exact ih hne e (pay_pres (P := fun d => Q d none 0) hgift hp hq)
  | xfail code op ih => exact ih hne (stepH_xfail_ok e) hq
  | _ => cases e

/-- the invariant of a hooked run that started in `d0`: the distributor's state is a history of its own machine away
    from `d0`, and while `TMP_EPOCH` is in place it is still the epoch that `create_new_epoch` would compute -/
def HookedDR (cfg : Cfg) (d0 d : Distributor.St) (t : Option (Nat × Nat)) (_fired : Nat) : Prop :=
  DR cfg d0 d ∧ ∀ id start, t = some (id, start) → ∃ now, Distributor.nextEpoch cfg.d d now = .ok (id, start)

section
variable {cfg : Cfg} {d0 d d' : Distributor.St} {id start f : Nat}

theorem HookedDR.gift (hq : HookedDR cfg d0 d none 0) (a x : Nat) : HookedDR cfg d0 (Distributor.gift d a x) none 0 :=
  ⟨hq.1.trans (.gift _ _ _ _), nofun⟩

theorem HookedDR.store {now : Nat} (hq : HookedDR cfg d0 d none 0)
    (hn : Distributor.nextEpoch cfg.d d now = .ok (id, start)) : HookedDR cfg d0 d (some (id, start)) 0 :=
  ⟨hq.1, fun _ _ ht => by cases ht; exact ⟨now, hn⟩⟩

/-- the reply is the `NewEpoch` of the distributor's machine from the state the nested message left -/
theorem HookedDR.reply {inflow : Option Nat} (hq : HookedDR cfg d0 d (some (id, start)) f)
    (hr : Distributor.receiveEpoch d id start inflow = .ok d') : HookedDR cfg d0 d' none f := by
  obtain ⟨now, hn⟩ := hq.2 id start rfl
  exact ⟨hq.1.trans (.one (dstep_newEpoch hn hr)), nofun⟩

/-- a nested message that is a history of the distributor's machine and, when it leaves `TMP_EPOCH` in place, keeps
    the newest epoch -/
theorem HookedDR.firePres {hk : Hook} (hrunDR : ∀ s1 s2, hk.run s1 = .ok s2 → DR cfg s1.d s2.d)
    (hrunSC : hk.clears = false → ∀ s1 s2, hk.run s1 = .ok s2 → SameCur s1.d s2.d) :
    FirePres hk (HookedDR cfg d0) := by
  refine fire_pres_of_run (fun s1 s2 t _ hr hq => ⟨hq.1.trans (hrunDR _ _ hr), fun id start ht => ?_⟩)
    fun _ _ _ hq => hq
  by_cases hc : hk.clears = true
  · rw [if_pos hc] at ht; cases ht
  · rw [if_neg hc] at ht
    obtain ⟨now, hn⟩ := hq.2 id start ht
    exact ⟨now, by rw [nextEpoch_congr (hrunSC (by simpa using hc) _ _ hr), hn]⟩

end

/-- the hooked run of an operation acts on the distributor's ledger as a history of its own machine: whatever the
    nested message does (a history, by hypothesis), then — for a `NewEpoch` — exactly one `NewEpoch` of the
    distributor's machine FROM THE STATE THE NESTED MESSAGE LEFT: the epoch the outer `create_new_epoch` computed at
    the start is the one that state would compute (a nested message that leaves `TMP_EPOCH` in place contains no
    `NewEpoch`, so the newest epoch is the same; one that consumed it makes the reply fail) -/
theorem stepH_DR {cfg : Cfg} {hk : Hook}
    (hrunDR : ∀ s1 s2, hk.run s1 = .ok s2 → DR cfg s1.d s2.d)
    (hrunSC : hk.clears = false → ∀ s1 s2, hk.run s1 = .ok s2 → SameCur s1.d s2.d) :
    ∀ (op : Op) (s : St) (h : HS), stepH cfg hk s op = some (.ok h) → DR cfg s.d h.s.d :=
  fun _ _ _ e => (stepH_pres (HookedDR.firePres hrunDR hrunSC) (fun _ a x hq => hq.gift a x)
    (fun _ => ⟨fun _ _ _ _ hq hn => hq.store hn, fun _ _ _ _ _ _ hq hr => hq.reply hr⟩) e ⟨.refl _ _, nofun⟩).1

/-- a hooked run without a `NewEpoch`, in itself or in the nested message, keeps the newest epoch's id and start -/
theorem stepH_sameCur {cfg : Cfg} {hk : Hook} (hrunSC : ∀ s1 s2, hk.run s1 = .ok s2 → SameCur s1.d s2.d)
    {op : Op} {s : St} {h : HS} (hn : hasNewEpoch op = false) (e : stepH cfg hk s op = some (.ok h)) :
    SameCur s.d h.s.d :=
  stepH_pres (Q := fun d _ _ => SameCur s.d d)
    (fire_pres_of_run (fun _ _ _ _ hr hq => hq.trans (hrunSC _ _ hr)) fun _ _ _ hq => hq)
    (fun _ _ _ hq => hq.trans (.of_epochs rfl)) (fun ht => by rw [hn] at ht; cases ht) e (.refl _)

/-! ### the lending vault's ledger in an `inloan` transaction -/

theorem modVault_getElem? (f : Collector.Vault → Collector.Vault) :
    ∀ (vs : List Collector.Vault) (k j : Nat),
      (modVault k f vs)[j]? = if j = k then (vs[j]?).map f else vs[j]?
  | [], _, _ => by simp [modVault]
  | _ :: _, 0, 0 => rfl
  | _ :: _, 0, _ + 1 => rfl
  | _ :: _, _ + 1, 0 => rfl
  | _ :: vs, k + 1, j + 1 => by
    simp only [modVault, List.getElem?_cons_succ, Nat.add_right_cancel_iff]
    exact modVault_getElem? f vs k j

theorem pendOf_accrueLoan (k fee : Nat) (s : St) (j : Nat) :
    pendOf (accrueLoan k fee s) j =
      if j = k ∧ (s.c.vaults[j]?).isSome = true then pendOf s j + fee else pendOf s j := by
  unfold pendOf accrueLoan
  simp only
  rw [modVault_getElem?]
  by_cases hj : j = k
  · subst hj
    cases s.c.vaults[j]? <;> simp
  · rw [if_neg hj, if_neg (fun h => hj h.1)]

theorem loanClose_ok {s s1 : St} {k amount vbal : Nat} {mode : Repay} {fees : LoanFees} {o : LoanOut}
    (h : loanClose s s1 k amount mode vbal fees = .ok o) :
    loanPaidOut s s1 k ≤ vbal - amount ∧ loanRequired vbal amount fees ≤ U128MAX ∧
    loanRequired vbal amount fees ≤ loanMid s s1 k amount vbal + loanRepaid s s1 k amount mode vbal fees ∧
    o.st = accrueLoan k (loanFee fees.prot amount) s1 ∧
    o.endBal = loanMid s s1 k amount vbal + loanRepaid s s1 k amount mode vbal fees - loanFee fees.burn amount ∧
    o.repaid = loanRepaid s s1 k amount mode vbal fees ∧ o.paidOut = loanPaidOut s s1 k := by
  simp only [loanClose, Res.err_else_eq_ok, Nat.not_lt, Res.ok.injEq] at h
  obtain ⟨h1, h2, h3, _, rfl⟩ := h
  exact ⟨h1, h2, h3, rfl, rfl, rfl, rfl⟩

theorem inloanRun_ok {s : St} {k amount vbal : Nat} {mode : Repay} {fees : LoanFees} {inner : St → Res St} {o : LoanOut}
    (h : inloanRun s k amount mode vbal fees inner = .ok o) :
    ∃ s1, inner s = .ok s1 ∧ loanClose s s1 k amount mode vbal fees = .ok o ∧
      (s.c.vaults[k]?).isSome = true ∧ amount ≠ 0 ∧ amount ≤ vbal := by
  revert h
  fun_cases inloanRun s k amount mode vbal fees inner with
  | case3 v hv hg s1 hi =>
    exact fun h => ⟨s1, hi, h, by rw [hv]; rfl, fun h0 => hg (.inl h0), Nat.le_of_not_lt fun hlt => hg (.inr hlt)⟩
  | _ => nofun

/-- a completed `inloan` transaction is the callback's operation on the state the loan was taken in, plus the
    loan's protocol fee on the lending vault's pending ledger; the closing steps went through -/
theorem inloan_ok {cfg : Cfg} {s s' : St} {k amount vbal : Nat} {mode : Repay} {fees : LoanFees} {inner : Op}
    (h : step cfg s (.inloan k amount mode vbal fees inner) = .ok s') :
    ∃ s1 o, step cfg s inner = .ok s1 ∧
      inloanRun s k amount mode vbal fees (fun s0 => step cfg s0 inner) = .ok o ∧
      loanClose s s1 k amount mode vbal fees = .ok o ∧ s' = accrueLoan k (loanFee fees.prot amount) s1 := by
  unfold step at h
  split at h <;> cases h
  rename_i o hr
  obtain ⟨s1, hi, hc, _⟩ := inloanRun_ok hr
  exact ⟨s1, o, hi, hr, hc, (loanClose_ok hc).2.2.2.1⟩

/-- a repayment that covers what is missing (`need ≠ 0`) was not one unit short, and exceeds it by the borrower's
    extra only -/
theorem repayOf_ge {mode : Repay} {need : Nat} (hn : need ≠ 0) (h : need ≤ repayOf mode need) :
    mode ≠ .short ∧ ∃ extra, (mode = .exact → extra = 0) ∧ (∀ x, mode = .over x → extra = x) ∧
      repayOf mode need = need + extra := by
  cases mode with
  | exact => exact ⟨nofun, 0, fun _ => rfl, nofun, rfl⟩
  | over x => exact ⟨nofun, x, nofun, fun y h => by cases h; rfl, rfl⟩
  | short => simp only [repayOf] at h; omega

/-- the arithmetic of the repayment (plain numbers): with `paid ≤ vbal - amount`, `1 ≤ amount ≤ vbal` and the balance
    check passed, the mode is not `short`, the vault ends with `vbal + prot + flash + extra` and the borrower sent
    `amount + prot + flash + burn + paid + extra` -/
theorem repay_arith {vbal amount paid pf ff bf : Nat} {mode : Repay}
    (h1 : paid ≤ vbal - amount) (ha : amount ≠ 0) (hle : amount ≤ vbal)
    (h3 : vbal + pf + ff + bf ≤ vbal - amount - paid + repayOf mode (vbal + pf + ff + bf - (vbal - amount - paid))) :
    mode ≠ .short ∧
    ∃ extra, (mode = .exact → extra = 0) ∧ (∀ x, mode = .over x → extra = x) ∧
      vbal - amount - paid + repayOf mode (vbal + pf + ff + bf - (vbal - amount - paid)) - bf = vbal + pf + ff + extra ∧
      repayOf mode (vbal + pf + ff + bf - (vbal - amount - paid)) = amount + pf + ff + bf + paid + extra := by
  -- with `mid` for what is left in the vault, `vbal = mid + (amount + paid)` and no subtraction is left; what is missing
  -- for the required balance is the loan, the fees and what the vault paid out (by hand: `omega` on the four nested
  -- subtractions is dear to check)
  have hmid : vbal - amount - paid + (amount + paid) = vbal := by
    rw [Nat.sub_sub, Nat.sub_add_cancel (Nat.add_le_of_le_sub' hle h1)]
  generalize vbal - amount - paid = mid at hmid h3 ⊢
  subst hmid
  have hreq : mid + (amount + paid) + pf + ff + bf = mid + (amount + pf + ff + bf + paid) := by ac_rfl
  rw [hreq, Nat.add_sub_cancel_left] at h3 ⊢
  obtain ⟨hm, extra, e0, ex, hrep⟩ := repayOf_ge (mode := mode) (need := amount + pf + ff + bf + paid)
    (fun h0 => ha (by simp only [Nat.add_eq_zero_iff] at h0; exact h0.1.1.1.1)) (Nat.le_of_add_le_add_left h3)
  rw [hrep]
  refine ⟨hm, extra, e0, ex, ?_, rfl⟩
  have : mid + (amount + pf + ff + bf + paid + extra) = mid + (amount + paid) + pf + ff + extra + bf := by ac_rfl
  rw [this, Nat.add_sub_cancel]

/-! ### every operation acts on the distributor as a history of its own machine -/

/-- every successful operation of the joint machine that is not a wrapper around another one — including the
    directly sent `CollectFees` / `AggregateFees` and everything that happens on pairs, vaults, the router and
    the lair — either leaves the distributor's ledger state untouched or is one operation of `Distributor.step` -/
theorem step_projects_base {cfg : Cfg} {s s' : St} {op : Op} (hb : isCoins op = false)
    (h : step cfg s op = .ok s') :
    s'.d = s.d ∨ ∃ dop, Distributor.step cfg.d s.d dop = .ok s'.d ∧
      (hasNewEpoch op = false → ∀ n i, dop ≠ .newEpoch n i) := by
  revert h
  fun_cases step cfg s op with
  | case1 now router acc s1 o hn =>                                  -- `newEpoch`
    intro h; cases h
    obtain ⟨id, start, d', hne, _, hr, rfl⟩ := newEpoch_eq_ok.1 hn
    exact .inr ⟨.newEpoch now o.inflow, dstep_newEpoch hne hr, nofun⟩
  | case4 u ans d' paid hc =>                                        -- `claim`
    intro h; cases h
    exact .inr ⟨.claim u (s.view u) ans, by simp only [Distributor.step, hc], fun _ _ _ => nofun⟩
  -- `grace`, a `gift` to the distributor, `setDist`
  | case9 sender g d' hg => intro h; cases h; exact .inr ⟨.grace sender g, hg, fun _ _ _ => nofun⟩
  | case21 _ asset amount => intro h; cases h; exact .inr ⟨.gift asset amount, rfl, fun _ _ _ => nofun⟩
  | case28 sender asset d' hg => intro h; cases h; exact .inr ⟨.setDist sender asset, hg, fun _ _ _ => nofun⟩
  -- `bond`, `swap`, `loan` end in `ofCode`
  | case8 | case18 | case19 => exact fun h => .inl (by rw [ofCode_ok h])
  -- `colcfg`, `fwd`, a `gift` to the collector, `addRoute`, `rmRoute`, `unreg`, `toggle`, `collect`, `aggregate` write
  -- the collector's part or the routes only
  | case12 | case15 | case20 | case23 | case27 | case32 | case36 | case37 | case40 => intro h; cases h; exact .inl rfl
  -- the branches of `coins`, `xfail`, `reenter`, `inloan`
  | case43 | case44 | case45 | case46 | case47 | case48 | case49 | case50 | case51 | case52 | case53 | case54 | case55
    | case56 => cases hb
  | _ => nofun

/-- every successful operation of the joint machine — WITH OR WITHOUT COINS ATTACHED, with a swap failure recorded,
    sent from inside a flash loan, with a hostile registered contract nesting ANY operation into it (`reenter`) —
    acts on the distributor's ledger state as a (possibly empty) history of `Distributor.step` operations, and keeps
    the newest epoch's id and start time unless it contains a `NewEpoch`: attached coins are a gift to the
    distributor (or do not touch it at all), a nested message is itself such a history, the rest is
    `step_projects_base` -/
theorem step_DR_sameCur {cfg : Cfg} : ∀ {op : Op} {s s' : St}, step cfg s op = .ok s' →
    DR cfg s.d s'.d ∧ (hasNewEpoch op = false → SameCur s.d s'.d) := by
  intro op
  induction op with
  | coins payer asset amount op ih =>
    intro s s' h
    obtain ⟨s1, hp, h⟩ := step_coins_eq_ok.1 h
    exact ⟨(pay_DR hp).trans (ih h).1, fun hn => (pay_sameCur hp).trans ((ih h).2 hn)⟩
  | xfail code op ih => intro s s' h; exact ih (step_xfail_eq_ok.1 h).1
  | reenter trig caught hacc inner outer ihi iho =>
    intro s s' h
    rw [hasNewEpoch, Bool.or_eq_false_iff]
    rcases step_reenter_ok h with ⟨hh, hH, rfl⟩ | h
    · exact ⟨stepH_DR (fun _ _ hr => (ihi hr).1) (fun hc _ _ hr => (ihi hr).2 hc) outer s hh hH,
        fun hn => stepH_sameCur (fun _ _ hr => (ihi hr).2 hn.1) hn.2 hH⟩
    · exact ⟨(iho h).1, fun hn => (iho h).2 hn.2⟩
  | inloan k amount mode vbal fees inner ih =>
    intro s s' h
    obtain ⟨s1, _, hi, _, _, rfl⟩ := inloan_ok h
    exact (ih hi :)
  | _ =>
    intro s s' h
    cases step_projects_base rfl h with
    | inl same => exact ⟨same ▸ .refl _ _, fun _ => .of_epochs (by rw [same])⟩
    | inr hstep =>
      obtain ⟨dop, hdop, hne⟩ := hstep
      exact ⟨.one hdop, fun hn => dstep_sameCur hdop (hne hn)⟩

/-- an operation that contains no `NewEpoch` keeps the newest epoch's id and start time — also a `reenter`
    operation, whatever the hostile contract nests into it -/
theorem step_sameCur {cfg : Cfg} : ∀ {op : Op} {s s' : St}, step cfg s op = .ok s' → hasNewEpoch op = false →
    SameCur s.d s'.d :=
  fun h => (step_DR_sameCur h).2

/-- the distributor's side of `step_DR_sameCur`, as the C09 theorems use it -/
theorem step_projects {cfg : Cfg} : ∀ {op : Op} {s s' : St}, step cfg s op = .ok s' →
    ∃ dops, s'.d = Distributor.reach cfg.d s.d dops :=
  fun h => (step_DR_sameCur h).1

/-- the distributor component of every history of the joint machine is reached by a history of the
    distributor's own machine (the one the C09 theorems quantify over) -/
theorem reach_projects (cfg : Cfg) : ∀ (ops : List Op) (s : St),
    ∃ dops, (reach cfg s ops).d = Distributor.reach cfg.d s.d dops
  | [], _ => ⟨[], rfl⟩
  | op :: ops, s => by
    unfold reach
    split
    · rename_i s' hs
      exact DR.trans (step_projects hs) (reach_projects cfg ops s')
    · exact reach_projects cfg ops s

/-! ### stray coins on `NewEpoch` -/

/-- the distributor's reply from a state that was first given `x` of asset `a`: the same epochs, every
    balance larger by the gift -/
theorem receiveEpoch_gift {d d' : Distributor.St} {a x id start : Nat} {inflow : Option Nat}
    (h : Distributor.receiveEpoch (Distributor.gift d a x) id start inflow = .ok d') :
    ∃ d0, Distributor.receiveEpoch d id start inflow = .ok d0 ∧ d'.epochs = d0.epochs ∧ d'.last = d0.last ∧
      d'.grace = d0.grace ∧ d'.dist = d0.dist ∧ ∀ i, d'.bal i = d0.bal i + Distributor.sel a i x := by
  obtain ⟨hg, tot, hagg, rfl⟩ := Distributor.receiveEpoch_ok h
  have hagg : Distributor.agg (Distributor.inflowLedger d.dist inflow)
      (Distributor.takeOut (d.grace - 1) d.epochs).2 = .ok tot := hagg
  have hg : ¬ d.grace = 0 := Nat.ne_of_gt hg
  refine ⟨{ d with epochs := { id := id, start := start, total := tot, avail := tot, claimed := [] } ::
                              (Distributor.takeOut (d.grace - 1) d.epochs).1,
                     bal := Distributor.addAt d.bal d.dist (Distributor.amt inflow) },
    by rw [Distributor.receiveEpoch, if_neg hg]; simp only [hagg], rfl, rfl, rfl, rfl, fun i => ?_⟩
  simp only [Distributor.gift, Distributor.addAt_apply]
  exact Nat.add_right_comm _ _ _

/-- STRAY COINS on `NewEpoch` (they land on the distributor, the contract the message is addressed to): the
    whole pipeline run — collection, aggregation, take rate, transfer, the new epoch — is the one of the
    plain `NewEpoch`; only the distributor's balance of the attached asset is larger by the gift -/
theorem newEpoch_gift {cfg : Cfg} {s s' : St} {ub' : Nat → Nat → Nat} {a x now : Nat}
    {router : Nat → Nat → Nat → Nat} {acc : Nat → Nat → Nat} {o : Collector.Out}
    (h : newEpoch cfg { s with ub := ub', d := Distributor.gift s.d a x } now router acc = .ok (s', o)) :
    ∃ s0, newEpoch cfg s now router acc = .ok (s0, o) ∧ s'.c = s0.c ∧ s'.daoBal = s0.daoBal ∧
      s'.d.epochs = s0.d.epochs ∧ s'.d.last = s0.d.last ∧ s'.d.grace = s0.d.grace ∧ s'.d.dist = s0.d.dist ∧
      (∀ i, s'.d.bal i = s0.d.bal i + Distributor.sel a i x) ∧
      s'.ub = ub' ∧ s'.view = s0.view ∧ s'.rts = s0.rts ∧ s'.xb = s0.xb := by
  obtain ⟨id, start, d', hn, hf, hr, rfl⟩ := newEpoch_eq_ok.1 h
  obtain ⟨d0, hd0, he, hl, hgr, hdi, hb⟩ := receiveEpoch_gift hr
  exact ⟨_, newEpoch_eq_ok.2 ⟨id, start, d0, hn, hf, hd0, rfl⟩, rfl, rfl, he, hl, hgr, hdi, hb, rfl, rfl, rfl, rfl⟩

end WW.Feeflow
