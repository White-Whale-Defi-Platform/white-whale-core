/-
  For `WW/Props/Kernels/Vault.lean`: one narrowed `Fee::compute` in the vault model's terms, and what the model's
  `VFees.valid` and `afterTradeOk` give the settlement stretch.  Core Lean only.
-/
import WW.Proofs.KernelsSwap
import WW.Model.Vault
namespace WW.KernelsVault
open WW WW.Gen WW.Vault

/-- `Uint128::try_from(fee.compute(Uint256::from(amount)))?` is the model's `fee` for a share below one and a
    `Uint128` amount: neither the 256-bit product panics nor the narrowing errs. -/
theorem compute_narrow (f : K.Fee) (amt : Nat) (hs : f.share < E18) (ha : amt ≤ U128MAX) :
    (K.Fee_compute f amt >>= fun t => narrowTo U128MAX t) = .ok (fee f.share amt) := by
  have h1 : fee f.share amt ≤ U128MAX := Nat.le_trans (mulDec_le amt _ (Nat.le_of_lt hs)) ha
  have h2 : fee f.share amt ≤ U256MAX := Nat.le_trans h1 (by decide)
  rw [K_Fee_compute_eq]
  unfold u256MulDec narrowTo
  unfold fee at h1 h2
  rw [if_pos h2, Res.bind_ok_s, if_pos h1]
  rfl

theorem payback_sub (old loan p f b : Nat) : old + (loan + p + f + b - loan) = old + p + f + b := by
  -- `loan` cancelled by hand: `omega` is slow on the truncated subtraction
  rw [Nat.add_assoc loan, Nat.add_assoc loan, Nat.add_sub_cancel_left, ← Nat.add_assoc, ← Nat.add_assoc]

theorem valid_shares {f : VFees} (hv : f.valid = true) : f.prot < E18 ∧ f.flash < E18 ∧ f.burn < E18 := by
  unfold VFees.valid at hv
  simp only [Bool.and_eq_true, decide_eq_true_eq] at hv
  exact ⟨hv.1.1.1, hv.1.1.2, hv.1.2⟩

/-- the first two clauses of `afterTradeOk` are the settlement stretch's two conditions -/
theorem afterTradeOk_covers {s : St} {old loan : Nat} (hok : afterTradeOk s old loan = true) :
    old + fee s.fees.prot loan + fee s.fees.flash loan + fee s.fees.burn loan ≤ U128MAX
    ∧ old + fee s.fees.prot loan + fee s.fees.flash loan + fee s.fees.burn loan ≤ s.bal := by
  unfold afterTradeOk at hok
  simp only [Bool.and_eq_true, decide_eq_true_eq] at hok
  exact ⟨hok.1.1.1.1, hok.1.1.1.2⟩

end WW.KernelsVault
