/- What the position handlers (open / expand / close / withdraw) do to the staked total, the flows and
   the ledger (C11, C12). -/
import WW.Proofs.ClaimLedger
namespace WW.Inc
open WW WW.Gen

theorem openSum_nil : openSum [] = 0 := rfl
theorem closedSum_nil : closedSum [] = 0 := rfl

theorem openSum_map {ps : List OpenPos} {p : OpenPos} (hn : (durs ps).Nodup) (hp : p ∈ ps) (newAmt : Nat) :
    openSum (ps.map (fun q => if q.dur = p.dur then { q with amt := newAmt } else q)) + p.amt
      = openSum ps + newAmt := by
  obtain ⟨l1, l2, rfl, _, hm⟩ := split_at_dur hn hp
  simp only [hm, openSum_append, openSum]
  omega

theorem openSum_filter {ps : List OpenPos} {p : OpenPos} (hn : (durs ps).Nodup) (hp : p ∈ ps) :
    openSum (ps.filter (fun q => decide (q.dur ≠ p.dur))) + p.amt = openSum ps := by
  obtain ⟨l1, l2, rfl, hf, _⟩ := split_at_dur hn hp
  simp only [hf, openSum_append, openSum]
  omega

/-- `open_position`: flows and ledger untouched, staked total up by exactly the stated amount, and the
    funds check passed for that amount -/
theorem openPosition_delta {c : Cfg} {s s' : St} {e : Env} {amount dur : Nat} {recv : Option Addr}
    {msgs : List Msg} (h : openPosition c s e amount dur recv = .ok (s', msgs)) :
    s'.flows = s.flows ∧ s'.flowCounter = s.flowCounter ∧ s'.bal = s.bal
    ∧ staked s' = staked s + amount ∧ validateFunds c e amount = .ok msgs := by
  obtain ⟨w, rfl, hm, -⟩ := openPosition_ok rfl h
  refine ⟨rfl, rfl, rfl, ?_, hm⟩
  have := sumBy_aset openSum openSum_nil s.openPos (recv.getD e.sender)
    (openOf s (recv.getD e.sender) ++ [{ dur := dur, amt := amount }])
  rw [openSum_append] at this
  simp only [openSum] at this
  simp only [staked, openOf, setPos] at this ⊢
  omega

/-- `expand_position`: the same with the (unique) position of that duration raised by the amount -/
theorem expandPosition_delta {c : Cfg} {s s' : St} {e : Env} {amount dur : Nat} {recv : Option Addr}
    {msgs : List Msg} (hI : WInv s) (h : expandPosition c s e amount dur recv = .ok (s', msgs)) :
    s'.flows = s.flows ∧ s'.flowCounter = s.flowCounter ∧ s'.bal = s.bal
    ∧ staked s' = staked s + amount ∧ validateFunds c e amount = .ok msgs := by
  obtain ⟨ps, p, w1, w0, rfl, hm, hps, hp, -⟩ := expandPosition_ok rfl h
  obtain ⟨hpm, rfl⟩ := find_some_mem hp
  have hnd : (durs ps).Nodup := openOf_of_alook hps ▸ hI.nodup _
  refine ⟨rfl, rfl, rfl, ?_, hm⟩
  have h1 := sumBy_aset openSum openSum_nil s.openPos (recv.getD e.sender)
    (ps.map (fun q => if q.dur = p.dur then { q with amt := p.amt + amount } else q))
  rw [hps] at h1
  have h2 := openSum_map hnd hpm (p.amt + amount)
  simp only [Option.getD_some] at h1
  simp only [staked, setPos]
  omega

/-- `close_position`: the position moves from open to closed with the same amount -/
theorem closePosition_delta {s s' : St} {e : Env} {dur : Nat} {msgs : List Msg} (hI : WInv s)
    (h : closePosition s e dur = .ok (s', msgs)) :
    s'.flows = s.flows ∧ s'.flowCounter = s.flowCounter ∧ s'.bal = s.bal
    ∧ staked s' = staked s ∧ msgs = [] := by
  obtain ⟨ps, p, w, rfl, rfl, hps, hp, -⟩ := closePosition_ok h
  obtain ⟨hpm, rfl⟩ := find_some_mem hp
  have hnd : (durs ps).Nodup := openOf_of_alook hps ▸ hI.nodup _
  refine ⟨rfl, rfl, rfl, ?_, rfl⟩
  have h1 := sumBy_aset openSum openSum_nil s.openPos e.sender (ps.filter (fun q => decide (q.dur ≠ p.dur)))
  rw [hps] at h1
  have h2 := openSum_filter hnd hpm
  have h3 := sumBy_aset closedSum closedSum_nil s.closedPos e.sender
    (closedOf s e.sender ++ [{ amt := p.amt, ts := e.time + p.dur }])
  rw [closedSum_append] at h3
  simp only [closedSum, Option.getD_some] at h1 h3
  simp only [staked, closedOf, setPos] at h3 ⊢
  omega

/-- `withdraw`: the sender's closed positions leave the staked total and are paid out -/
theorem withdrawOp_delta {s s' : St} {e : Env} {msgs : List Msg} (h : withdrawOp s e = .ok (s', msgs)) :
    s'.flows = s.flows ∧ s'.flowCounter = s.flowCounter ∧ s'.bal = s.bal
    ∧ staked s' + closedSum (closedOf s e.sender) = staked s
    ∧ msgs = (if closedSum (closedOf s e.sender) = 0 then []
              else [.send INC e.sender 0 (closedSum (closedOf s e.sender))]) := by
  obtain ⟨h1, -, h2⟩ := withdrawOp_ok h
  subst h1
  refine ⟨rfl, rfl, rfl, ?_, h2⟩
  unfold staked
  simp only
  have h3 := sumBy_aset closedSum closedSum_nil s.closedPos e.sender []
  simp only [closedSum] at h3
  unfold closedOf
  omega

end WW.Inc
