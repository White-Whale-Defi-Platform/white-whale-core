/- Helper lemmas for the incentive model: association lists, what each handler has done to the state
   when it succeeds, the one handler call an accepted transaction amounts to (`step_ok`), and the weight
   invariant (global = Σ address weights, address weight = Σ weights of its open positions). -/
import WW.Model.Incentive
import WW.Proofs.Weight
import WW.Proofs.Res
namespace WW.Inc
open WW WW.Gen

section AList
variable {κ : Type} [DecidableEq κ] {α : Type}

theorem alook_aset_same (l : List (κ × α)) (k : κ) (v : α) : alook (aset l k v) k = some v := by
  induction l with
  | nil => simp [aset, alook]
  | cons p t ih => by_cases h : p.1 = k <;> simp [aset, alook, h, ih]

theorem alook_aset_other (l : List (κ × α)) {k k' : κ} (v : α) (h : k' ≠ k) :
    alook (aset l k v) k' = alook l k' := by
  induction l with
  | nil => simp [aset, alook, Ne.symm h]
  | cons p t ih =>
    obtain ⟨k2, v2⟩ := p
    by_cases h2 : k2 = k
    · subst h2
      simp [aset, alook, Ne.symm h]
    · by_cases h3 : k2 = k'
      · subst h3
        simp [aset, alook, h2]
      · simp [aset, alook, h2, h3, ih]

theorem alook_some_mem {l : List (κ × α)} {k : κ} {v : α} (h : alook l k = some v) : (k, v) ∈ l := by
  induction l with
  | nil => cases h
  | cons x t ih =>
    obtain ⟨k', v'⟩ := x
    unfold alook at h
    split at h
    · rename_i hk; cases h; cases hk; exact List.mem_cons_self
    · exact List.mem_cons_of_mem _ (ih h)

theorem alook_eq_none_iff {l : List (κ × α)} (k : κ) :
    alook l k = none ↔ ∀ p ∈ l, p.1 ≠ k := by
  induction l with
  | nil => simp [alook]
  | cons y t ih =>
    obtain ⟨k', v'⟩ := y
    unfold alook
    split
    · rename_i hk
      constructor
      · intro h; cases h
      · intro h; exact absurd hk (h (k', v') List.mem_cons_self)
    · rename_i hk
      rw [ih]
      constructor
      · intro h p hp
        rcases List.mem_cons.mp hp with hp | hp
        · subst hp; exact hk
        · exact h p hp
      · intro h p hp; exact h p (List.mem_cons_of_mem _ hp)

/-- a lookup finds the first entry: one appended at the end is found only where there was none -/
theorem alook_snoc (l : List (κ × α)) (k' k : κ) (v : α) :
    alook (l ++ [(k', v)]) k = (alook l k).or (if k' = k then some v else none) := by
  induction l with
  | nil => rfl
  | cons p t ih =>
    obtain ⟨k2, v2⟩ := p
    simp only [List.cons_append, alook]
    split
    · rfl
    · exact ih

/-- `aset` writes `(k, v)`, adds nothing else and drops no entry of another key -/
theorem mem_aset (l : List (κ × α)) (k : κ) (v : α) :
    (k, v) ∈ aset l k v ∧ (∀ p ∈ aset l k v, p = (k, v) ∨ p ∈ l)
      ∧ ∀ p ∈ l, p.1 ≠ k → p ∈ aset l k v := by
  induction l with
  | nil => simp [aset]
  | cons x t ih =>
    obtain ⟨i1, i2, i3⟩ := ih
    unfold aset
    split
    · rename_i hk
      refine ⟨List.mem_cons_self, fun p hp => ?_, fun p hp hne => ?_⟩
      · exact (List.mem_cons.mp hp).imp id (List.mem_cons_of_mem _)
      · rcases List.mem_cons.mp hp with rfl | hp
        · exact absurd hk hne
        · exact List.mem_cons_of_mem _ hp
    · refine ⟨List.mem_cons_of_mem _ i1, fun p hp => ?_, fun p hp hne => ?_⟩
      · rcases List.mem_cons.mp hp with rfl | hp
        · exact Or.inr List.mem_cons_self
        · exact (i2 p hp).imp id (List.mem_cons_of_mem _)
      · rcases List.mem_cons.mp hp with rfl | hp
        · exact List.mem_cons_self
        · exact List.mem_cons_of_mem _ (i3 p hp hne)

theorem nodup_keys_aset {l : List (κ × α)} (k : κ) (v : α) (hn : (l.map (·.1)).Nodup) :
    ((aset l k v).map (·.1)).Nodup := by
  induction l with
  | nil => simp [aset]
  | cons x t ih =>
    obtain ⟨hx, hn⟩ := List.nodup_cons.mp hn
    unfold aset
    split
    · rename_i hk
      exact List.nodup_cons.mpr ⟨hk ▸ hx, hn⟩
    · rename_i hk
      refine List.nodup_cons.mpr ⟨fun hm => ?_, ih hn⟩
      obtain ⟨p, hp, hpe⟩ := List.mem_map.mp hm
      rcases (mem_aset t k v).2.1 p hp with rfl | hp
      · exact hk hpe.symm
      · exact hx (List.mem_map.mpr ⟨p, hp, hpe⟩)

omit [DecidableEq κ] in
theorem nodup_keys_filter {l : List (κ × α)} (p : κ × α → Bool) (hn : (l.map (·.1)).Nodup) :
    ((l.filter p).map (·.1)).Nodup :=
  hn.sublist (List.filter_sublist.map _)
end AList

def keysOf {α : Type} (l : List (Nat × α)) : List Nat := l.map (·.1)

theorem sum_map_eq_zero {us : List Nat} {g : Nat → Nat} (h : ∀ u, g u = 0) : (us.map g).sum = 0 := by
  induction us with
  | nil => rfl
  | cons u t ih => rw [List.map_cons, List.sum_cons, ih, h]

theorem sum_map_le {us : List Addr} {f g : Addr → Nat} (h : ∀ u ∈ us, f u ≤ g u) :
    (us.map f).sum ≤ (us.map g).sum := by
  induction us with
  | nil => simp
  | cons u t ih =>
    simp only [List.map_cons, List.sum_cons]
    have := h u List.mem_cons_self
    have := ih (fun v hv => h v (List.mem_cons_of_mem _ hv))
    omega

theorem aget_aset_same {κ : Type} [DecidableEq κ] (l : List (κ × Nat)) (k : κ) (v : Nat) :
    aget (aset l k v) k = v := by
  simp [aget, alook_aset_same]

theorem aget_aset_other {κ : Type} [DecidableEq κ] (l : List (κ × Nat)) {k k' : κ} (v : Nat) (h : k' ≠ k) :
    aget (aset l k v) k' = aget l k' := by
  simp [aget, alook_aset_other l v h]

def sumBy {κ α : Type} (f : α → Nat) : List (κ × α) → Nat
  | [] => 0
  | p :: t => f p.2 + sumBy f t

theorem sumBy_aset {κ α : Type} [DecidableEq κ] (f : α → Nat) {d : α} (hd : f d = 0)
    (l : List (κ × α)) (k : κ) (v : α) :
    sumBy f (aset l k v) + f ((alook l k).getD d) = sumBy f l + f v := by
  induction l with
  | nil => show f v + 0 + f d = 0 + f v; rw [hd, Nat.zero_add]; rfl
  | cons p t ih =>
    obtain ⟨k', v'⟩ := p
    show sumBy f (if k' = k then (k, v) :: t else (k', v') :: aset t k v)
        + f ((if k' = k then some v' else alook t k).getD d) = f v' + sumBy f t + f v
    split
    · show f v + sumBy f t + f v' = _
      omega
    · show f v' + sumBy f (aset t k v) + f ((alook t k).getD d) = _
      omega

def sumVals {κ : Type} : List (κ × Nat) → Nat
  | [] => 0
  | p :: t => p.2 + sumVals t

theorem sumVals_eq_sumBy {κ : Type} (l : List (κ × Nat)) : sumVals l = sumBy id l := by
  induction l with
  | nil => rfl
  | cons p t ih => exact congrArg (p.2 + ·) ih

theorem sumVals_aset {κ : Type} [DecidableEq κ] (l : List (κ × Nat)) (k : κ) (v : Nat) :
    sumVals (aset l k v) + aget l k = sumVals l + v := by
  rw [sumVals_eq_sumBy, sumVals_eq_sumBy]
  exact sumBy_aset id rfl l k v

theorem aget_le_sumVals {κ : Type} [DecidableEq κ] (l : List (κ × Nat)) (k : κ) : aget l k ≤ sumVals l := by
  have := sumVals_aset l k 0
  omega

/-- weight of a stored open position (`0` if `calculate_weight` would fail on it) -/
def posW (p : OpenPos) : Nat :=
  match calcWeight p.dur p.amt with
  | .ok w => w
  | _ => 0

def posSum : List OpenPos → Nat
  | [] => 0
  | p :: t => posW p + posSum t

theorem posSum_append (a b : List OpenPos) : posSum (a ++ b) = posSum a + posSum b := by
  induction a with
  | nil => exact (Nat.zero_add _).symm
  | cons p t ih =>
    show posW p + posSum (t ++ b) = posW p + posSum t + posSum b
    rw [ih, Nat.add_assoc]

theorem posW_of_ok {d a w : Nat} (h : calcWeight d a = .ok w) : posW { dur := d, amt := a } = w := by
  simp [posW, h]

def durs (ps : List OpenPos) : List Nat := ps.map (·.dur)

theorem find_some_mem {ps : List OpenPos} {d : Nat} {p : OpenPos}
    (h : ps.find? (fun p => decide (p.dur = d)) = some p) : p ∈ ps ∧ p.dur = d :=
  ⟨List.mem_of_find?_eq_some h, by simpa using List.find?_some h⟩

theorem not_mem_durs {ps : List OpenPos} {d : Nat}
    (h : (!ps.any (fun p => decide (p.dur = d))) = true) : d ∉ durs ps := by
  intro hm
  obtain ⟨x, hx, hxe⟩ := List.mem_map.mp hm
  rw [List.any_eq_true.mpr ⟨x, hx, decide_eq_true hxe⟩] at h
  cases h

theorem nodup_durs_append {ps : List OpenPos} {d a : Nat} (hn : (durs ps).Nodup) (hd : d ∉ durs ps) :
    (durs (ps ++ [{ dur := d, amt := a }])).Nodup := by
  unfold durs at *
  rw [List.map_append, List.nodup_append]
  refine ⟨hn, List.nodup_singleton _, fun x hx y hy hxy => hd ?_⟩
  rw [List.mem_singleton.mp hy] at hxy
  rw [show d = x from hxy.symm]; exact hx

/-- with distinct durations the position `p` splits the list, and filtering out or rewriting "the
    positions of duration `p.dur`" touches `p` alone -/
theorem split_at_dur {ps : List OpenPos} {p : OpenPos} (hn : (durs ps).Nodup) (hp : p ∈ ps) :
    ∃ l1 l2, ps = l1 ++ p :: l2
      ∧ ps.filter (fun q => decide (q.dur ≠ p.dur)) = l1 ++ l2
      ∧ ∀ a, ps.map (fun q => if q.dur = p.dur then { q with amt := a } else q)
          = l1 ++ { dur := p.dur, amt := a } :: l2 := by
  obtain ⟨l1, l2, rfl⟩ := List.append_of_mem hp
  simp only [durs, List.map_append, List.map_cons, List.nodup_append, List.nodup_cons, List.mem_map,
    List.mem_cons] at hn
  have h1 : ∀ q ∈ l1, q.dur ≠ p.dur := fun q hq he => hn.2.2 _ ⟨q, hq, rfl⟩ _ (Or.inl rfl) he
  have h2 : ∀ q ∈ l2, q.dur ≠ p.dur := fun q hq he => hn.2.1.1 ⟨q, hq, he⟩
  refine ⟨l1, l2, rfl, ?_, fun a => ?_⟩
  · rw [List.filter_append, List.filter_cons_of_neg (by simp),
      List.filter_eq_self.mpr (fun q hq => by simpa using h1 q hq),
      List.filter_eq_self.mpr (fun q hq => by simpa using h2 q hq)]
  · rw [List.map_append, List.map_cons, if_pos rfl]
    congr 1
    · conv_rhs => rw [← List.map_id l1]
      exact List.map_congr_left (fun q hq => if_neg (h1 q hq))
    · congr 1
      conv_rhs => rw [← List.map_id l2]
      exact List.map_congr_left (fun q hq => if_neg (h2 q hq))

theorem posW_le_posSum {ps : List OpenPos} {p : OpenPos} (h : p ∈ ps) : posW p ≤ posSum ps := by
  obtain ⟨l1, l2, rfl⟩ := List.append_of_mem h
  simp only [posSum_append, posSum]
  omega

theorem posSum_filter {ps : List OpenPos} {p : OpenPos} (hn : (durs ps).Nodup) (hp : p ∈ ps) :
    posSum (ps.filter (fun q => decide (q.dur ≠ p.dur))) + posW p = posSum ps := by
  obtain ⟨l1, l2, rfl, hf, _⟩ := split_at_dur hn hp
  simp only [hf, posSum_append, posSum]
  omega

theorem posSum_map {ps : List OpenPos} {p : OpenPos} (hn : (durs ps).Nodup) (hp : p ∈ ps) (newAmt : Nat) :
    posSum (ps.map (fun q => if q.dur = p.dur then { q with amt := newAmt } else q)) + posW p
      = posSum ps + posW { dur := p.dur, amt := newAmt } := by
  obtain ⟨l1, l2, rfl, _, hm⟩ := split_at_dur hn hp
  simp only [hm, posSum_append, posSum]
  omega

theorem durs_map_amt (ps : List OpenPos) (d newAmt : Nat) :
    durs (ps.map (fun q => if q.dur = d then { q with amt := newAmt } else q)) = durs ps := by
  unfold durs
  rw [List.map_map]
  apply List.map_congr_left
  intro q _
  dsimp only [Function.comp]
  split <;> rfl

theorem nodup_filter_durs {ps : List OpenPos} (d : Nat) (hn : (durs ps).Nodup) :
    (durs (ps.filter (fun q => decide (q.dur ≠ d)))).Nodup :=
  hn.sublist (List.filter_sublist.map _)

/-! ### what a successful handler has done

One statement per handler: the checks that passed and the state that results, spelt out as a record
update of the state before. Everything else said about a handler (which storage items it leaves alone,
which invariants it keeps) is read off these. -/

/-- `snapshot_global_weight_if_missing` on the snapshot map -/
def snapOf (sn : List (Nat × Nat)) (g ep : Nat) : List (Nat × Nat) :=
  match alook sn ep with
  | some _ => sn
  | none => aset sn ep g

theorem snapIfMissing_eq (s : St) (ep : Nat) :
    snapIfMissing s ep = { s with snap := snapOf s.snap s.global ep } := by
  cases h : alook s.snap ep <;> simp [snapIfMissing, snapOf, h]

/-- `add_weight`. The position handlers call it on `{ s with openPos := aset s.openPos r ps }`; what it returns
    there is `setPos s ep r ps (s.global + w) (aget s.addrW r + w)` by definition (used as such below). -/
theorem addWeight_ok {s s' : St} {ep : Nat} {r : Addr} {w : Nat} (h : addWeight s ep r w = .ok s') :
    s' = { s with snap := snapOf s.snap s.global ep, global := s.global + w,
                  addrW := aset s.addrW r (aget s.addrW r + w),
                  whist := aset s.whist (r, ep + 1) (aget s.addrW r + w) } := by
  simp only [addWeight, snapIfMissing_eq, Res.bind_eq_ok, cadd_eq_ok, Res.pure_eq, Res.ok.injEq] at h
  obtain ⟨_, ⟨_, rfl⟩, _, ⟨_, rfl⟩, rfl⟩ := h
  rfl

/-- what the three position handlers do once the positions of `r` are `ps`: the lazy snapshot of the
    epoch, the new global weight `g`, and the new weight `uw` of `r`, recorded for the next epoch -/
def setPos (s : St) (ep : Nat) (r : Addr) (ps : List OpenPos) (g uw : Nat) : St :=
  { s with openPos := aset s.openPos r ps, snap := snapOf s.snap s.global ep, global := g,
           addrW := aset s.addrW r uw, whist := aset s.whist (r, ep + 1) uw }

theorem openPosition_ok {c : Cfg} {s s' : St} {e : Env} {amount dur : Nat} {recv : Option Addr}
    {msgs : List Msg} {r : Addr} (hr : recv.getD e.sender = r)
    (h : openPosition c s e amount dur recv = .ok (s', msgs)) :
    ∃ w, s' = setPos s e.epoch r (openOf s r ++ [{ dur := dur, amt := amount }]) (s.global + w)
          (aget s.addrW r + w)
      ∧ validateFunds c e amount = .ok msgs ∧ dur ∉ durs (openOf s r) ∧ calcWeight dur amount = .ok w := by
  subst hr
  simp only [openPosition, Res.bind_eq_ok, guardErr_eq_ok, Res.pure_eq, Res.ok.injEq, Prod.mk.injEq] at h
  obtain ⟨_, _, _, hv, _, hg, w, hw, _, hs, rfl, rfl⟩ := h
  exact ⟨w, addWeight_ok hs, hv, not_mem_durs hg, hw⟩

theorem expandPosition_ok {c : Cfg} {s s' : St} {e : Env} {amount dur : Nat} {recv : Option Addr}
    {msgs : List Msg} {r : Addr} (hr : recv.getD e.sender = r)
    (h : expandPosition c s e amount dur recv = .ok (s', msgs)) :
    ∃ ps p w1 w0,
      s' = setPos s e.epoch r (ps.map (fun q => if q.dur = dur then { q with amt := p.amt + amount } else q))
          (s.global + (w1 - w0)) (aget s.addrW r + (w1 - w0))
      ∧ validateFunds c e amount = .ok msgs
      ∧ alook s.openPos r = some ps ∧ ps.find? (fun p => p.dur = dur) = some p
      ∧ p.amt + amount ≤ U128MAX
      ∧ calcWeight dur (p.amt + amount) = .ok w1 ∧ calcWeight dur p.amt = .ok w0 ∧ w0 ≤ w1 := by
  subst hr
  unfold expandPosition at h
  obtain ⟨m, hv, h⟩ := Res.bind_eq_ok.mp h
  dsimp only at h
  split at h
  · cases h
  · rename_i ps hps
    split at h
    · cases h
    · rename_i p hp
      simp only [Res.bind_eq_ok, cadd_eq_ok, padd_eq_ok, csub_eq_ok, Res.pure_eq, Res.ok.injEq,
        Prod.mk.injEq] at h
      obtain ⟨_, ⟨hle, rfl⟩, _, ⟨_, rfl⟩, w1, hw1, w0, hw0, _, ⟨hw, rfl⟩, _, hs, rfl, rfl⟩ := h
      exact ⟨ps, p, w1, w0, addWeight_ok hs, hv, hps, hp, hle, hw1, hw0, hw⟩

theorem closePosition_ok {s s' : St} {e : Env} {dur : Nat} {msgs : List Msg}
    (h : closePosition s e dur = .ok (s', msgs)) :
    ∃ ps p w,
      s' = { setPos s e.epoch e.sender (ps.filter (fun q => q.dur ≠ dur)) (s.global - w)
               (aget s.addrW e.sender - w) with
             closedPos := aset s.closedPos e.sender
               (closedOf s e.sender ++ [{ amt := p.amt, ts := e.time + p.dur }]) }
      ∧ msgs = []
      ∧ alook s.openPos e.sender = some ps ∧ ps.find? (fun p => p.dur = dur) = some p
      ∧ calcWeight dur p.amt = .ok w := by
  unfold closePosition at h
  obtain ⟨_, _, h⟩ := Res.bind_eq_ok.mp h
  split at h
  · cases h
  · rename_i ps hps
    split at h
    · cases h
    · rename_i p hp
      simp only [Res.bind_eq_ok, snapIfMissing_eq, Res.pure_eq, Res.ok.injEq, Prod.mk.injEq] at h
      obtain ⟨_, _, w, hw, rfl, rfl⟩ := h
      exact ⟨ps, p, w, rfl, rfl, hps, hp, hw⟩

def closedSum : List ClosedPos → Nat
  | [] => 0
  | p :: t => closedSum t + p.amt

theorem sumClosed_eq {l : List ClosedPos} {tot : Nat} (h : sumClosed l = .ok tot) : tot = closedSum l := by
  induction l generalizing tot with
  | nil => cases h; rfl
  | cons p t ih =>
    simp only [sumClosed, Res.bind_eq_ok, cadd_eq_ok] at h
    obtain ⟨r, hr, _, rfl⟩ := h
    rw [ih hr]; rfl

theorem withdrawOp_ok {s s' : St} {e : Env} {m : List Msg} (h : withdrawOp s e = .ok (s', m)) :
    s' = { s with closedPos := aset s.closedPos e.sender [] }
      ∧ sumClosed (closedOf s e.sender) = .ok (closedSum (closedOf s e.sender))
      ∧ m = if closedSum (closedOf s e.sender) = 0 then []
            else [.send INC e.sender 0 (closedSum (closedOf s e.sender))] := by
  simp only [withdrawOp, Res.bind_eq_ok, Res.pure_eq] at h
  obtain ⟨tot, ht, h⟩ := h
  cases sumClosed_eq ht
  split at h <;> rename_i h0 <;> cases h
  · exact ⟨rfl, ht, (if_pos h0).symm⟩
  · exact ⟨rfl, ht, (if_neg h0).symm⟩

theorem takeSnapshot_ok {s s' : St} {e : Env} {m : List Msg} (h : takeSnapshot s e = .ok (s', m)) :
    s' = { s with snap := aset s.snap e.epoch s.global } ∧ m = [] ∧ alook s.snap e.epoch = none := by
  unfold takeSnapshot at h
  split at h
  · cases h
  · rename_i hn
    simp only [Res.ok.injEq, Prod.mk.injEq] at h
    exact ⟨h.1.symm, h.2.symm, hn⟩

theorem claimCore_ok {s s' : St} {u ep : Nat} {m : List Msg} (h : claimCore s u ep = .ok (s', m)) :
    ∃ fl, s' = { s with flows := fl,
                        whist := aset (s.whist.filter (fun p => p.1.1 ≠ u)) (u, ep + 1) (aget s.addrW u),
                        lastClaimed := aset s.lastClaimed u ep }
      ∧ claimFlows s u ep s.flows = .ok (fl, m) ∧ alook s.lastClaimed u ≠ some ep := by
  unfold claimCore at h
  split at h
  · cases h
  · rename_i hn
    split at h
    · rename_i fl msgs hf
      simp only [Res.ok.injEq, Prod.mk.injEq] at h
      obtain ⟨rfl, rfl⟩ := h
      exact ⟨fl, rfl, hf, hn⟩
    · cases h
    · cases h

theorem claimExec_ok {s s' : St} {e : Env} {m : List Msg} (h : claimExec s e = .ok (s', m)) :
    alook s.snap e.epoch ≠ none ∧ claimCore s e.sender e.epoch = .ok (s', m) := by
  unfold claimExec at h
  split at h
  · cases h
  · rename_i g hg
    exact ⟨by rw [hg]; simp, h⟩

theorem openFlow_ok {c : Cfg} {s s' : St} {e : Env} {a amount : Nat} {start end_ : Option Nat} {msgs : List Msg}
    (h : openFlow c s e a amount start end_ = .ok (s', msgs)) :
    ∃ x y m0 m1 f, s' = { s with flowCounter := s.flowCounter + 1, flows := insertFlow f s.flows }
      ∧ openFlowFee c e a amount = .ok (x, m0) ∧ openFlowAsset c e a x = .ok (y, m1) ∧ msgs = m0 ++ m1
      ∧ f.id = s.flowCounter + 1 ∧ f.creator = e.sender ∧ f.asset = a ∧ f.amount = y ∧ f.claimed = 0
      ∧ f.hist = [] ∧ INCENTIVE_MIN_FLOW_AMOUNT ≤ amount := by
  simp only [openFlow, Res.bind_eq_ok, guardErr_eq_ok, decide_eq_true_eq, Res.pure_eq, Res.ok.injEq,
    Prod.mk.injEq, exists_const] at h
  obtain ⟨hmin, ⟨x, m0⟩, hfee, _, ⟨y, m1⟩, hasset, _, _, _, rfl, rfl⟩ := h
  exact ⟨x, y, m0, m1, _, rfl, hfee, hasset, rfl, rfl, rfl, rfl, rfl, rfl, rfl, hmin⟩

/-- the flow `expand_flow` works on: the stored one, or — when the expanded end is more than the
    expansion limit after the start — the reset one (unclaimed rest as a fresh flow from this epoch) -/
def resetFlow (f : Flow) (epoch : Nat) : Flow :=
  if f.expanded.2 - f.startE > INCENTIVE_FLOW_EXPANSION_LIMIT then
    { f with amount := (match f.lastHist with
                        | some (_, (fa, _)) => fa
                        | none => f.amount) - f.claimed,
             startE := epoch, endE := f.expanded.2, claimed := 0, hist := [], emitted := [] }
  else f

/-- the asset-history update of `expand_flow` -/
def addHist (f1 : Flow) (epoch amount endE : Nat) : Res Flow :=
  match alook f1.hist (epoch + 1) with
  | some (ea, _) => do
    let t ← cadd U128MAX ea amount
    pure { f1 with hist := aset f1.hist (epoch + 1) (t, endE) }
  | none => do
    let t ← cadd U128MAX (f1.amountAt epoch) amount
    pure { f1 with hist := aset f1.hist (epoch + 1) (t, endE) }

theorem expandFlow_ok {c : Cfg} {s s' : St} {e : Env} {id a amount : Nat} {end_ : Option Nat} {msgs : List Msg}
    (h : expandFlow c s e id a amount end_ = .ok (s', msgs)) :
    ∃ f f2 endE, s' = { s with flows := insertFlow f2 (removeFlow s.flows id) }
      ∧ findFlow s.flows id = some f ∧ f.asset = a ∧ expandFlowFunds c e a amount = .ok msgs
      ∧ addHist (resetFlow f e.epoch) e.epoch amount endE = .ok f2 := by
  unfold expandFlow at h
  split at h
  · cases h
  · rename_i f hf
    simp only [Res.bind_eq_ok, guardErr_eq_ok, decide_eq_true_eq, Res.pure_eq, Res.ok.injEq,
      Prod.mk.injEq, exists_const] at h
    obtain ⟨_, hfa, m, hm, _, f2, hf2, _, _, _, _, rfl, rfl⟩ := h
    exact ⟨f, f2, _, rfl, hf, hfa, hm, hf2⟩

theorem findFlow_removeFlow (fl : List Flow) (id : Nat) : findFlow (removeFlow fl id) id = none := by
  simp [findFlow, removeFlow]

theorem closeFlow_ok {s s' : St} {e : Env} {id : Nat} {m : List Msg} (h : closeFlow s e id = .ok (s', m)) :
    ∃ f, s' = { s with flows := removeFlow s.flows id } ∧ findFlow s.flows id = some f
      ∧ (f.creator = e.sender ∨ e.sender = OWNER)
      ∧ m = [.send INC f.creator f.asset (f.funded - f.claimed)] := by
  unfold closeFlow at h
  split at h
  · cases h
  · rename_i f hf
    split at h
    · cases h
    · rename_i hauth
      cases h
      exact ⟨f, rfl, hf, by simpa [or_iff_not_imp_left] using hauth, rfl⟩

/-- the ledger the helper's call of the contract finds: the depositor's funds go to the helper, the helper
    pulls the cw20 and passes all funds on to the pair, the pair pulls the cw20 and hands the LP to the helper,
    and (native LP) the helper attaches its whole LP balance `lp`. Asset `3` is the pair's cw20, asset `0`
    the LP token. What the pair minted (`lp0`) is left open: the contract only sees the helper's balance `lp`. -/
def HelperFrame (c : Cfg) (b0 : Bal) (e : Env) (a1 lp : Nat) (b : Bal) : Prop :=
  ∃ b1 b2 b3 b4 b5 lp0, attachFunds c b0 e.sender HELPER (fundsOf c e.offers) = .ok b1
    ∧ applyMsgs c b1 (allowOf c e.offers) [.pull e.sender HELPER 3 a1] = .ok b2
    ∧ attachFunds c b2 HELPER PAIR (fundsOf c e.offers) = .ok b3
    ∧ applyMsgs c b3 [(3, a1)] [.pull HELPER PAIR 3 a1] = .ok b4
    ∧ applyMsgs c b4 [] [.send PAIR HELPER 0 lp0] = .ok b5
    ∧ lp = aget b5 (HELPER, 0)
    ∧ (if c.native 0 then attachFunds c b5 HELPER INC [(0, lp)] else pure b5) = .ok b

/-- the handler call a transaction amounts to, and the ledger `b` it finds when the ledger before was `b0`:
    the operation itself with the sender's funds attached, or — for a helper deposit — the `open_position` /
    `expand_position` the helper makes for the depositor with the LP tokens it got from the pair -/
inductive Call (c : Cfg) (b0 : Bal) (e : Env) : Op → Bal → Env → Op → Prop
  | self (op : Op) (b : Bal) (hb : attachFunds c b0 e.sender INC (fundsOf c e.offers) = .ok b) : Call c b0 e op b e op
  | helperOpen (a0 a1 dur lp : Nat) (b : Bal) (hb : HelperFrame c b0 e a1 lp b) :
      Call c b0 e (.helperDeposit a0 a1 dur) b { e with sender := HELPER, offers := [(0, lp)] }
        (.openPos lp dur (some e.sender))
  | helperExpand (a0 a1 dur lp : Nat) (b : Bal) (hb : HelperFrame c b0 e a1 lp b) :
      Call c b0 e (.helperDeposit a0 a1 dur) b { e with sender := HELPER, offers := [(0, lp)] }
        (.expandPos lp dur (some e.sender))

theorem Call.epoch {c : Cfg} {b0 b : Bal} {e e' : Env} {op op' : Op} (h : Call c b0 e op b e' op') :
    e'.epoch = e.epoch := by
  cases h <;> rfl

theorem Call.sender {c : Cfg} {b0 b : Bal} {e e' : Env} {op op' : Op} (h : Call c b0 e op b e' op')
    (hs : e.sender ≠ INC) : e'.sender ≠ INC := by
  cases h
  · exact hs
  all_goals exact (by decide : HELPER ≠ INC)

theorem Call.offers {c : Cfg} {b0 b : Bal} {e e' : Env} {op op' : Op} (h : Call c b0 e op b e' op')
    (hn : (keysOf e.offers).Nodup) :
    (keysOf e'.offers).Nodup := by
  cases h
  · exact hn
  all_goals simp [keysOf]

/-- every accepted transaction is one handler call (`Call`) between two changes of the ledger: the funds
    arrive, the handler runs, its messages are applied. This is what the contract sees of a helper deposit;
    for the helper's own four messages use `step_helperDeposit_iff`. -/
theorem step_ok {c : Cfg} {s s' : St} {e : Env} {op : Op} (h : step c s e op = .ok s') :
    ∃ e' op' b s1 msgs b1, Call c s.bal e op b e' op' ∧ handler c { s with bal := b } e' op' = .ok (s1, msgs)
      ∧ applyMsgs c s1.bal (allowOf c e'.offers) msgs = .ok b1 ∧ s' = { s1 with bal := b1 } := by
  unfold step at h
  split at h
  · rename_i a0 a1 dur
    simp only [helperDeposit, Res.bind_eq_ok, Res.pure_eq, Res.ok.injEq] at h
    -- in the order of the binds: funds to the helper, allowance check, pull, funds to the pair, pair's funds
    -- check, LP amount, non-zero check, pair's pull, LP to the helper, weights query, helper's funds, position
    -- handler, its messages
    obtain ⟨b1, hb1, _, _, b2, hb2, b3, hb3, _, _, lp0, _, _, _, b4, hb4, b5, hb5, _, _, b, hb, ⟨s3, msgs⟩, h3,
      b6, hb6, rfl⟩ := h
    have hf : HelperFrame c s.bal e a1 (aget b5 (HELPER, 0)) b := ⟨b1, b2, b3, b4, b5, lp0, hb1, hb2, hb3, hb4, hb5, rfl, hb⟩
    generalize aget b5 (HELPER, 0) = lp at h3 hb6 hf
    split at h3
    · exact ⟨_, _, b, s3, msgs, b6, .helperExpand a0 a1 dur lp b hf, h3, hb6, rfl⟩
    · exact ⟨_, _, b, s3, msgs, b6, .helperOpen a0 a1 dur lp b hf, h3, hb6, rfl⟩
  · simp only [Res.bind_eq_ok, Res.pure_eq, Res.ok.injEq] at h
    obtain ⟨b, hb, ⟨s1, msgs⟩, h1, b1, hb1, rfl⟩ := h
    exact ⟨e, op, b, s1, msgs, b1, .self op b hb, h1, hb1, rfl⟩

/-- the weight invariant: the global weight is the sum of the address weights, an address's weight is the sum
    of the weights of its open positions, and it has at most one position per unbonding duration -/
structure WInv (s : St) : Prop where
  global_sum : s.global = sumVals s.addrW
  addr : ∀ u, aget s.addrW u = posSum (openOf s u)
  nodup : ∀ u, (durs (openOf s u)).Nodup

/-- the part of the state the weight invariant talks about -/
def wcore (s : St) : List (Addr × List OpenPos) × Nat × List (Addr × Nat) := (s.openPos, s.global, s.addrW)

theorem WInv.of_wcore {s s' : St} (h : WInv s) (hc : wcore s' = wcore s) : WInv s' := by
  simp only [wcore, Prod.mk.injEq] at hc
  obtain ⟨h1, h2, h3⟩ := hc
  refine ⟨?_, fun u => ?_, fun u => ?_⟩
  · rw [h2, h3]; exact h.global_sum
  · unfold openOf; rw [h1, h3]; exact h.addr u
  · unfold openOf; rw [h1]; exact h.nodup u

theorem WInv.with_bal {s : St} (h : WInv s) (b : Bal) : WInv { s with bal := b } :=
  h.of_wcore rfl

theorem openOf_aset {s s' : St} {r : Addr} {ps : List OpenPos} (h : s'.openPos = aset s.openPos r ps) :
    openOf s' r = ps ∧ ∀ u, u ≠ r → openOf s' u = openOf s u := by
  unfold openOf
  rw [h]
  exact ⟨by rw [alook_aset_same]; rfl, fun u hu => by rw [alook_aset_other _ _ hu]⟩

theorem openOf_aset_same (s : St) (r : Addr) (ps : List OpenPos) :
    openOf { s with openPos := aset s.openPos r ps } r = ps :=
  (openOf_aset rfl).1

theorem openOf_aset_other (s : St) {r u : Addr} (ps : List OpenPos) (h : u ≠ r) :
    openOf { s with openPos := aset s.openPos r ps } u = openOf s u :=
  (openOf_aset rfl).2 u h

theorem openOf_of_alook {s : St} {r : Addr} {ps : List OpenPos} (h : alook s.openPos r = some ps) :
    openOf s r = ps := by simp [openOf, h]

/-- the positions of `r` become `ps` (durations distinct); with `a` the weight taken off and `b` the weight
    put on, the sum over `r`'s positions, `r`'s weight and the global weight all move by `- a + b` -/
theorem WInv.update {s s' : St} (h : WInv s) {r : Addr} {ps : List OpenPos} {a b uw : Nat}
    (hn : (durs ps).Nodup) (hsum : posSum ps + a = posSum (openOf s r) + b)
    (h1 : s'.openPos = aset s.openPos r ps) (h2 : s'.global + a = s.global + b)
    (h3 : s'.addrW = aset s.addrW r uw) (hu : uw + a = aget s.addrW r + b) : WInv s' := by
  obtain ⟨hsame, hother⟩ := openOf_aset h1
  refine ⟨?_, fun u => ?_, fun u => ?_⟩
  · have e1 := sumVals_aset s.addrW r uw
    have e2 := h.global_sum
    rw [h3]
    clear hsame hother hsum h1 h3
    omega
  · by_cases hur : u = r
    · rw [hur, hsame, h3, aget_aset_same]
      exact Nat.add_right_cancel (hu.trans ((congrArg (· + b) (h.addr r)).trans hsum.symm))
    · rw [hother u hur, h3, aget_aset_other _ _ hur]; exact h.addr u
  · by_cases hur : u = r
    · rw [hur, hsame]; exact hn
    · rw [hother u hur]; exact h.nodup u

theorem openPosition_WInv {c : Cfg} {s s' : St} {e : Env} {amount dur : Nat} {recv : Option Addr}
    {msgs : List Msg} (hI : WInv s) (h : openPosition c s e amount dur recv = .ok (s', msgs)) : WInv s' := by
  obtain ⟨w, rfl, _, hnot, hw⟩ := openPosition_ok rfl h
  refine hI.update (a := 0) (b := w) (nodup_durs_append (hI.nodup _) hnot) ?_ rfl rfl rfl rfl
  rw [posSum_append]
  show _ + (posW _ + 0) + 0 = _
  rw [posW_of_ok hw]; rfl

theorem expandPosition_WInv {c : Cfg} {s s' : St} {e : Env} {amount dur : Nat} {recv : Option Addr}
    {msgs : List Msg} (hI : WInv s) (h : expandPosition c s e amount dur recv = .ok (s', msgs)) : WInv s' := by
  obtain ⟨ps, p, w1, w0, rfl, _, hps, hp, _, hw1, hw0, hle⟩ := expandPosition_ok rfl h
  obtain ⟨hpm, rfl⟩ := find_some_mem hp
  have hops := openOf_of_alook hps
  have hnd : (durs ps).Nodup := hops ▸ hI.nodup _
  have hsum := posSum_map hnd hpm (p.amt + amount)
  rw [posW_of_ok hw1, show posW p = w0 from posW_of_ok hw0, ← hops] at hsum
  have hadd : ∀ x, x + (w1 - w0) + w0 = x + w1 := fun x => by rw [Nat.add_assoc, Nat.sub_add_cancel hle]
  refine hI.update (a := w0) (b := w1) ?_ (hops ▸ hsum) rfl (hadd _) rfl (hadd _)
  rw [durs_map_amt]; exact hnd

theorem closePosition_WInv {s s' : St} {e : Env} {dur : Nat} {msgs : List Msg} (hI : WInv s)
    (h : closePosition s e dur = .ok (s', msgs)) : WInv s' := by
  obtain ⟨ps, p, w, rfl, _, hps, hp, hw⟩ := closePosition_ok h
  obtain ⟨hpm, rfl⟩ := find_some_mem hp
  have hops := openOf_of_alook hps
  have hnd : (durs ps).Nodup := hops ▸ hI.nodup _
  have hp0 : posW p = w := posW_of_ok hw
  have hsum := posSum_filter hnd hpm
  rw [hp0, ← hops] at hsum
  -- the weight taken off is covered by the address's weight, and that by the global weight
  have hle : w ≤ aget s.addrW e.sender := by
    rw [hI.addr, hops, ← hp0]; exact posW_le_posSum hpm
  have hle' : w ≤ s.global := hI.global_sum ▸ Nat.le_trans hle (aget_le_sumVals _ _)
  exact hI.update (a := w) (b := 0) (nodup_filter_durs _ hnd) (hops ▸ hsum) rfl
    (Nat.sub_add_cancel hle') rfl (Nat.sub_add_cancel hle)

theorem handler_WInv {c : Cfg} {s s' : St} {e : Env} {op : Op} {m : List Msg} (hI : WInv s)
    (h : handler c s e op = .ok (s', m)) : WInv s' := by
  cases op with
  | openPos amt dur recv => exact openPosition_WInv hI h
  | expandPos amt dur recv => exact expandPosition_WInv hI h
  | closePos dur => exact closePosition_WInv hI h
  | withdraw => obtain ⟨rfl, -⟩ := withdrawOp_ok h; exact hI.of_wcore rfl
  | claim =>
    obtain ⟨_, rfl, -⟩ := claimCore_ok (claimExec_ok h).2
    exact hI.of_wcore rfl
  | snapshot => rw [(takeSnapshot_ok h).1]; exact hI.of_wcore rfl
  | openFlow a amt st en => obtain ⟨_, _, _, _, _, rfl, -⟩ := openFlow_ok h; exact hI.of_wcore rfl
  | expandFlow id a amt en => obtain ⟨_, _, _, rfl, -⟩ := expandFlow_ok h; exact hI.of_wcore rfl
  | closeFlow id => obtain ⟨_, rfl, -⟩ := closeFlow_ok h; exact hI.of_wcore rfl
  | helperDeposit a0 a1 dur => cases h
  | helperDepositAs x0 x1 a0 a1 dur => cases h

theorem step_WInv {c : Cfg} {s s' : St} {e : Env} {op : Op} (hI : WInv s)
    (h : step c s e op = .ok s') : WInv s' := by
  obtain ⟨_, _, b, s1, msgs, b1, -, h1, -, rfl⟩ := step_ok h
  exact (handler_WInv (hI.with_bal b) h1).with_bal b1

/-- what every accepted transaction keeps, every history keeps (a refused one leaves the state alone) -/
theorem reach_keeps {c : Cfg} {P : St → Prop}
    (hstep : ∀ {s s' e op}, P s → step c s e op = .ok s' → P s') {s : St} (hP : P s) (ops : List (Env × Op)) :
    P (reach c s ops) := by
  induction ops generalizing s with
  | nil => exact hP
  | cons p t ih =>
    refine ih ?_
    unfold stepOrStay
    split
    · rename_i s' h; exact hstep hP h
    · exact hP

theorem reach_WInv {c : Cfg} {s : St} (hI : WInv s) (ops : List (Env × Op)) : WInv (reach c s ops) :=
  reach_keeps step_WInv hI ops

/-- epochs never go back along a history (the first one is at least `ep`) -/
def EpochsFrom : Nat → List (Env × Op) → Prop
  | _, [] => True
  | ep, p :: t => ep ≤ p.1.epoch ∧ EpochsFrom p.1.epoch t

/-- the same for what is stated about a current epoch and stays true as epochs pass, along a history whose
    epochs never go back; whatever follows (`t`) goes on from the epoch reached -/
theorem reach_keeps_from {c : Cfg} {P : St → Nat → Prop} (hadv : ∀ {s ep ep'}, P s ep → ep ≤ ep' → P s ep')
    (hstep : ∀ {s s' e op}, P s e.epoch → step c s e op = .ok s' → P s' e.epoch) (t : List (Env × Op)) :
    ∀ (ops : List (Env × Op)) (s : St) (ep : Nat), P s ep → EpochsFrom ep (ops ++ t) →
      ∃ ep', P (reach c s ops) ep' ∧ EpochsFrom ep' t := by
  intro ops
  induction ops with
  | nil => intro s ep hP hep; exact ⟨ep, hP, hep⟩
  | cons p u ih =>
    intro s ep hP hep
    refine ih _ p.1.epoch ?_ hep.2
    unfold stepOrStay
    split
    · rename_i s' h; exact hstep (hadv hP hep.1) h
    · exact hadv hP hep.1

theorem init_WInv (e0 : Nat) (bal : Bal) : WInv (init e0 bal) := by
  constructor
  · rfl
  · intro u; rfl
  · intro u; simp [init, openOf, alook, durs]

end WW.Inc
