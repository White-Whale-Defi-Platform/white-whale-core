/- Helper lemmas for the chained vault-router model (WW/Model/VaultChain.lean): per-step
   characterisations and the induction over the chain of `NextLoan`s (any number of vaults, any
   payload). Accounts as numbered in the model's header: 0–4 ordinary (3 the funding contract, 4 the fee
   collector), 5 the router, `6 + j` vault `j`'s own funds. Property theorems are in WW/Props/C06.lean. -/
import WW.Model.VaultChain
import Mathlib.Tactic.SplitIfs
namespace WW.VaultChain
open WW
open WW.Vault (VFees fee)

theorem upd_same (f : Nat → Nat) (i v : Nat) : upd f i v i = v := by simp [upd]
theorem upd_ne (f : Nat → Nat) (i v x : Nat) (h : x ≠ i) : upd f i v x = f x := by simp [upd, h]
theorem upd2_same (f : Nat → Nat → Nat) (j a v : Nat) : upd2 f j a v j a = v := by simp [upd2, upd]
theorem upd2_ne_asset (f : Nat → Nat → Nat) (j a v x y : Nat) (h : x ≠ j) : upd2 f j a v x y = f x y := by
  simp [upd2, h]
theorem upd2_ne_acct (f : Nat → Nat → Nat) (j a v y : Nat) (h : y ≠ a) : upd2 f j a v j y = f j y := by
  simp [upd2, upd, h]

/-- what a plain transfer of `n` of asset `j` from `src` to `dst` does (`src = dst` allowed) -/
structure MoveSpec (s s' : St) (j src dst n : Nat) : Prop where
  funded : n ≤ s.bal j src
  pend : s'.pend = s.pend
  allTime : s'.allTime = s.allTime
  burned : s'.burned = s.burned
  ctr : s'.ctr = s.ctr
  otherAsset : ∀ x y, x ≠ j → s'.bal x y = s.bal x y
  otherAcct : ∀ y, y ≠ src → y ≠ dst → s'.bal j y = s.bal j y
  srcBal : src ≠ dst → s'.bal j src = s.bal j src - n
  dstBal : src ≠ dst → s'.bal j dst = s.bal j dst + n
  selfBal : src = dst → s'.bal j src = s.bal j src

theorem move_spec {c : Cfg} {s s' : St} {j src dst n : Nat} (h : move c s j src dst n = some s') :
    MoveSpec s s' j src dst n := by
  unfold move at h
  split_ifs at h with hc
  simp only [Option.some.injEq] at h
  subst h
  have hf : n ≤ s.bal j src := by omega
  refine ⟨hf, rfl, rfl, rfl, rfl, ?_, ?_, ?_, ?_, ?_⟩
  · intro x y hx
    simp only []
    rw [upd2_ne_asset _ _ _ _ _ _ hx, upd2_ne_asset _ _ _ _ _ _ hx]
  · intro y h1 h2
    simp only []
    rw [upd2_ne_acct _ _ _ _ _ h2, upd2_ne_acct _ _ _ _ _ h1]
  · intro hne
    simp only []
    rw [upd2_ne_acct _ _ _ _ _ hne, upd2_same]
  · intro hne
    simp only []
    rw [upd2_same, upd2_ne_acct _ _ _ _ _ (Ne.symm hne)]
  · intro he
    subst he
    simp only []
    rw [upd2_same, upd2_same]
    omega

theorem quote_spec {c : Cfg} {s : St} {e : Nat × Nat} {q : Nat × Nat × Nat} (h : quote c s e = some q) :
    q = (e.1, payback c e.1 e.2, s.bal e.1 5 - payback c e.1 e.2) ∧
    e.1 < c.nv ∧ payback c e.1 e.2 ≤ U128MAX ∧ payback c e.1 e.2 ≤ s.bal e.1 5 := by
  unfold quote at h
  split_ifs at h with h1 h2 h3
  exact ⟨(Option.some.inj h).symm, by omega, by omega, by omega⟩

/-- the closed form of the query phase -/
theorem quotes_spec {c : Cfg} {s : St} {L : List (Nat × Nat)} {qs : List (Nat × Nat × Nat)}
    (h : quotes c s L = some qs) :
    qs = L.map (fun e => (e.1, payback c e.1 e.2, s.bal e.1 5 - payback c e.1 e.2)) ∧
    ∀ e ∈ L, e.1 < c.nv ∧ payback c e.1 e.2 ≤ U128MAX ∧ payback c e.1 e.2 ≤ s.bal e.1 5 := by
  induction L generalizing qs with
  | nil =>
    obtain rfl := Option.some.inj h
    exact ⟨rfl, nofun⟩
  | cons e es ih =>
    rw [quotes] at h
    cases hq : quote c s e with
    | none => rw [hq] at h; cases h
    | some q =>
      rw [hq] at h
      cases hqs : quotes c s es with
      | none => rw [hqs] at h; cases h
      | some qs' =>
        rw [hqs] at h
        obtain rfl := Option.some.inj h
        obtain ⟨rfl, he⟩ := quote_spec hq
        obtain ⟨rfl, hes⟩ := ih hqs
        exact ⟨rfl, List.forall_mem_cons.mpr ⟨he, hes⟩⟩

theorem quotes_short {c : Cfg} {s : St} {L : List (Nat × Nat)}
    (h : ∃ e ∈ L, s.bal e.1 5 < payback c e.1 e.2) : quotes c s L = none := by
  cases hq : quotes c s L with
  | none => rfl
  | some qs =>
    obtain ⟨e, he, hlt⟩ := h
    have := (quotes_spec hq).2 e he
    omega

/-- the two messages of one entry, when the router holds exactly payback + profit of the asset -/
structure Settle1Spec (s s2 : St) (I : Nat) (q : Nat × Nat × Nat) : Prop where
  pend : s2.pend = s.pend
  allTime : s2.allTime = s.allTime
  burned : s2.burned = s.burned
  ctr : s2.ctr = s.ctr
  otherAsset : ∀ x y, x ≠ q.1 → s2.bal x y = s.bal x y
  router : s2.bal q.1 5 = 0
  vault : s2.bal q.1 (6 + q.1) = s.bal q.1 (6 + q.1) + q.2.1
  initiator : s2.bal q.1 I = s.bal q.1 I + q.2.2
  otherAcct : ∀ y, y ≠ 5 → y ≠ I → y ≠ 6 + q.1 → s2.bal q.1 y = s.bal q.1 y

theorem settle1_spec {c : Cfg} {s s2 : St} {I : Nat} {q : Nat × Nat × Nat}
    (hI5 : I ≠ 5) (hIv : I ≠ 6 + q.1) (hb : s.bal q.1 5 = q.2.1 + q.2.2)
    (h : settle1 c s I q = some s2) : Settle1Spec s s2 I q := by
  unfold settle1 at h
  cases hm : move c s q.1 5 (6 + q.1) q.2.1 with
  | none => rw [hm] at h; cases h
  | some s1 =>
    rw [hm] at h
    simp only [] at h
    have m1 := move_spec hm
    have hne : (5 : Nat) ≠ 6 + q.1 := by omega
    have r1 : s1.bal q.1 5 = q.2.2 := by rw [m1.srcBal hne, hb]; omega
    have v1 : s1.bal q.1 (6 + q.1) = s.bal q.1 (6 + q.1) + q.2.1 := m1.dstBal hne
    split_ifs at h with hz
    · simp only [Option.some.injEq] at h
      subst h
      refine ⟨m1.pend, m1.allTime, m1.burned, m1.ctr, m1.otherAsset, by rw [r1, hz], v1, ?_, ?_⟩
      · rw [m1.otherAcct I hI5 hIv, hz]; rfl
      · intro y h1 _ h3; exact m1.otherAcct y h1 h3
    · have m2 := move_spec h
      have hne2 : (5 : Nat) ≠ I := Ne.symm hI5
      refine ⟨m2.pend.trans m1.pend, m2.allTime.trans m1.allTime, m2.burned.trans m1.burned,
        m2.ctr.trans m1.ctr, ?_, ?_, ?_, ?_, ?_⟩
      · intro x y hx; rw [m2.otherAsset x y hx, m1.otherAsset x y hx]
      · rw [m2.srcBal hne2, r1]; omega
      · rw [m2.otherAcct _ (Ne.symm hne) (Ne.symm hIv), v1]
      · rw [m2.dstBal hne2, m1.otherAcct I hI5 hIv]
      · intro y h1 h2 h3; rw [m2.otherAcct y h1 h2, m1.otherAcct y h1 h3]

/-- the message phase over pairwise different assets -/
structure SettleSpec (s s' : St) (I : Nat) (qs : List (Nat × Nat × Nat)) : Prop where
  pend : s'.pend = s.pend
  allTime : s'.allTime = s.allTime
  burned : s'.burned = s.burned
  ctr : s'.ctr = s.ctr
  otherAsset : ∀ x, (∀ q ∈ qs, q.1 ≠ x) → ∀ y, s'.bal x y = s.bal x y
  router : ∀ q ∈ qs, s'.bal q.1 5 = 0
  vault : ∀ q ∈ qs, s'.bal q.1 (6 + q.1) = s.bal q.1 (6 + q.1) + q.2.1
  initiator : ∀ q ∈ qs, s'.bal q.1 I = s.bal q.1 I + q.2.2
  otherAcct : ∀ q ∈ qs, ∀ y, y ≠ 5 → y ≠ I → y ≠ 6 + q.1 → s'.bal q.1 y = s.bal q.1 y

theorem fst_ne_of_not_mem {α : Type} {a : Nat} {l : List (Nat × α)} (h : a ∉ l.map (·.1)) :
    ∀ x ∈ l, x.1 ≠ a :=
  fun _ hx heq => h (heq ▸ List.mem_map_of_mem hx)

theorem SettleSpec.nil (s : St) (I : Nat) : SettleSpec s s I [] :=
  ⟨rfl, rfl, rfl, rfl, fun _ _ _ => rfl, nofun, nofun, nofun, nofun⟩

/-- one more entry is settled before the others -/
theorem SettleSpec.cons {s s2 s' : St} {I : Nat} {q : Nat × Nat × Nat} {qs : List (Nat × Nat × Nat)}
    (S1 : Settle1Spec s s2 I q) (hne : ∀ q' ∈ qs, q'.1 ≠ q.1) (S : SettleSpec s2 s' I qs) :
    SettleSpec s s' I (q :: qs) := by
  -- the later entries leave the first entry's asset alone, the first entry leaves theirs alone
  have hd : s'.bal q.1 = s2.bal q.1 := funext (S.otherAsset _ hne)
  have tl : ∀ q' ∈ qs, s2.bal q'.1 = s.bal q'.1 := fun q' hq' =>
    funext fun y => S1.otherAsset _ y (hne q' hq')
  refine ⟨S.pend.trans S1.pend, S.allTime.trans S1.allTime, S.burned.trans S1.burned,
    S.ctr.trans S1.ctr, ?_, List.forall_mem_cons.mpr ⟨hd ▸ S1.router, S.router⟩,
    List.forall_mem_cons.mpr ⟨hd ▸ S1.vault, fun q' hq' => tl q' hq' ▸ S.vault q' hq'⟩,
    List.forall_mem_cons.mpr ⟨hd ▸ S1.initiator, fun q' hq' => tl q' hq' ▸ S.initiator q' hq'⟩,
    List.forall_mem_cons.mpr ⟨hd ▸ S1.otherAcct, fun q' hq' => tl q' hq' ▸ S.otherAcct q' hq'⟩⟩
  intro x hx y
  obtain ⟨hx1, hx2⟩ := List.forall_mem_cons.mp hx
  rw [S.otherAsset x hx2 y, S1.otherAsset x y (Ne.symm hx1)]

theorem settle_spec {c : Cfg} {I : Nat} (hI : I < 5) :
    ∀ (qs : List (Nat × Nat × Nat)) (s s' : St), (qs.map (·.1)).Nodup →
      (∀ q ∈ qs, s.bal q.1 5 = q.2.1 + q.2.2) → settle c s I qs = some s' → SettleSpec s s' I qs := by
  intro qs
  induction qs with
  | nil =>
    intro s s' _ _ h
    obtain rfl := Option.some.inj h
    exact .nil s I
  | cons q qs ih =>
    intro s s' hnd hb h
    rw [settle] at h
    cases h1 : settle1 c s I q with
    | none => rw [h1] at h; cases h
    | some s2 =>
      rw [h1] at h
      obtain ⟨hnm, hnd'⟩ := List.nodup_cons.mp hnd
      have hne := fst_ne_of_not_mem hnm
      obtain ⟨hbq, hbqs⟩ := List.forall_mem_cons.mp hb
      have S1 := settle1_spec (by omega) (by omega) hbq h1
      -- the router still holds payback + profit of every later asset
      have hb2 : ∀ q' ∈ qs, s2.bal q'.1 5 = q'.2.1 + q'.2.2 := fun q' hq' =>
        (S1.otherAsset _ _ (hne q' hq')).trans (hbqs q' hq')
      exact .cons S1 hne (ih s2 s' hnd' hb2 h)

/-- `CompleteLoan` over pairwise different vaults, initiator an ordinary account (0..4) -/
structure CompleteSpec (c : Cfg) (s s' : St) (I : Nat) (L : List (Nat × Nat)) : Prop where
  pend : s'.pend = s.pend
  allTime : s'.allTime = s.allTime
  burned : s'.burned = s.burned
  ctr : s'.ctr = s.ctr
  known : ∀ e ∈ L, e.1 < c.nv
  covered : ∀ e ∈ L, payback c e.1 e.2 ≤ s.bal e.1 5
  otherAsset : ∀ x, x ∉ L.map (·.1) → ∀ y, s'.bal x y = s.bal x y
  router : ∀ e ∈ L, s'.bal e.1 5 = 0
  vault : ∀ e ∈ L, s'.bal e.1 (6 + e.1) = s.bal e.1 (6 + e.1) + payback c e.1 e.2
  initiator : ∀ e ∈ L, s'.bal e.1 I = s.bal e.1 I + (s.bal e.1 5 - payback c e.1 e.2)
  otherAcct : ∀ e ∈ L, ∀ y, y ≠ 5 → y ≠ I → y ≠ 6 + e.1 → s'.bal e.1 y = s.bal e.1 y

theorem completeLoan_spec {c : Cfg} {s s' : St} {I : Nat} {L : List (Nat × Nat)} (hI : I < 5)
    (hnd : (L.map (·.1)).Nodup) (h : completeLoan c s I L = some s') : CompleteSpec c s s' I L := by
  unfold completeLoan at h
  cases hq : quotes c s L with
  | none => rw [hq] at h; cases h
  | some qs =>
    rw [hq] at h
    simp only [] at h
    obtain ⟨hqs, hL⟩ := quotes_spec hq
    have hmap : qs.map (·.1) = L.map (·.1) := by
      rw [hqs, List.map_map]; rfl
    have hb : ∀ q ∈ qs, s.bal q.1 5 = q.2.1 + q.2.2 := by
      intro q hq'
      rw [hqs] at hq'
      obtain ⟨e, he, rfl⟩ := List.mem_map.mp hq'
      have := (hL e he).2.2
      simp only []
      omega
    have S := settle_spec (c := c) hI qs s s' (by rw [hmap]; exact hnd) hb h
    have hmem : ∀ e ∈ L, (e.1, payback c e.1 e.2, s.bal e.1 5 - payback c e.1 e.2) ∈ qs := by
      intro e he; rw [hqs]; exact List.mem_map.mpr ⟨e, he, rfl⟩
    refine ⟨S.pend, S.allTime, S.burned, S.ctr, fun e he => (hL e he).1, fun e he => (hL e he).2.2, ?_,
      fun e he => S.router _ (hmem e he), fun e he => S.vault _ (hmem e he),
      fun e he => S.initiator _ (hmem e he), fun e he => S.otherAcct _ (hmem e he)⟩
    intro x hx y
    apply S.otherAsset x
    intro q hq' he
    apply hx
    rw [← hmap]
    exact List.mem_map.mpr ⟨q, hq', he⟩

theorem completeLoan_short {c : Cfg} {s : St} {I : Nat} {L : List (Nat × Nat)}
    (h : ∃ e ∈ L, s.bal e.1 5 < payback c e.1 e.2) : completeLoan c s I L = none := by
  unfold completeLoan
  rw [quotes_short h]

/-- vault `j` hands out a loan of `n` to the router: it was idle, its counter is now 1 -/
structure LendSpec (c : Cfg) (s s1 : St) (j n : Nat) : Prop where
  known : j < c.nv
  idle : s.ctr j = 0
  funded : n ≤ s.bal j (6 + j)
  pend : s1.pend = s.pend
  allTime : s1.allTime = s.allTime
  burned : s1.burned = s.burned
  ctrSelf : s1.ctr j = 1
  ctrOther : ∀ x, x ≠ j → s1.ctr x = s.ctr x
  otherAsset : ∀ x y, x ≠ j → s1.bal x y = s.bal x y
  otherAcct : ∀ y, y ≠ 5 → y ≠ 6 + j → s1.bal j y = s.bal j y
  router : s1.bal j 5 = s.bal j 5 + n
  vault : s1.bal j (6 + j) + n = s.bal j (6 + j)

theorem lend_spec {c : Cfg} {s s1 : St} {j n : Nat} (h : lend c s j n = some s1) : LendSpec c s s1 j n := by
  unfold lend at h
  split_ifs at h with h1 h2
  have m := move_spec h
  have hne : 6 + j ≠ 5 := by omega
  have hf := m.funded
  simp only [] at hf
  refine ⟨by omega, by omega, hf, m.pend, m.allTime, m.burned, ?_, ?_, m.otherAsset, ?_, m.dstBal hne, ?_⟩
  · rw [m.ctr]; exact upd_same _ _ _
  · intro x hx; rw [m.ctr]; exact upd_ne _ _ _ _ hx
  · intro y g1 g2; exact m.otherAcct y g2 g1
  · have := m.srcBal hne
    simp only [] at this
    omega

/-- vault `j`'s `after_trade` with `old` the balance recorded when the loan was taken: the fees are
    covered, the ledgers charged, the burn fee destroyed, the counter lowered -/
structure AfterSpec (c : Cfg) (s s' : St) (j old n : Nat) : Prop where
  enough : old + fee (c.fees j).prot n + fee (c.fees j).flash n + fee (c.fees j).burn n ≤ s.bal j (6 + j)
  vault : s'.bal j (6 + j) + fee (c.fees j).burn n = s.bal j (6 + j)
  otherBal : ∀ x y, (x ≠ j ∨ y ≠ 6 + j) → s'.bal x y = s.bal x y
  allTime : s'.allTime j = s.allTime j + fee (c.fees j).prot n
  pend : s'.pend j = s.pend j + fee (c.fees j).prot n
  burned : s'.burned j = s.burned j + fee (c.fees j).burn n
  ctrSelf : s'.ctr j = s.ctr j - 1
  otherLedger : ∀ x, x ≠ j → s'.allTime x = s.allTime x ∧ s'.pend x = s.pend x ∧ s'.burned x = s.burned x
    ∧ s'.ctr x = s.ctr x

theorem afterTrade_spec {c : Cfg} {s s' : St} {j old n : Nat} (h : afterTrade c s j old n = some s') :
    AfterSpec c s s' j old n := by
  unfold afterTrade at h
  simp only [Option.ite_none_left_eq_some, Option.some.injEq] at h
  obtain ⟨_, h2, _, _, _, rfl⟩ := h
  refine ⟨Nat.le_of_not_lt h2, ?_, ?_, upd_same _ _ _, upd_same _ _ _, upd_same _ _ _, upd_same _ _ _, ?_⟩
  · show upd2 s.bal j (6 + j) _ j (6 + j) + _ = _
    rw [upd2_same]
    exact Nat.sub_add_cancel (Nat.le_trans (Nat.le_add_left ..) (Nat.le_of_not_lt h2))
  · intro x y hxy
    simp only []
    by_cases hx : x = j
    · subst hx
      rcases hxy with hxy | hxy
      · exact absurd rfl hxy
      · exact upd2_ne_acct _ _ _ _ _ hxy
    · exact upd2_ne_asset _ _ _ _ _ _ hx
  · intro x hx
    exact ⟨upd_ne _ _ _ _ hx, upd_ne _ _ _ _ hx, upd_ne _ _ _ _ hx, upd_ne _ _ _ _ hx⟩

/-- the lending phase: from the start of the chain over `rest` to the start of the payload -/
structure LendRel (rest : List (Nat × Nat)) (s s1 : St) : Prop where
  otherAsset : ∀ x, x ∉ rest.map (·.1) → ∀ y, s1.bal x y = s.bal x y
  otherAcct : ∀ e ∈ rest, ∀ y, y ≠ 5 → y ≠ 6 + e.1 → s1.bal e.1 y = s.bal e.1 y
  router : ∀ e ∈ rest, s1.bal e.1 5 = s.bal e.1 5 + e.2
  vault : ∀ e ∈ rest, s1.bal e.1 (6 + e.1) + e.2 = s.bal e.1 (6 + e.1)

/-- the settling phase (after_trade of every vault, innermost first): from the end of `CompleteLoan`
    to the end of the chain over `rest` -/
structure AfterRel (c : Cfg) (rest : List (Nat × Nat)) (s3 s' : St) : Prop where
  otherBal : ∀ x y, (x ∉ rest.map (·.1) ∨ y ≠ 6 + x) → s'.bal x y = s3.bal x y
  vault : ∀ e ∈ rest, s'.bal e.1 (6 + e.1) + fee (c.fees e.1).burn e.2 = s3.bal e.1 (6 + e.1)
  allTime : ∀ e ∈ rest, s'.allTime e.1 = s3.allTime e.1 + fee (c.fees e.1).prot e.2
  burned : ∀ e ∈ rest, s'.burned e.1 = s3.burned e.1 + fee (c.fees e.1).burn e.2
  pend : ∀ e ∈ rest, s'.pend e.1 = s3.pend e.1 + fee (c.fees e.1).prot e.2
  otherLedger : ∀ x, x ∉ rest.map (·.1) →
    s'.allTime x = s3.allTime x ∧ s'.pend x = s3.pend x ∧ s'.burned x = s3.burned x

theorem LendRel.nil (s : St) : LendRel [] s s :=
  ⟨fun _ _ _ => rfl, nofun, nofun, nofun⟩

/-- one more vault lends before the others -/
theorem LendRel.cons {c : Cfg} {e : Nat × Nat} {rest : List (Nat × Nat)} {s sa s1 : St}
    (L : LendSpec c s sa e.1 e.2) (hnm : e.1 ∉ rest.map (·.1)) (R : LendRel rest sa s1) :
    LendRel (e :: rest) s s1 := by
  -- the later loans leave the first vault's asset alone, the first loan leaves theirs alone
  have hd : s1.bal e.1 = sa.bal e.1 := funext (R.otherAsset _ hnm)
  have tl : ∀ e' ∈ rest, sa.bal e'.1 = s.bal e'.1 := fun e' he' =>
    funext fun y => L.otherAsset _ y (fst_ne_of_not_mem hnm e' he')
  refine ⟨?_, List.forall_mem_cons.mpr ⟨hd ▸ L.otherAcct, fun e' he' => tl e' he' ▸ R.otherAcct e' he'⟩,
    List.forall_mem_cons.mpr ⟨hd ▸ L.router, fun e' he' => tl e' he' ▸ R.router e' he'⟩,
    List.forall_mem_cons.mpr ⟨hd ▸ L.vault, fun e' he' => tl e' he' ▸ R.vault e' he'⟩⟩
  intro x hx y
  simp only [List.map_cons, List.mem_cons, not_or] at hx
  rw [R.otherAsset x hx.2 y, L.otherAsset x y hx.1]

theorem AfterRel.nil (c : Cfg) (s : St) : AfterRel c [] s s :=
  ⟨fun _ _ _ => rfl, nofun, nofun, nofun, nofun, fun _ _ => ⟨rfl, rfl, rfl⟩⟩

/-- one more vault settles after the others -/
theorem AfterRel.cons {c : Cfg} {e : Nat × Nat} {rest : List (Nat × Nat)} {s3 sb s' : St} {old : Nat}
    (R : AfterRel c rest s3 sb) (hnm : e.1 ∉ rest.map (·.1)) (A : AfterSpec c sb s' e.1 old e.2) :
    AfterRel c (e :: rest) s3 s' := by
  have hne := fst_ne_of_not_mem hnm
  -- the earlier after_trades leave the last vault's asset and ledgers alone, the last one theirs
  obtain ⟨ha, hp, hb⟩ := R.otherLedger _ hnm
  have hd : sb.bal e.1 = s3.bal e.1 := funext fun y => R.otherBal _ y (Or.inl hnm)
  have tl : ∀ e' ∈ rest, s'.bal e'.1 = sb.bal e'.1 := fun e' he' =>
    funext fun y => A.otherBal _ y (Or.inl (hne e' he'))
  refine ⟨?_, List.forall_mem_cons.mpr ⟨hd ▸ A.vault, fun e' he' => tl e' he' ▸ R.vault e' he'⟩,
    List.forall_mem_cons.mpr ⟨ha ▸ A.allTime,
      fun e' he' => (A.otherLedger _ (hne e' he')).1.trans (R.allTime e' he')⟩,
    List.forall_mem_cons.mpr ⟨hb ▸ A.burned,
      fun e' he' => (A.otherLedger _ (hne e' he')).2.2.1.trans (R.burned e' he')⟩,
    List.forall_mem_cons.mpr ⟨hp ▸ A.pend,
      fun e' he' => (A.otherLedger _ (hne e' he')).2.1.trans (R.pend e' he')⟩, ?_⟩
  · intro x y hxy
    simp only [List.map_cons, List.mem_cons, not_or] at hxy
    rw [A.otherBal x y (hxy.elim (fun h => Or.inl h.1) (fun h => by omega)),
      R.otherBal x y (hxy.imp_left And.right)]
  · intro x hx
    simp only [List.map_cons, List.mem_cons, not_or] at hx
    obtain ⟨a1, a2, a3, _⟩ := A.otherLedger x hx.1
    obtain ⟨b1, b2, b3⟩ := R.otherLedger x hx.2
    exact ⟨a1.trans b1, a2.trans b2, a3.trans b3⟩

/-- everything a successful chain over `rest` consists of -/
structure ChainParts (c : Cfg) (run : St → Option St) (I : Nat) (all rest : List (Nat × Nat)) (s s' : St) : Prop where
  parts : ∃ s1 s2 s3, lends c s rest = some s1 ∧ run s1 = some s2 ∧ completeLoan c s2 I all = some s3 ∧
    LendRel rest s s1 ∧ AfterRel c rest s3 s'
  nodup : (rest.map (·.1)).Nodup
  idle : ∀ e ∈ rest, e.1 < c.nv ∧ s.ctr e.1 = 0
  balGe : ∀ e ∈ rest, s.bal e.1 (6 + e.1) + fee (c.fees e.1).prot e.2 + fee (c.fees e.1).flash e.2 ≤ s'.bal e.1 (6 + e.1)

/-- one more vault around a successful chain: it lends first and runs its `after_trade` last -/
theorem ChainParts.cons {c : Cfg} {run : St → Option St} {I : Nat} {all rest : List (Nat × Nat)}
    {e : Nat × Nat} {s sa sb s' : St} (hl : lend c s e.1 e.2 = some sa)
    (P : ChainParts c run I all rest sa sb)
    (ha : afterTrade c sb e.1 (s.bal e.1 (6 + e.1)) e.2 = some s') :
    ChainParts c run I all (e :: rest) s s' := by
  have L := lend_spec hl
  have A := afterTrade_spec ha
  obtain ⟨⟨s1, s2, s3, hlends, hrun, hcl, LR, AR⟩, hnd, hidle, hge⟩ := P
  -- the vault lending now is not among the later ones: its counter is 1 from here on
  have hnm : e.1 ∉ rest.map (·.1) := by
    intro hm
    obtain ⟨e', he', heq⟩ := List.mem_map.mp hm
    have := (hidle e' he').2
    rw [heq, L.ctrSelf] at this
    cases this
  have hne := fst_ne_of_not_mem hnm
  refine ⟨⟨s1, s2, s3, by rw [lends, hl]; exact hlends, hrun, hcl, LR.cons L hnm, AR.cons hnm A⟩,
    List.nodup_cons.mpr ⟨hnm, hnd⟩,
    List.forall_mem_cons.mpr ⟨⟨L.known, L.idle⟩, fun e' he' =>
      ⟨(hidle e' he').1, (L.ctrOther _ (hne e' he')) ▸ (hidle e' he').2⟩⟩,
    List.forall_mem_cons.mpr ⟨?_, ?_⟩⟩
  · have h1 := A.enough
    have h2 := A.vault
    omega
  · intro e' he'
    rw [A.otherBal _ _ (Or.inl (hne e' he')), ← L.otherAsset _ _ (hne e' he')]
    exact hge e' he'

theorem chainGo_parts {c : Cfg} {run : St → Option St} {I : Nat} {all : List (Nat × Nat)} :
    ∀ (rest : List (Nat × Nat)) (s s' : St), chainGo c run I all s rest = some s' →
      ChainParts c run I all rest s s' := by
  intro rest
  induction rest with
  | nil =>
    intro s s' h
    rw [chainGo] at h
    cases hr : run s with
    | none => rw [hr] at h; cases h
    | some s2 =>
      rw [hr] at h
      exact ⟨⟨s, s2, s', rfl, hr, h, .nil s, .nil c s'⟩, List.nodup_nil, nofun, nofun⟩
  | cons e rest ih =>
    intro s s' h
    rw [chainGo] at h
    cases hl : lend c s e.1 e.2 with
    | none => rw [hl] at h; cases h
    | some sa =>
      rw [hl] at h
      simp only [] at h
      cases hc : chainGo c run I all sa rest with
      | none => rw [hc] at h; cases h
      | some sb =>
        rw [hc] at h
        exact .cons hl (ih sa sb hc) h

/-- a chain whose payload — in whatever state it is started — leaves less than some vault's payback
    with the router fails as a whole -/
theorem chainGo_short {c : Cfg} {run : St → Option St} {I : Nat} {all : List (Nat × Nat)}
    (hshort : ∀ s1 s2, run s1 = some s2 → ∃ e ∈ all, s2.bal e.1 5 < payback c e.1 e.2) :
    ∀ (rest : List (Nat × Nat)) (s : St), chainGo c run I all s rest = none := by
  intro rest
  induction rest with
  | nil =>
    intro s
    rw [chainGo]
    cases hr : run s with
    | none => rfl
    | some s2 => exact completeLoan_short (hshort s s2 hr)
  | cons e rest ih =>
    intro s
    rw [chainGo]
    cases hl : lend c s e.1 e.2 with
    | none => rfl
    | some sa => simp only []; rw [ih sa]

/-- the whole chain over `L`, seen from outside: `s` before, `s1` when the payload starts, `s2` when it
    has finished, `s'` at the end of the transaction part -/
structure ChainSpec (c : Cfg) (I : Nat) (L : List (Nat × Nat)) (s s1 s2 s' : St) : Prop where
  nodup : (L.map (·.1)).Nodup
  known : ∀ e ∈ L, e.1 < c.nv
  -- lending phase
  lentRouter : ∀ e ∈ L, s1.bal e.1 5 = s.bal e.1 5 + e.2
  lentVault : ∀ e ∈ L, s1.bal e.1 (6 + e.1) + e.2 = s.bal e.1 (6 + e.1)
  lentOtherAcct : ∀ e ∈ L, ∀ y, y ≠ 5 → y ≠ 6 + e.1 → s1.bal e.1 y = s.bal e.1 y
  lentOtherAsset : ∀ x, x ∉ L.map (·.1) → ∀ y, s1.bal x y = s.bal x y
  -- CompleteLoan and the after_trades
  covered : ∀ e ∈ L, payback c e.1 e.2 ≤ s2.bal e.1 5
  vault : ∀ e ∈ L, s'.bal e.1 (6 + e.1) + fee (c.fees e.1).burn e.2 = s2.bal e.1 (6 + e.1) + payback c e.1 e.2
  router : ∀ e ∈ L, s'.bal e.1 5 = 0
  initiator : ∀ e ∈ L, s'.bal e.1 I = s2.bal e.1 I + (s2.bal e.1 5 - payback c e.1 e.2)
  otherAcct : ∀ e ∈ L, ∀ y, y ≠ 5 → y ≠ I → y ≠ 6 + e.1 → s'.bal e.1 y = s2.bal e.1 y
  otherAsset : ∀ x, x ∉ L.map (·.1) → ∀ y, s'.bal x y = s2.bal x y
  allTime : ∀ e ∈ L, s'.allTime e.1 = s2.allTime e.1 + fee (c.fees e.1).prot e.2
  burned : ∀ e ∈ L, s'.burned e.1 = s2.burned e.1 + fee (c.fees e.1).burn e.2
  pend : ∀ e ∈ L, s'.pend e.1 = s2.pend e.1 + fee (c.fees e.1).prot e.2
  balGe : ∀ e ∈ L, s.bal e.1 (6 + e.1) + fee (c.fees e.1).prot e.2 + fee (c.fees e.1).flash e.2 ≤ s'.bal e.1 (6 + e.1)

theorem chain_spec {c : Cfg} {run : St → Option St} {I : Nat} {L : List (Nat × Nat)} {s s' : St}
    (hI : I < 5) (h : chainGo c run I L s L = some s') :
    ∃ s1 s2, lends c s L = some s1 ∧ run s1 = some s2 ∧ ChainSpec c I L s s1 s2 s' := by
  obtain ⟨⟨s1, s2, s3, hlends, hrun, hcl, LR, AR⟩, hnd, hidle, hge⟩ := chainGo_parts L s s' h
  have CS := completeLoan_spec (by omega) hnd hcl
  have hmem : ∀ e ∈ L, e.1 ∈ L.map (·.1) := fun e he => List.mem_map.mpr ⟨e, he, rfl⟩
  refine ⟨s1, s2, hlends, hrun, ⟨hnd, fun e he => (hidle e he).1, LR.router, LR.vault, LR.otherAcct, LR.otherAsset,
    CS.covered, ?_, ?_, ?_, ?_, ?_, ?_, ?_, ?_, hge⟩⟩
  · intro e he
    rw [AR.vault e he, CS.vault e he]
  · intro e he
    rw [AR.otherBal _ _ (Or.inr (by omega))]; exact CS.router e he
  · intro e he
    rw [AR.otherBal _ _ (Or.inr (by omega))]; exact CS.initiator e he
  · intro e he y g1 g2 g3
    rw [AR.otherBal _ _ (Or.inr g3)]; exact CS.otherAcct e he y g1 g2 g3
  · intro x hx y
    rw [AR.otherBal _ _ (Or.inl hx)]; exact CS.otherAsset x hx y
  · intro e he
    rw [AR.allTime e he, CS.allTime]
  · intro e he
    rw [AR.burned e he, CS.burned]
  · intro e he
    rw [AR.pend e he, CS.pend]

theorem Op.recv_ge {op : Op} {d : Nat} (h : op.recv = some d) : 5 ≤ d := by
  induction op with
  | rfund => cases h
  | collect j => obtain rfl := Option.some.inj h; omega
  | attach _ _ _ _ ih => exact ih h
  | rloan | xnext | xcomplete => exact Nat.le_of_eq (Option.some.inj h)

/-- a successful message with coins attached, taken apart: the coins (of a native asset or of the
    denom without a vault, a non-empty amount, paid by one of the accounts 0..3) moved to the
    receiving contract `dst` (`s0`), then the message itself ran from `s0` -/
theorem attach_parts {c : Cfg} {s s' : St} {who sel n : Nat} {op : Op}
    (h : step c s (.attach who sel n op) = some s') :
    ∃ dst s0, op.recv = some dst ∧ move c s sel who dst n = some s0 ∧ who < 4 ∧ n ≠ 0 ∧ sel ≤ c.nv ∧
      c.kind sel = 0 ∧ dst < 6 + c.nv ∧ step c s0 op = some s' := by
  rw [step] at h
  split at h
  · cases h
  · rename_i dst hr
    split at h
    · cases h
    · rename_i s0 ha
      unfold arrive at ha
      split_ifs at ha with h1 h2
      exact ⟨dst, s0, hr, ha, by omega, by omega, by omega, by omega, by omega, h⟩

end WW.VaultChain
