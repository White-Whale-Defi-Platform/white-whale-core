/-
  Lemmas for C19 (model: WW/Model/Factory.lean): keys, sorted association lists, when each registry and
  router operation succeeds and what it has done then, pagination. Core Lean only (the lexicographic order
  on `List Nat`, `List.Perm`, `List.Pairwise` all live in `Init`).
-/
import WW.Model.Factory
import WW.Proofs.Res
namespace WW.Factory
open WW

theorem blt_iff {a b : Bytes} : blt a b = true ↔ a < b := by simp [blt]

theorem bytes_eq_of_not_lt {a b : Bytes} (h1 : ¬ a < b) (h2 : ¬ b < a) : a = b :=
  Std.le_antisymm (List.not_lt.mp h2) (List.not_lt.mp h1)

theorem insSorted_perm (x : Bytes) (l : List Bytes) : (insSorted x l).Perm (x :: l) := by
  induction l with
  | nil => exact .refl _
  | cons y ys ih =>
    rw [insSorted]
    split
    · exact (ih.cons y).trans (.swap x y ys)
    · exact .refl _

theorem sortBytes_perm (l : List Bytes) : (sortBytes l).Perm l := by
  induction l with
  | nil => exact .refl _
  | cons x xs ih => exact (insSorted_perm x (sortBytes xs)).trans (ih.cons x)

theorem insSorted_sorted (x : Bytes) {l : List Bytes} (h : l.Pairwise (· ≤ ·)) :
    (insSorted x l).Pairwise (· ≤ ·) := by
  induction l with
  | nil => exact List.pairwise_singleton _ _
  | cons y ys ih =>
    have ⟨hy, hys⟩ := List.pairwise_cons.1 h
    rw [insSorted]
    split
    · rename_i hyx
      refine List.pairwise_cons.2 ⟨fun z hz => ?_, ih hys⟩
      rcases List.mem_cons.1 ((insSorted_perm x ys).subset hz) with rfl | hz
      · exact List.le_of_lt (blt_iff.1 hyx)
      · exact hy z hz
    · rename_i hyx
      have hxy : x ≤ y := List.not_lt.1 (mt blt_iff.2 hyx)
      refine List.pairwise_cons.2 ⟨fun z hz => ?_, h⟩
      rcases List.mem_cons.1 hz with rfl | hz
      · exact hxy
      · exact List.le_trans hxy (hy z hz)

theorem sortBytes_sorted (l : List Bytes) : (sortBytes l).Pairwise (· ≤ ·) := by
  induction l with
  | nil => exact .nil
  | cons x xs ih => exact insSorted_sorted x ih

/-- pointwise relation between two lists of equal length -/
inductive Forall2 {α β : Type} (R : α → β → Prop) : List α → List β → Prop
  | nil : Forall2 R [] []
  | cons {a : α} {b : β} {as : List α} {bs : List β} : R a b → Forall2 R as bs → Forall2 R (a :: as) (b :: bs)

theorem Forall2.imp {α β : Type} {R S : α → β → Prop} (hRS : ∀ a b, R a b → S a b)
    {l₁ : List α} {l₂ : List β} (h : Forall2 R l₁ l₂) : Forall2 S l₁ l₂ := by
  induction h with
  | nil => exact .nil
  | cons hab _ ih => exact .cons (hRS _ _ hab) ih

theorem Forall2.left_mem {α β : Type} {R : α → β → Prop} {l₁ : List α} {l₂ : List β}
    (h : Forall2 R l₁ l₂) : ∀ a ∈ l₁, ∃ b, R a b := by
  induction h with
  | nil => exact nofun
  | cons hab _ ih => exact List.forall_mem_cons.2 ⟨⟨_, hab⟩, ih⟩

theorem Forall2.perm {α β : Type} {R : α → β → Prop} {l₁ l₂ : List α} {bs : List β}
    (h : Forall2 R l₁ bs) (hp : l₁.Perm l₂) : ∃ bs', Forall2 R l₂ bs' ∧ bs.Perm bs' := by
  induction hp generalizing bs with
  | nil => exact ⟨bs, h, .refl _⟩
  | cons x _ ih =>
    cases h with
    | cons hx h =>
      obtain ⟨bs', h', p⟩ := ih h
      exact ⟨_, .cons hx h', p.cons _⟩
  | swap x y l =>
    cases h with
    | cons hy h =>
      cases h with
      | cons hx h => exact ⟨_, .cons hx (.cons hy h), .swap ..⟩
  | trans _ _ ih₁ ih₂ =>
    obtain ⟨bs₁, h₁, p₁⟩ := ih₁ h
    obtain ⟨bs₂, h₂, p₂⟩ := ih₂ h₁
    exact ⟨bs₂, h₂, p₁.trans p₂⟩

theorem mapRes_cons {α β : Type} (f : α → Res β) (a : α) (as : List α) :
    mapRes f (a :: as) = f a >>= fun b => mapRes f as >>= fun bs => pure (b :: bs) := by
  rw [mapRes]
  cases f a <;> cases mapRes f as <;> rfl

theorem mapRes_eq_ok {α β : Type} {f : α → Res β} {l : List α} {bs : List β} :
    mapRes f l = .ok bs ↔ Forall2 (fun a b => f a = .ok b) l bs := by
  induction l generalizing bs with
  | nil => exact ⟨fun h => by cases h; exact .nil, fun h => by cases h; rfl⟩
  | cons a as ih =>
    simp only [mapRes_cons, Res.bind_eq_ok, ih, Res.pure_eq, Res.ok.injEq]
    exact ⟨fun ⟨b, hb, bs', h, e⟩ => e ▸ .cons hb h,
      fun h => by cases h with | cons hb h => exact ⟨_, hb, _, h, rfl⟩⟩

theorem mapRes_ok_length {α β : Type} {f : α → Res β} {l : List α} {bs : List β}
    (h : mapRes f l = .ok bs) : bs.length = l.length := by
  replace h := mapRes_eq_ok.1 h
  induction h with
  | nil => rfl
  | cons _ _ ih => exact congrArg (· + 1) ih

/-- strictly increasing keys -/
def SSorted {ε : Type} (r : List (Bytes × ε)) : Prop := (r.map Prod.fst).Pairwise (· < ·)

theorem SSorted.nodup {ε : Type} {r : List (Bytes × ε)} (h : SSorted r) : (r.map Prod.fst).Nodup :=
  List.Pairwise.imp (S := (· ≠ ·)) (fun hab heq => List.lt_irrefl _ (heq ▸ hab)) h

theorem regInsert_cons {ε : Type} (k k' : Bytes) (v v' : ε) (r : List (Bytes × ε)) :
    (k < k' ∧ regInsert k v ((k', v') :: r) = (k, v) :: (k', v') :: r) ∨
    (k' < k ∧ regInsert k v ((k', v') :: r) = (k', v') :: regInsert k v r) ∨
    (k = k' ∧ regInsert k v ((k', v') :: r) = (k, v) :: r) := by
  rw [regInsert]
  by_cases h1 : k < k'
  · exact .inl ⟨h1, if_pos (blt_iff.2 h1)⟩
  · rw [if_neg (mt blt_iff.1 h1)]
    by_cases h2 : k' < k
    · exact .inr (.inl ⟨h2, if_pos (blt_iff.2 h2)⟩)
    · exact .inr (.inr ⟨bytes_eq_of_not_lt h1 h2, if_neg (mt blt_iff.1 h2)⟩)

theorem mem_regInsert {ε : Type} {k : Bytes} {v : ε} {r : List (Bytes × ε)} {e : Bytes × ε}
    (h : e ∈ regInsert k v r) : e = (k, v) ∨ e ∈ r := by
  induction r with
  | nil => exact .inl (List.mem_singleton.1 h)
  | cons hd tl ih =>
    obtain ⟨k', v'⟩ := hd
    rcases regInsert_cons k k' v v' tl with ⟨-, e'⟩ | ⟨-, e'⟩ | ⟨-, e'⟩ <;> rw [e'] at h
    · exact List.mem_cons.1 h
    · rcases List.mem_cons.1 h with rfl | h
      · exact .inr List.mem_cons_self
      · exact (ih h).imp_right (List.mem_cons_of_mem _)
    · exact (List.mem_cons.1 h).imp_right (List.mem_cons_of_mem _)

theorem forall_mem_regInsert {ε : Type} {P : Bytes → ε → Prop} {k : Bytes} {v : ε} {r : List (Bytes × ε)}
    (hnew : P k v) (hold : ∀ k' e, (k', e) ∈ r → P k' e) : ∀ k' e, (k', e) ∈ regInsert k v r → P k' e :=
  fun k' e he => (mem_regInsert he).elim (fun h => by cases h; exact hnew) (hold k' e)

theorem regInsert_sorted {ε : Type} (k : Bytes) (v : ε) {r : List (Bytes × ε)} (h : SSorted r) :
    SSorted (regInsert k v r) := by
  induction r with
  | nil => exact List.pairwise_singleton _ _
  | cons hd tl ih =>
    obtain ⟨k', v'⟩ := hd
    have ⟨hhd, htl⟩ := List.pairwise_cons.1 h
    rcases regInsert_cons k k' v v' tl with ⟨hlt, e⟩ | ⟨hgt, e⟩ | ⟨rfl, e⟩ <;> rw [e]
    · exact List.pairwise_cons.2 ⟨fun z hz => (List.mem_cons.1 hz).elim (· ▸ hlt)
        fun hz => List.lt_trans hlt (hhd z hz), h⟩
    · refine List.pairwise_cons.2 ⟨fun z hz => ?_, ih htl⟩
      obtain ⟨e, he, rfl⟩ := List.mem_map.1 hz
      rcases mem_regInsert he with rfl | he
      · exact hgt
      · exact hhd _ (List.mem_map_of_mem he)
    · exact h

theorem regErase_sublist {ε : Type} (k : Bytes) (r : List (Bytes × ε)) : (regErase k r).Sublist r := by
  induction r with
  | nil => exact .refl _
  | cons hd tl ih =>
    rw [regErase]
    split
    · exact .cons _ ih
    · exact .cons_cons _ ih

theorem mem_regErase {ε : Type} {k : Bytes} {r : List (Bytes × ε)} {e : Bytes × ε}
    (h : e ∈ regErase k r) : e ∈ r := (regErase_sublist k r).subset h

theorem regErase_sorted {ε : Type} (k : Bytes) {r : List (Bytes × ε)} (h : SSorted r) :
    SSorted (regErase k r) :=
  List.Pairwise.sublist ((regErase_sublist k r).map Prod.fst) h

theorem regLookup_cons {ε : Type} (k k' : Bytes) (v : ε) (r : List (Bytes × ε)) :
    regLookup k ((k', v) :: r) = if k' = k then some v else regLookup k r := rfl

theorem regLookup_regInsert {ε : Type} (k k' : Bytes) (v : ε) (r : List (Bytes × ε)) :
    regLookup k' (regInsert k v r) = if k = k' then some v else regLookup k' r := by
  induction r with
  | nil => rfl
  | cons hd tl ih =>
    obtain ⟨k₁, v₁⟩ := hd
    rcases regInsert_cons k k₁ v v₁ tl with ⟨-, e⟩ | ⟨hgt, e⟩ | ⟨rfl, e⟩ <;> rw [e]
    · rfl
    · rw [regLookup_cons, regLookup_cons, ih]
      by_cases h : k = k'
      · rw [if_pos h, if_pos h, if_neg fun h₁ => List.lt_irrefl _ (h ▸ h₁ ▸ hgt)]
      · rw [if_neg h, if_neg h]
    · rw [regLookup_cons, regLookup_cons]
      by_cases h : k = k'
      · rw [if_pos h, if_pos h]
      · rw [if_neg h, if_neg h, if_neg h]

theorem regLookup_regInsert_of_none {ε : Type} {k₀ k : Bytes} {v₀ v : ε} {r : List (Bytes × ε)}
    (hnone : regLookup k₀ r = none) (hl : regLookup k r = some v) : regLookup k (regInsert k₀ v₀ r) = some v := by
  rw [regLookup_regInsert, if_neg fun e => nomatch (e ▸ hnone).symm.trans hl]
  exact hl

theorem regLookup_regErase {ε : Type} (k k' : Bytes) (r : List (Bytes × ε)) :
    regLookup k' (regErase k r) = if k = k' then none else regLookup k' r := by
  induction r with
  | nil => exact (ite_self _).symm
  | cons hd tl ih =>
    obtain ⟨k₁, v₁⟩ := hd
    rw [regErase, regLookup_cons]
    by_cases h₁ : k₁ = k
    · rw [if_pos h₁, ih, h₁]
      by_cases h : k = k'
      · rw [if_pos h, if_pos h]
      · rw [if_neg h, if_neg h, if_neg h]
    · rw [if_neg h₁, regLookup_cons, ih]
      by_cases h : k = k'
      · rw [if_pos h, if_pos h, if_neg (h ▸ h₁)]
      · rw [if_neg h, if_neg h]

theorem regLookup_regErase_self {ε : Type} (k : Bytes) (r : List (Bytes × ε)) :
    regLookup k (regErase k r) = none := (regLookup_regErase k k r).trans (if_pos rfl)

theorem regLookup_some_mem {ε : Type} {k : Bytes} {r : List (Bytes × ε)} {v : ε}
    (h : regLookup k r = some v) : (k, v) ∈ r := by
  induction r with
  | nil => cases h
  | cons hd tl ih =>
    obtain ⟨k', v'⟩ := hd
    rw [regLookup_cons] at h
    split at h
    · rename_i heq
      cases h
      exact heq ▸ List.mem_cons_self
    · exact List.mem_cons_of_mem _ (ih h)

theorem regLookup_eq_none {ε : Type} {k : Bytes} {r : List (Bytes × ε)} :
    regLookup k r = none ↔ k ∉ r.map Prod.fst := by
  induction r with
  | nil => exact ⟨fun _ => List.not_mem_nil, fun _ => rfl⟩
  | cons hd tl ih =>
    obtain ⟨k', v'⟩ := hd
    rw [regLookup_cons, List.map_cons, List.mem_cons, not_or, ← ih]
    by_cases h : k' = k
    · rw [if_pos h]
      exact ⟨nofun, fun h' => absurd h.symm h'.1⟩
    · rw [if_neg h]
      exact ⟨fun h' => ⟨fun e => h e.symm, h'⟩, And.right⟩

theorem regLookup_none_not_mem {ε : Type} {k : Bytes} {r : List (Bytes × ε)}
    (h : regLookup k r = none) : k ∉ r.map Prod.fst := regLookup_eq_none.1 h

theorem regLookup_of_not_mem {ε : Type} {k : Bytes} {r : List (Bytes × ε)}
    (h : k ∉ r.map Prod.fst) : regLookup k r = none := regLookup_eq_none.2 h

/-- in a registry with distinct keys, a listed entry is the one a lookup returns -/
theorem regLookup_of_mem {ε : Type} {k : Bytes} {v : ε} {r : List (Bytes × ε)}
    (hs : SSorted r) (h : (k, v) ∈ r) : regLookup k r = some v := by
  induction r with
  | nil => cases h
  | cons hd tl ih =>
    obtain ⟨k', v'⟩ := hd
    have ⟨hhd, htl⟩ := List.pairwise_cons.1 hs
    rw [regLookup_cons]
    rcases List.mem_cons.1 h with h | h
    · cases h
      exact if_pos rfl
    · rw [if_neg fun heq => List.lt_irrefl _ (heq ▸ hhd k (List.mem_map_of_mem h))]
      exact ih htl h

theorem SSorted.eq_of_mem {ε : Type} {k : Bytes} {v₁ v₂ : ε} {r : List (Bytes × ε)} (hs : SSorted r)
    (h₁ : (k, v₁) ∈ r) (h₂ : (k, v₂) ∈ r) : v₁ = v₂ :=
  Option.some.inj ((regLookup_of_mem hs h₁).symm.trans (regLookup_of_mem hs h₂))

theorem getElem?_append_of_some {α : Type} {l l' : List α} {i : Nat} {c : α} (h : l[i]? = some c) :
    (l ++ l')[i]? = some c :=
  (List.getElem?_append_left (List.getElem?_eq_some_iff.1 h).1).trans h

theorem setFunded_eq_modify (l : List PoolChild) (n : Nat) :
    setFunded l n = l.modify n fun c => { c with funded := true } := by
  induction l generalizing n with
  | nil => cases n <;> rfl
  | cons c cs ih =>
    cases n with
    | zero => rfl
    | succ m => rw [setFunded, List.modify_succ_cons, ih]

/-- everything `create_pair` / `create_trio` requires apart from "no entry under this key yet" -/
def CreatePre (cfg : Cfg) (d : Nat → Res Nat) (idx : List Nat) (inst : Bool) : Prop :=
  distinctIdx idx = true ∧ (∃ ds, mapRes d idx = .ok ds) ∧
  (∃ labels, mapRes (labelOf cfg) idx = .ok labels ∧ lpNameOk labels = true) ∧ inst = true

theorem PoolReg.create_eq_ok {cfg : Cfg} {d : Nat → Res Nat} {r r' : PoolReg} {idx : List Nat}
    {pt : Option Nat} {inst : Bool} :
    PoolReg.create cfg d r idx pt inst = .ok r' ↔
      distinctIdx idx = true ∧ ∃ ds, mapRes d idx = .ok ds ∧ ∃ key, keyOf cfg idx = .ok key ∧
      regLookup key r.reg = none ∧ ∃ labels, mapRes (labelOf cfg) idx = .ok labels ∧ inst = true ∧
      lpNameOk labels = true ∧
      r' = { reg := regInsert key { assets := idx, child := r.kids.length, decs := ds, ptype := pt,
                                    lp := r.kids.length } r.reg,
             kids := r.kids ++ [{ assets := idx, decs := ds, ptype := pt, lp := r.kids.length,
                                  funded := pt.isSome }],
             tmp := some { key := key, assets := idx, decs := ds, ptype := pt } } := by
  simp only [PoolReg.create, Res.bind_eq_ok, guardErr_eq_ok, List.getElem?_concat_length, Res.pure_eq,
    Res.ok.injEq, Option.isNone_iff_eq_none, exists_const, eq_comm (b := r')]

theorem PoolReg.create_isOk_iff {cfg : Cfg} {d : Nat → Res Nat} {r : PoolReg} {idx : List Nat}
    {pt : Option Nat} {inst : Bool} :
    (∃ r', PoolReg.create cfg d r idx pt inst = .ok r') ↔
      CreatePre cfg d idx inst ∧ ∃ key, keyOf cfg idx = .ok key ∧ regLookup key r.reg = none := by
  constructor
  · rintro ⟨r', h⟩
    obtain ⟨hd, ds, hds, key, hkey, hnone, labels, hl, hinst, hname, -⟩ := PoolReg.create_eq_ok.1 h
    exact ⟨⟨hd, ⟨ds, hds⟩, ⟨labels, hl, hname⟩, hinst⟩, key, hkey, hnone⟩
  · rintro ⟨⟨hd, ⟨ds, hds⟩, ⟨labels, hl, hname⟩, hinst⟩, key, hkey, hnone⟩
    exact ⟨_, PoolReg.create_eq_ok.2 ⟨hd, ds, hds, key, hkey, hnone, labels, hl, hinst, hname, rfl⟩⟩

theorem PoolReg.create_ne_ok_of_mem {cfg : Cfg} {d : Nat → Res Nat} {r r' : PoolReg} {idx : List Nat}
    {pt : Option Nat} {inst : Bool} {k : Bytes} {e : PoolEntry} (hs : SSorted r.reg)
    (hk : keyOf cfg idx = .ok k) (he : (k, e) ∈ r.reg) : r.create cfg d idx pt inst ≠ .ok r' := by
  intro h
  obtain ⟨-, ds, -, key, hkey, hnone, -⟩ := PoolReg.create_eq_ok.1 h
  cases Res.ok.inj (hk.symm.trans hkey)
  exact nomatch hnone.symm.trans (regLookup_of_mem hs he)

theorem PoolReg.remove_eq_ok {cfg : Cfg} {r r' : PoolReg} {idx : List Nat} :
    PoolReg.remove cfg r idx = .ok r' ↔
      ∃ key e, keyOf cfg idx = .ok key ∧ regLookup key r.reg = some e ∧
        r' = { r with reg := regErase key r.reg } := by
  simp only [PoolReg.remove, Res.bind_eq_ok]
  refine exists_congr fun key => ?_
  cases regLookup key r.reg <;> simp [eq_comm (b := r')]

theorem PoolReg.lookup_eq_ok {cfg : Cfg} {r : PoolReg} {idx : List Nat} {e : PoolEntry} :
    PoolReg.lookup cfg r idx = .ok e ↔ ∃ key, keyOf cfg idx = .ok key ∧ regLookup key r.reg = some e := by
  simp only [PoolReg.lookup, Res.bind_eq_ok]
  refine exists_congr fun key => ?_
  cases regLookup key r.reg <;> simp

theorem PoolReg.fund_eq_ok {cfg : Cfg} {r r' : PoolReg} {idx : List Nat} :
    PoolReg.fund cfg r idx = .ok r' ↔
      ∃ e, PoolReg.lookup cfg r idx = .ok e ∧ r' = { r with kids := setFunded r.kids e.child } := by
  simp only [PoolReg.fund, Res.bind_eq_ok, Res.pure_eq, Res.ok.injEq, eq_comm (b := r')]

/-- the invariant of a pool registry: keys strictly increasing; every key is the key of the entry's
    asset list; every entry agrees with what its child reports -/
structure PoolInv (cfg : Cfg) (r : PoolReg) : Prop where
  sorted : SSorted r.reg
  keyOk : ∀ k e, (k, e) ∈ r.reg → keyOf cfg e.assets = .ok k
  child : ∀ k e, (k, e) ∈ r.reg → ∃ c, r.kids[e.child]? = some c ∧ c.assets = e.assets ∧
            c.decs = e.decs ∧ c.ptype = e.ptype ∧ c.lp = e.lp

theorem PoolInv.init (cfg : Cfg) : PoolInv cfg ⟨[], [], none⟩ := ⟨.nil, nofun, nofun⟩

theorem PoolInv.create {cfg : Cfg} {d : Nat → Res Nat} {r r' : PoolReg} {idx : List Nat}
    {pt : Option Nat} {inst : Bool} (hi : PoolInv cfg r)
    (h : PoolReg.create cfg d r idx pt inst = .ok r') : PoolInv cfg r' := by
  obtain ⟨-, ds, -, key, hkey, -, -, -, -, -, rfl⟩ := PoolReg.create_eq_ok.1 h
  exact ⟨regInsert_sorted _ _ hi.sorted, forall_mem_regInsert hkey hi.keyOk,
    forall_mem_regInsert ⟨_, List.getElem?_concat_length, rfl, rfl, rfl, rfl⟩ fun k e he =>
      (hi.child k e he).imp fun c h => ⟨getElem?_append_of_some h.1, h.2⟩⟩

theorem PoolInv.remove {cfg : Cfg} {r r' : PoolReg} {idx : List Nat} (hi : PoolInv cfg r)
    (h : PoolReg.remove cfg r idx = .ok r') : PoolInv cfg r' := by
  obtain ⟨key, -, -, -, rfl⟩ := PoolReg.remove_eq_ok.1 h
  exact ⟨regErase_sorted _ hi.sorted, fun k e he => hi.keyOk k e (mem_regErase he),
    fun k e he => hi.child k e (mem_regErase he)⟩

theorem VaultReg.create_eq_ok {cfg : Cfg} {r r' : VaultReg} {i : Nat} :
    VaultReg.create cfg r i = .ok r' ↔
      ∃ a, assetOf cfg i = .ok a ∧ regLookup a.ref r.reg = none ∧ a.dead = false ∧
        symbolOk (vaultLpSymbol a.label) = true ∧
        r' = { reg := regInsert a.ref { child := r.kids.length, asset := i } r.reg,
               kids := r.kids ++ [i], tmp := some (a.ref, i) } := by
  simp only [VaultReg.create, Res.bind_eq_ok, guardErr_eq_ok, Res.pure_eq, Res.ok.injEq,
    Option.isNone_iff_eq_none, Bool.not_eq_true', exists_const, eq_comm (b := r')]

theorem VaultReg.remove_eq_ok {cfg : Cfg} {r r' : VaultReg} {i : Nat} :
    VaultReg.remove cfg r i = .ok r' ↔
      ∃ a e, assetOf cfg i = .ok a ∧ regLookup a.ref r.reg = some e ∧
        r' = { r with reg := regErase a.ref r.reg } := by
  simp only [VaultReg.remove, Res.bind_eq_ok]
  refine exists_congr fun a => ?_
  cases regLookup a.ref r.reg <;> simp [eq_comm (b := r')]

/-- the invariant of the vault registry: keys strictly increasing; every key is the reference of the entry's
    asset; the entry's child is the vault of that asset -/
structure VaultInv (cfg : Cfg) (r : VaultReg) : Prop where
  sorted : SSorted r.reg
  keyOk : ∀ k e, (k, e) ∈ r.reg → ∃ a, assetOf cfg e.asset = .ok a ∧ a.ref = k
  child : ∀ k e, (k, e) ∈ r.reg → r.kids[e.child]? = some e.asset

theorem VaultInv.init (cfg : Cfg) : VaultInv cfg ⟨[], [], none⟩ := ⟨.nil, nofun, nofun⟩

theorem VaultInv.create {cfg : Cfg} {r r' : VaultReg} {i : Nat} (hi : VaultInv cfg r)
    (h : VaultReg.create cfg r i = .ok r') : VaultInv cfg r' := by
  obtain ⟨a, ha, -, -, -, rfl⟩ := VaultReg.create_eq_ok.1 h
  exact ⟨regInsert_sorted _ _ hi.sorted, forall_mem_regInsert ⟨a, ha, rfl⟩ hi.keyOk,
    forall_mem_regInsert List.getElem?_concat_length fun k e he => getElem?_append_of_some (hi.child k e he)⟩

theorem VaultInv.remove {cfg : Cfg} {r r' : VaultReg} {i : Nat} (hi : VaultInv cfg r)
    (h : VaultReg.remove cfg r i = .ok r') : VaultInv cfg r' := by
  obtain ⟨a, -, -, -, rfl⟩ := VaultReg.remove_eq_ok.1 h
  exact ⟨regErase_sorted _ hi.sorted, fun k e he => hi.keyOk k e (mem_regErase he),
    fun k e he => hi.child k e (mem_regErase he)⟩

theorem IncReg.create_eq_ok {cfg : Cfg} {r r' : IncReg} {i : Nat} :
    IncReg.create cfg r i = .ok r' ↔
      ∃ a, assetOf cfg i = .ok a ∧ regLookup a.raw r.reg = none ∧ a.dead = false ∧
        r' = { reg := regInsert a.raw r.kids.length r.reg, kids := r.kids ++ [i] } := by
  simp only [IncReg.create, Res.bind_eq_ok, guardErr_eq_ok, List.getElem?_concat_length, Res.pure_eq,
    Res.ok.injEq, Option.isNone_iff_eq_none, Bool.not_eq_true', exists_const, eq_comm (b := r')]
  refine exists_congr fun a => and_congr_right fun ha => ?_
  simp only [ha, Res.ok.injEq, exists_eq_left']

/-- the invariant of the incentive registry: keys strictly increasing; every key is the raw LP asset its
    child reports -/
structure IncInv (cfg : Cfg) (r : IncReg) : Prop where
  sorted : SSorted r.reg
  child : ∀ k c, (k, c) ∈ r.reg → ∃ i a, r.kids[c]? = some i ∧ assetOf cfg i = .ok a ∧ a.raw = k

theorem IncInv.init (cfg : Cfg) : IncInv cfg ⟨[], []⟩ := ⟨.nil, nofun⟩

theorem IncInv.create {cfg : Cfg} {r r' : IncReg} {i : Nat} (hi : IncInv cfg r)
    (h : IncReg.create cfg r i = .ok r') : IncInv cfg r' := by
  obtain ⟨a, ha, -, -, rfl⟩ := IncReg.create_eq_ok.1 h
  exact ⟨regInsert_sorted _ _ hi.sorted,
    forall_mem_regInsert ⟨i, a, List.getElem?_concat_length, ha, rfl⟩ fun k c he =>
      (hi.child k c he).imp fun j h => h.imp fun b h => ⟨getElem?_append_of_some h.1, h.2⟩⟩

/-- the factory answers the `Pair` query for this hop: the hop's pair is registered -/
def HopReg (cfg : Cfg) (p : PoolReg) (h : Nat × Nat) : Prop := ∃ e, p.lookup cfg [h.1, h.2] = .ok e

theorem simHops_ok {cfg : Cfg} {s : St} {hs : List (Nat × Nat)} {u : Unit}
    (hh : simHops cfg s hs = .ok u) : ∀ h ∈ hs, HopReg cfg s.pairs h := by
  induction hs with
  | nil => exact nofun
  | cons x xs ih =>
    rw [simHops] at hh
    split at hh
    · rename_i hx
      simp only [simHop, Res.bind_eq_ok] at hx
      obtain ⟨e, he, -⟩ := hx
      exact List.forall_mem_cons.2 ⟨⟨e, he⟩, ih hh⟩
    · cases hh
    · cases hh

theorem addRoute_ok {cfg : Cfg} {s s' : St} {rt : Route} (h : addRoute cfg s rt = .ok s') :
    (∀ hp ∈ rt.hops, HopReg cfg s.pairs hp) ∧
    ∃ lo la, s' = { s with routes := regInsert (routeKey lo la) { lo := lo, la := la, hops := rt.hops } s.routes } := by
  simp only [addRoute, Res.bind_eq_ok, Res.pure_eq, Res.ok.injEq] at h
  obtain ⟨-, -, u, hsim, lo, -, la, -, rfl⟩ := h
  exact ⟨simHops_ok hsim, lo, la, rfl⟩

theorem removeRoute_ok {cfg : Cfg} {s s' : St} {k : Nat × Nat} (h : removeRoute cfg s k = .ok s') :
    ∃ key, s' = { s with routes := regErase key s.routes } := by
  simp only [removeRoute, Res.bind_eq_ok] at h
  obtain ⟨lo, -, la, -, h⟩ := h
  split at h
  · cases h
  · cases h
    exact ⟨_, rfl⟩

theorem foldRes_cons {σ α : Type} (f : σ → α → Res σ) (s : σ) (a : α) (as : List α) :
    foldRes f s (a :: as) = f s a >>= fun s' => foldRes f s' as := by
  rw [foldRes]
  cases f s a <;> rfl

/-- `add_swap_routes`: only the route table changes; every route of the message has registered hops only;
    every entry of the new table is an old one or has registered hops only -/
theorem addRoutes_ok {cfg : Cfg} {rs : List Route} {s s' : St} (h : foldRes (addRoute cfg) s rs = .ok s') :
    ∃ routes, s' = { s with routes := routes } ∧ (SSorted s.routes → SSorted routes) ∧
    (∀ rt ∈ rs, ∀ hp ∈ rt.hops, HopReg cfg s.pairs hp) ∧
    (∀ e ∈ routes, e ∈ s.routes ∨ ∀ hp ∈ e.2.hops, HopReg cfg s.pairs hp) := by
  induction rs generalizing s with
  | nil =>
    cases h
    exact ⟨_, rfl, id, nofun, fun _ => .inl⟩
  | cons rt rest ih =>
    rw [foldRes_cons, Res.bind_eq_ok] at h
    obtain ⟨s1, h1, h⟩ := h
    obtain ⟨hhops, lo, la, rfl⟩ := addRoute_ok h1
    obtain ⟨routes, rfl, hsort, hall, hent⟩ := ih h
    refine ⟨routes, rfl, fun hs => hsort (regInsert_sorted _ _ hs), List.forall_mem_cons.2 ⟨hhops, hall⟩,
      fun e he => ?_⟩
    rcases hent e he with he | he
    · rcases mem_regInsert he with rfl | he
      · exact .inr hhops
      · exact .inl he
    · exact .inr he

theorem removeRoutes_ok {cfg : Cfg} {ks : List (Nat × Nat)} {s s' : St}
    (h : foldRes (removeRoute cfg) s ks = .ok s') :
    ∃ routes, s' = { s with routes := routes } ∧ (SSorted s.routes → SSorted routes) := by
  induction ks generalizing s with
  | nil =>
    cases h
    exact ⟨_, rfl, id⟩
  | cons k rest ih =>
    rw [foldRes_cons, Res.bind_eq_ok] at h
    obtain ⟨s1, h1, h⟩ := h
    obtain ⟨key, rfl⟩ := removeRoute_ok h1
    obtain ⟨routes, rfl, hsort⟩ := ih h
    exact ⟨routes, rfl, fun hs => hsort (regErase_sorted _ hs)⟩

theorem swapHop_ok {cfg : Cfg} {s : St} {prev : Nat} {h : Nat × Nat} {c : Nat}
    (hh : swapHop cfg s prev h = .ok c) : ∃ e, s.pairs.lookup cfg [h.1, h.2] = .ok e ∧ e.child = c := by
  rw [swapHop, Res.bind_eq_ok] at hh
  obtain ⟨e, he, hh⟩ := hh
  rw [Res.bind_eq_ok] at hh
  obtain ⟨x, -, hh⟩ := hh
  refine ⟨e, he, ?_⟩
  -- `hh` goes into the goal so that `cases` and `rw` reach the conditions inside it
  revert hh
  cases s.pairs.kids[e.child]? with
  | none => exact nofun
  | some ch =>
    show (if _ then _ else if _ then _ else if _ then _ else _) = _ → _
    by_cases h1 : (!ch.assets.contains h.1) = true
    · rw [if_pos h1]; exact nofun
    · rw [if_neg h1]
      by_cases h2 : (h.1 != prev) = true
      · -- the router holds nothing of this hop's offer asset: the hop fails one way or another
        rw [if_pos h2]
        cases x.native <;> cases ch.funded <;> cases ch.ptype <;> exact nofun
      · rw [if_neg h2]
        cases ch.funded
        · cases ch.ptype <;> exact nofun
        · exact Res.ok.inj

theorem swapHops_ok {cfg : Cfg} {s : St} {hops : List (Nat × Nat)} {prev : Nat} {out : List Nat}
    (hh : swapHops cfg s prev hops = .ok out) :
    Forall2 (fun h c => ∃ e, s.pairs.lookup cfg [h.1, h.2] = .ok e ∧ e.child = c) hops out := by
  induction hops generalizing prev out with
  | nil =>
    cases hh
    exact .nil
  | cons x xs ih =>
    rw [swapHops] at hh
    split at hh
    · rename_i c hc
      split at hh
      · rename_i cs hcs
        cases hh
        exact .cons (swapHop_ok hc) (ih hcs)
      · cases hh
      · cases hh
    · cases hh
    · cases hh

theorem swapExec_ok {cfg : Cfg} {s : St} {hops : List (Nat × Nat)} {out : List Nat}
    (hh : swapExec cfg s hops = .ok out) :
    Forall2 (fun h c => ∃ e, s.pairs.lookup cfg [h.1, h.2] = .ok e ∧ e.child = c) hops out := by
  unfold swapExec at hh
  split at hh
  · cases hh
  · simp only [Res.bind_eq_ok] at hh
    obtain ⟨-, -, -, -, hh⟩ := hh
    exact swapHops_ok hh

theorem reach_induction {cfg : Cfg} {P : St → Prop} (step : ∀ s op, P s → P (apply cfg s op)) {s : St}
    (ops : List Op) (h : P s) : P (reach cfg s ops) := by
  induction ops generalizing s with
  | nil => exact h
  | cons op rest ih => exact ih (step s op h)

/-- The hypothesis the cursor construction needs: no key lies in the gap `(k, k ++ [1]]` above another
    key `k` (such a key — `k` extended by a suffix starting with byte 0, or by exactly `[1]` — would be
    skipped when `k` is the cursor). Decidable. -/
def NoGap (ks : List Bytes) : Prop := ∀ k ∈ ks, ∀ k' ∈ ks, k < k' → cursorBound k < k'

instance (ks : List Bytes) : Decidable (NoGap ks) := by unfold NoGap; infer_instance

theorem lt_append_singleton (k : Bytes) (b : Nat) : k < k ++ [b] := by
  induction k with
  | nil => exact List.nil_lt_cons b []
  | cons a as ih => exact List.cons_lt_cons_iff.2 (.inr ⟨rfl, ih⟩)

theorem lt_append_of_lt_same_length {k k' : Bytes} (s : Bytes) (hl : k.length = k'.length) (h : k < k') :
    k ++ s < k' := by
  induction k generalizing k' with
  | nil =>
    cases k' with
    | nil => exact absurd h (List.lt_irrefl _)
    | cons b bs => cases hl
  | cons a as ih =>
    cases k' with
    | nil => cases hl
    | cons b bs =>
      rcases List.cons_lt_cons_iff.1 h with hab | ⟨rfl, hlt⟩
      · exact List.cons_lt_cons_iff.2 (.inl hab)
      · exact List.cons_lt_cons_iff.2 (.inr ⟨rfl, ih (Nat.succ.inj hl) hlt⟩)

/-- with sorted, gap-free keys, the range after the cursor `e` is exactly what follows `e` -/
theorem regAfter_split {ε : Type} {a post : List (Bytes × ε)} {e : Bytes × ε} (hs : SSorted (a ++ post))
    (hg : NoGap ((a ++ post).map Prod.fst)) (hl : a.getLast? = some e) :
    regAfter (some (cursorBound e.1)) (a ++ post) = post := by
  obtain ⟨pre, rfl⟩ := List.getLast?_eq_some_iff.1 hl
  rw [List.append_assoc, List.singleton_append] at hs hg ⊢
  unfold SSorted at hs
  rw [List.map_append, List.map_cons, List.pairwise_append, List.pairwise_cons] at hs
  obtain ⟨-, ⟨hpost, -⟩, hcross⟩ := hs
  have hbound : e.1 < cursorBound e.1 := lt_append_singleton e.1 1
  have h1 : pre.filter (fun x => blt (cursorBound e.1) x.1) = [] :=
    List.filter_eq_nil_iff.2 fun x hx hb =>
      List.lt_asymm (List.lt_trans (hcross x.1 (List.mem_map_of_mem hx) e.1 List.mem_cons_self) hbound)
        (blt_iff.1 hb)
  have h2 : ¬ blt (cursorBound e.1) e.1 = true := mt blt_iff.1 (List.lt_asymm hbound)
  have h3 : post.filter (fun x => blt (cursorBound e.1) x.1) = post :=
    List.filter_eq_self.2 fun x hx =>
      blt_iff.2 (hg e.1 (List.mem_map_of_mem (List.mem_append_right _ List.mem_cons_self)) x.1
        (List.mem_map_of_mem (List.mem_append_right _ (List.mem_cons_of_mem _ hx)))
        (hpost x.1 (List.mem_map_of_mem hx)))
  show (pre ++ e :: post).filter _ = post
  rw [List.filter_append, List.filter_cons_of_neg (p := fun x : Bytes × ε => blt (cursorBound e.1) x.1) h2, h1, h3,
    List.nil_append]

/-- iterating pages from any cursor position returns exactly the remaining entries -/
theorem pagesFrom_flatten_aux {ε : Type} (r : List (Bytes × ε)) (hs : SSorted r)
    (hg : NoGap (r.map Prod.fst)) {lim : Nat} (hl : 0 < lim) :
    ∀ (fuel : Nat) (pre t : List (Bytes × ε)) (cur : Option Bytes), r = pre ++ t →
      regAfter (cur.map cursorBound) r = t → t.length < fuel →
      (pagesFrom fuel r cur lim).flatten = t := by
  intro fuel
  induction fuel with
  | zero => exact fun _ _ _ _ _ hlen => absurd hlen (Nat.not_lt_zero _)
  | succ n ih =>
    intro pre t cur hr ha hlen
    have hpage : regPage r cur lim = t.take lim := by rw [regPage, ha]
    rw [pagesFrom, hpage]
    cases hlast : (t.take lim).getLast? with
    | none =>
      cases t with
      | nil => rfl
      | cons x xs =>
        cases lim with
        | zero => exact absurd hl (Nat.lt_irrefl 0)
        | succ m => cases List.getLast?_eq_none_iff.1 hlast
    | some e =>
      -- the page ends with `e`, so does everything up to the rest of `t`: the next cursor leaves that rest
      have hr' : r = (pre ++ t.take lim) ++ t.drop lim := by rw [hr, List.append_assoc, List.take_append_drop]
      have hafter : regAfter ((some e.1).map cursorBound) r = t.drop lim := by
        have := regAfter_split (hr' ▸ hs) (hr' ▸ hg) (by rw [List.getLast?_append, hlast]; rfl)
        rwa [← hr'] at this
      have hlen' : (t.drop lim).length < n := by
        have h1 : 0 < (t.take lim).length := List.length_pos_iff.2 fun h => by rw [h] at hlast; cases hlast
        rw [List.length_take] at h1
        rw [List.length_drop]
        omega
      show (t.take lim :: pagesFrom n r (some e.1) lim).flatten = t
      rw [List.flatten_cons, ih _ _ _ hr' hafter hlen', List.take_append_drop]

theorem pagesFrom_page_length {ε : Type} (r : List (Bytes × ε)) (lim : Nat) :
    ∀ (fuel : Nat) (cur : Option Bytes), ∀ pg ∈ pagesFrom fuel r cur lim, pg.length ≤ lim := by
  intro fuel
  induction fuel with
  | zero => exact fun _ _ h => nomatch h
  | succ n ih =>
    intro cur pg h
    rw [pagesFrom] at h
    split at h
    · cases h
    · rcases List.mem_cons.1 h with rfl | h
      · exact List.length_take_le _ _
      · exact ih _ pg h

theorem pageLimit_pos {dflt max : Nat} (hd : 0 < dflt) (hm : 0 < max) {limit : Option Nat}
    (h : limit ≠ some 0) : 0 < pageLimit dflt max limit := by
  refine Nat.lt_min.2 ⟨?_, hm⟩
  cases limit with
  | none => exact hd
  | some l => exact Nat.pos_of_ne_zero fun h0 => h (congrArg some h0)

end WW.Factory
