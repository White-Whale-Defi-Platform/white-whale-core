/-
  The map primitives of the regenerated kernels (`WW/Cw/BTree.lean`: structural recursions) against the
  incentive model's own look-ups `maxKey` / `maxKeyLE` (`WW/Model/Incentive.lean`: left folds), on EVERY
  association list — sorted or not, with or without repeated keys — and what the primitives return
  (membership, greatest key, bound).  Core Lean only.  Does not mention `WW.Gen.K`.

  The unbounded look-up is one associative operation (`pick`) folded over the entries, from the right in the
  primitive and from the left in the model; the bounded look-up is the unbounded one on the entries within
  the bound, on both sides, so its facts are those of the unbounded one read through `List.filter`.
-/
import WW.Cw.BTree
import WW.Model.Incentive
namespace WW
open WW.Inc

variable {V : Type}

/-- of two candidates the later one, unless the earlier has the strictly greater key -/
private def pick (a r : Option (Nat × V)) : Option (Nat × V) :=
  match r with
  | none => a
  | some q =>
    match a with
    | none => some q
    | some p => if p.1 ≤ q.1 then some q else some p

private theorem pick_none (r : Option (Nat × V)) : pick none r = r := by
  cases r <;> rfl

private theorem pick_assoc (a : Option (Nat × V)) (p : Nat × V) (r : Option (Nat × V)) :
    pick (pick a (some p)) r = pick a (pick (some p) r) := by
  cases r with
  | none => rfl
  | some q =>
    cases a with
    | none => rw [pick_none, pick_none]
    | some a =>
      show pick (if a.1 ≤ p.1 then some p else some a) (some q)
          = pick (some a) (if p.1 ≤ q.1 then some q else some p)
      by_cases h1 : a.1 ≤ p.1 <;> by_cases h2 : p.1 ≤ q.1
      · rw [if_pos h1, if_pos h2]
        show (if p.1 ≤ q.1 then some q else some p) = (if a.1 ≤ q.1 then some q else some a)
        rw [if_pos h2, if_pos (Nat.le_trans h1 h2)]
      · rw [if_pos h1, if_neg h2]
        show (if p.1 ≤ q.1 then some q else some p) = (if a.1 ≤ p.1 then some p else some a)
        rw [if_neg h2, if_pos h1]
      · rw [if_neg h1, if_pos h2]
      · rw [if_neg h1, if_neg h2]
        show (if a.1 ≤ q.1 then some q else some a) = (if a.1 ≤ p.1 then some p else some a)
        rw [if_neg (fun h3 => h2 (Nat.le_trans (Nat.le_of_not_le h1) h3)), if_neg h1]

private theorem btreeLastKeyValue_cons (p : Nat × V) (t : List (Nat × V)) :
    btreeLastKeyValue (p :: t) = pick (some p) (btreeLastKeyValue t) := by
  rw [btreeLastKeyValue]
  cases btreeLastKeyValue t <;> rfl

private theorem foldl_pick (l : List (Nat × V)) (acc : Option (Nat × V)) :
    l.foldl (fun acc p => pick acc (some p)) acc = pick acc (btreeLastKeyValue l) := by
  induction l generalizing acc with
  | nil => rfl
  | cons p t ih => rw [List.foldl_cons, ih, pick_assoc, btreeLastKeyValue_cons]

/-- `BTreeMap::last_key_value` as the translator reads it IS the model's `maxKey`, on every list. -/
theorem btreeLastKeyValue_eq_maxKey (l : List (Nat × V)) : btreeLastKeyValue l = maxKey l := by
  have h : maxKey l = l.foldl (fun acc p => pick acc (some p)) none :=
    congrArg (fun f => l.foldl f none) (funext fun acc => funext fun p => by cases acc <;> rfl)
  rw [h, foldl_pick, pick_none]

/-- the bounded look-up is the unbounded one on the entries within the bound -/
theorem btreeRangeToInclNextBack_eq_filter (l : List (Nat × V)) (b : Nat) :
    btreeRangeToInclNextBack l b = btreeLastKeyValue (l.filter fun p => p.1 ≤ b) := by
  induction l with
  | nil => rfl
  | cons p t ih =>
    rw [btreeRangeToInclNextBack, ih]
    by_cases hp : p.1 ≤ b
    · rw [List.filter_cons, if_pos (decide_eq_true hp), btreeLastKeyValue]
      cases btreeLastKeyValue (t.filter fun p => p.1 ≤ b) <;> exact if_pos hp
    · rw [List.filter_cons, if_neg fun h => hp (of_decide_eq_true h)]
      cases btreeLastKeyValue (t.filter fun p => p.1 ≤ b) <;> exact if_neg hp

/-- the same for the model's folds -/
theorem maxKeyLE_eq_filter (l : List (Nat × V)) (e : Nat) :
    maxKeyLE l e = maxKey (l.filter fun p => p.1 ≤ e) := by
  unfold maxKeyLE maxKey
  generalize (none : Option (Nat × V)) = acc
  induction l generalizing acc with
  | nil => rfl
  | cons p t ih =>
    by_cases hp : p.1 ≤ e
    · rw [List.filter_cons, if_pos (decide_eq_true hp), List.foldl_cons, List.foldl_cons, ih, if_pos hp]
    · rw [List.filter_cons, if_neg fun h => hp (of_decide_eq_true h), List.foldl_cons, ih, if_neg hp]

/-- `map.range(..=e).next_back()` as the translator reads it IS the model's `maxKeyLE`, on every list. -/
theorem btreeRangeToInclNextBack_eq_maxKeyLE (l : List (Nat × V)) (e : Nat) :
    btreeRangeToInclNextBack l e = maxKeyLE l e := by
  rw [btreeRangeToInclNextBack_eq_filter, btreeLastKeyValue_eq_maxKey, maxKeyLE_eq_filter]

/-! ### what the primitives return (independent of the model) -/

/-- `last_key_value` is `None` exactly on the empty map -/
theorem btreeLastKeyValue_none_iff (l : List (Nat × V)) : btreeLastKeyValue l = none ↔ l = [] := by
  cases l with
  | nil => exact ⟨fun _ => rfl, fun _ => rfl⟩
  | cons p t =>
    refine ⟨fun h => ?_, fun h => nomatch h⟩
    rw [btreeLastKeyValue] at h
    cases hq : btreeLastKeyValue t with
    | none => rw [hq] at h; cases h
    | some q =>
      rw [hq] at h
      change (if p.1 ≤ q.1 then some q else some p) = none at h
      split at h <;> cases h

/-- `last_key_value` returns an entry of the map, and no entry has a greater key -/
theorem btreeLastKeyValue_some {l : List (Nat × V)} {r : Nat × V} (h : btreeLastKeyValue l = some r) :
    r ∈ l ∧ ∀ x ∈ l, x.1 ≤ r.1 := by
  induction l generalizing r with
  | nil => cases h
  | cons p t ih =>
    rw [btreeLastKeyValue] at h
    cases hq : btreeLastKeyValue t with
    | none =>
      rw [hq] at h
      cases h
      rw [(btreeLastKeyValue_none_iff t).mp hq]
      exact ⟨List.mem_cons_self, fun x hx => List.mem_singleton.mp hx ▸ Nat.le_refl _⟩
    | some q =>
      rw [hq] at h
      have ⟨hm, hall⟩ := ih hq
      change (if p.1 ≤ q.1 then some q else some p) = some r at h
      by_cases hle : p.1 ≤ q.1
      · rw [if_pos hle] at h
        cases h
        exact ⟨List.mem_cons_of_mem _ hm, List.forall_mem_cons.mpr ⟨hle, hall⟩⟩
      · rw [if_neg hle] at h
        cases h
        exact ⟨List.mem_cons_self, List.forall_mem_cons.mpr
          ⟨Nat.le_refl _, fun x hx => Nat.le_trans (hall x hx) (Nat.le_of_not_le hle)⟩⟩

/-- `range(..=b).next_back()` is `None` exactly when no key is `≤ b` -/
theorem btreeRangeToInclNextBack_none_iff (l : List (Nat × V)) (b : Nat) :
    btreeRangeToInclNextBack l b = none ↔ ∀ x ∈ l, ¬ x.1 ≤ b := by
  rw [btreeRangeToInclNextBack_eq_filter, btreeLastKeyValue_none_iff, List.filter_eq_nil_iff]
  simp only [decide_eq_true_eq]

/-- `range(..=b).next_back()` returns an entry of the map with key `≤ b`, and no entry with key `≤ b` has a
    greater key -/
theorem btreeRangeToInclNextBack_some {l : List (Nat × V)} {b : Nat} {r : Nat × V}
    (h : btreeRangeToInclNextBack l b = some r) :
    r ∈ l ∧ r.1 ≤ b ∧ ∀ x ∈ l, x.1 ≤ b → x.1 ≤ r.1 := by
  rw [btreeRangeToInclNextBack_eq_filter] at h
  have ⟨hm, hall⟩ := btreeLastKeyValue_some h
  rw [List.mem_filter, decide_eq_true_eq] at hm
  exact ⟨hm.1, hm.2, fun x hx hxb => hall x (List.mem_filter.mpr ⟨hx, decide_eq_true hxb⟩)⟩

end WW
