/-
  Assets named in the wrong KIND (helpers for WW/Props/C11.lean, C12.lean).
  Asset ids 5 … 9 of the incentive model are the five asset NAMES in the other kind: the native denom that
  spells a cw20 token's address (an ordinary, distinct native asset) and the cw20 `Token` that spells a
  native denom (no contract behind it: `Cfg.dead`). Facts proved here: the look-alike has the other kind;
  a message to a token that does not exist fails; `open_flow` / `expand_flow` naming such a token are
  refused; `expand_flow` is refused unless it names exactly the flow's own asset id (kind and name).
-/
import WW.Proofs.FlowDelta
import WW.Proofs.Flows
namespace WW.Inc
open WW WW.Gen

theorem native_lookalike (c : Cfg) {a : Nat} (h : a < 5) : c.native (a + 5) = !c.native a := by
  match a, h with
  | 0, _ | 1, _ | 2, _ | 3, _ | 4, _ => rfl

theorem dead_not_native {c : Cfg} {a : Nat} (h : c.dead a = true) : c.native a = false := by
  unfold Cfg.dead at h
  cases hn : c.native a with
  | false => rfl
  | true => rw [hn] at h; cases h

theorem base_not_dead (c : Cfg) {a : Nat} (h : a < 5) : c.dead a = false := by
  unfold Cfg.dead
  have : decide (5 ≤ a) = false := by simp; omega
  rw [this, Bool.and_false]

/-- the look-alike of a native asset is a token that does not exist; the look-alike of a cw20 token is a
    live native denom -/
theorem dead_lookalike (c : Cfg) {a : Nat} (h : a < 5) : c.dead (a + 5) = c.native a := by
  unfold Cfg.dead
  rw [native_lookalike c h]
  have : decide (5 ≤ a + 5) = true := by simp
  rw [this, Bool.and_true, Bool.not_not]

/-- what is left of a message list after a prefix was applied successfully -/
theorem applyMsgs_append_ok {c : Cfg} : ∀ (m0 m1 : List Msg) (b b' : Bal) (al : List (Nat × Nat)),
    applyMsgs c b al (m0 ++ m1) = .ok b' → ∃ b1 al1, applyMsgs c b1 al1 m1 = .ok b' := by
  intro m0
  induction m0 with
  | nil => intro m1 b b' al h; exact ⟨b, al, h⟩
  | cons m t ih =>
    intro m1 b b' al h
    rw [List.cons_append] at h
    unfold applyMsgs at h
    split at h
    · exact ih m1 _ b' _ h
    · cases h
    · cases h

/-- a `TransferFrom` sent to a token that does not exist fails -/
theorem pull_dead_fails {c : Cfg} {b b' : Bal} {al : List (Nat × Nat)} {o d a amt : Nat} (hd : c.dead a = true)
    (h : applyMsgs c b al [.pull o d a amt] = .ok b') : False := by
  unfold applyMsgs at h
  unfold applyMsg at h
  simp only [hd, if_true] at h
  cases h

/-- a `Transfer` sent to a token that does not exist fails -/
theorem send_dead_fails {c : Cfg} {b b' : Bal} {al : List (Nat × Nat)} {src d a amt : Nat} (hd : c.dead a = true)
    (h : applyMsgs c b al [.send src d a amt] = .ok b') : False := by
  unfold applyMsgs at h
  unfold applyMsg at h
  have hn := dead_not_native hd
  simp only [hn, hd, if_true] at h
  cases h

/-- `open_flow` naming a token that does not exist (the `Token` that spells a native denom) is refused,
    whatever is attached or allowed -/
theorem step_openFlow_dead {c : Cfg} {s s' : St} {e : Env} {a amt : Nat} {st en : Option Nat}
    (hd : c.dead a = true) (h : step c s e (.openFlow a amt st en) = .ok s') : False := by
  obtain ⟨_, _, b, s1, msgs, b1, hc, h1, hb1, _⟩ := step_ok h
  cases hc
  obtain ⟨x, y, m0, m1, f, _, _, hasset, rfl, _⟩ := openFlow_ok h1
  rcases openFlowAsset_spec hasset with ⟨hna, _⟩ | ⟨_, rfl, _⟩
  · rw [dead_not_native hd] at hna; cases hna
  · obtain ⟨b2, al2, h2⟩ := applyMsgs_append_ok _ _ _ _ _ hb1
    exact pull_dead_fails hd h2

/-- `expand_flow` is accepted only when it names exactly the flow's own asset id — kind and name -/
theorem step_expandFlow_names_asset {c : Cfg} {s s' : St} {e : Env} {id a amt : Nat} {en : Option Nat} {f : Flow}
    (hf : findFlow s.flows id = some f) (h : step c s e (.expandFlow id a amt en) = .ok s') : f.asset = a := by
  obtain ⟨_, _, b, s1, msgs, b1, hc, h1, _⟩ := step_ok h
  cases hc
  obtain ⟨f', _, _, _, hf', hfa, _⟩ := expandFlow_ok h1
  cases hf.symm.trans hf'
  exact hfa

theorem step_expandFlow_dead {c : Cfg} {s s' : St} {e : Env} {id a amt : Nat} {en : Option Nat}
    (hd : c.dead a = true) (h : step c s e (.expandFlow id a amt en) = .ok s') : False := by
  obtain ⟨_, _, b, s1, msgs, b1, hc, h1, hb1, _⟩ := step_ok h
  cases hc
  obtain ⟨_, _, _, rfl, _, _, hfunds, _⟩ := expandFlow_ok h1
  rcases expandFlowFunds_spec hfunds with ⟨hna, _⟩ | ⟨_, _, rfl⟩
  · rw [dead_not_native hd] at hna; cases hna
  · exact pull_dead_fails hd hb1

/-- a helper deposit whose assets are named in the wrong kind is refused -/
theorem step_helperDepositAs {c : Cfg} {s s' : St} {e : Env} {x0 x1 a0 a1 dur : Nat}
    (h : step c s e (.helperDepositAs x0 x1 a0 a1 dur) = .ok s') : False := by
  obtain ⟨_, _, _, _, _, _, hc, h1, _⟩ := step_ok h
  cases hc
  cases h1

end WW.Inc
