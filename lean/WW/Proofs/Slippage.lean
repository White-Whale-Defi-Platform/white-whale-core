/- Closed forms of the slippage assertions of `WW/Model/Slippage.lean`, the floor arithmetic that turns them
   into rational bounds, and the call sites of `WW/Model/SlippageExec.lean` (`pairSwapChecked`, `routeChecked`);
   Props/C15 follows from these. -/
import WW.Model.Slippage
import WW.Model.SlippageExec
import WW.Proofs.Basic
import WW.Proofs.CpSwap
namespace WW

/-- the assertions reject on a strict `>`; the closed forms state the accepted side -/
theorem reject_gt_eq_accept_le {α : Type} (a b : Nat) (x y : α) :
    (if b < a then x else y) = if a ≤ b then y else x := by
  by_cases h : a ≤ b
  · rw [if_pos h, if_neg (Nat.not_lt.mpr h)]
  · rw [if_neg h, if_pos (Nat.lt_of_not_le h)]

/-- the documented numbers: default 1 %, cap 50 % (18-decimal atomics) -/
theorem default_spread_pinned : Gen.SWAP_DEFAULT_SLIPPAGE = E18 / 100 := by decide
theorem spread_cap_pinned : Gen.SWAP_MAX_ALLOWED_SLIPPAGE = E18 / 2 := by decide

theorem effSpread_le_cap (s : Option Nat) : effSpread s ≤ E18 / 2 := by
  unfold effSpread
  rw [spread_cap_pinned]
  exact Nat.min_le_right _ _

theorem effSpread_le_one (s : Option Nat) : effSpread s ≤ E18 :=
  le_trans (effSpread_le_cap s) (by decide)

theorem ratio_le_u256_of_le {n d : Nat} (h : n ≤ d) : n * E18 / d ≤ U256MAX :=
  le_trans (ratio_le_one h) (by decide)

/-- **closed form, no belief price**: on `Uint128` amounts with `return + spread ≠ 0` the assertion
    never panics and accepts exactly when the floored ratio is at most the effective limit. -/
theorem assertMaxSpread_none_closed (s : Option Nat) (offer : Nat) {ret spread : Nat}
    (h0 : ret + spread ≠ 0) (hmax : ret + spread ≤ U128MAX) :
    assertMaxSpread none s offer ret spread =
      if spread * E18 / (ret + spread) ≤ effSpread s then .ok () else .err := by
  unfold assertMaxSpread
  simp only []  -- reduces the `match` on `none` and the `let ms`
  rw [padd_ok hmax, Res.bind_ok, dec256FromRatio_ok h0 (ratio_le_u256_of_le (Nat.le_add_left _ _)),
    Res.bind_ok, reject_gt_eq_accept_le]

/-- … and whatever it accepts, on any input, passed that test -/
theorem assertMaxSpread_none_ok {s : Option Nat} {offer ret spread : Nat}
    (h : assertMaxSpread none s offer ret spread = .ok ()) :
    spread * E18 / (ret + spread) ≤ effSpread s := by
  simp only [assertMaxSpread, Res.bind_eq_ok, padd_eq_ok, dec256FromRatio_eq_ok] at h
  obtain ⟨_, ⟨-, rfl⟩, _, ⟨-, -, rfl⟩, h⟩ := h
  exact Nat.le_of_not_lt fun hn => by rw [if_pos hn] at h; cases h

theorem assertMaxSpread_none_zero (s : Option Nat) (offer : Nat) :
    assertMaxSpread none s offer 0 0 = .panic := by
  unfold assertMaxSpread
  simp only []  -- as above: the `match` and the `let ms`
  rw [padd_ok (by decide : 0 + 0 ≤ U128MAX), Res.bind_ok]
  rfl

theorem assertMaxSpread_none_overflow (s : Option Nat) (offer : Nat) {ret spread : Nat}
    (h : ¬ ret + spread ≤ U128MAX) : assertMaxSpread none s offer ret spread = .panic := by
  unfold assertMaxSpread
  simp only [padd, h, if_false]
  rfl

/-- the return the caller "believes in": `offer * belief_price.inv()` in the code's floor arithmetic -/
def beliefExpected (p offer : Nat) : Nat := offer * (E18 * E18 / p) / E18

/-- … which is the double floor of `Basic.lean` with `a = 10¹⁸`, `b = p`, `D = offer`: `floor2_mul_le` and
    `lt_floor2_succ_mul` bound it against the exact `offer·10¹⁸/p` -/
theorem beliefExpected_eq_floor2 (p offer : Nat) :
    beliefExpected p offer = E18 * E18 / p * offer / E18 := by
  rw [beliefExpected, Nat.mul_comm]

theorem assertMaxSpread_belief_zero (s : Option Nat) (offer ret spread : Nat) :
    assertMaxSpread (some 0) s offer ret spread = .err := by
  unfold assertMaxSpread
  simp [decInv]

theorem assertMaxSpread_belief_closed (s : Option Nat) {p offer : Nat} (ret spread : Nat)
    (hp : p ≠ 0) (hexp : beliefExpected p offer ≤ U128MAX) :
    assertMaxSpread (some p) s offer ret spread =
      if ret < beliefExpected p offer then
        (if (beliefExpected p offer - ret) * E18 / beliefExpected p offer ≤ effSpread s then .ok ()
         else .err)
      else .ok () := by
  unfold beliefExpected at *
  unfold assertMaxSpread
  simp only [decInv, hp, if_false]
  rw [u128MulDec_ok hexp, Res.bind_ok]
  split
  · rw [dec256FromRatio_ok (by omega) (ratio_le_u256_of_le (Nat.sub_le _ _)), Res.bind_ok, reject_gt_eq_accept_le]
  · rfl

theorem assertMaxSpread_belief_overflow (s : Option Nat) {p offer : Nat} (ret spread : Nat)
    (hp : p ≠ 0) (hexp : ¬ beliefExpected p offer ≤ U128MAX) :
    assertMaxSpread (some p) s offer ret spread = .panic := by
  unfold beliefExpected at *
  unfold assertMaxSpread
  simp only [decInv, hp, if_false, u128MulDec, hexp]
  rfl

/-- one tolerance check in the code's floor arithmetic: `from_ratio(a, b) * (1 - t) ≤ from_ratio(pa, pb)`.
    The constant-product pair runs it on the deposit ratio against the pool ratio, in both directions;
    the stableswap pools run it once, on `Σpools / supply` against `Σdeposits / amount`. -/
abbrev tolSide (a b pa pb t : Nat) : Prop := a * E18 / b * (E18 - t) / E18 ≤ pa * E18 / pb

theorem pairAssertSlippage_none (d0 d1 p0 p1 : Nat) (k : PoolKind) (amount supply : Nat) :
    pairAssertSlippage none d0 d1 p0 p1 k amount supply = .ok () := rfl

theorem trioAssertSlippage_none (d0 d1 d2 p0 p1 p2 amount supply : Nat) :
    trioAssertSlippage none d0 d1 d2 p0 p1 p2 amount supply = .ok () := rfl

theorem pairAssertSlippage_gt_one {t : Nat} (ht : E18 < t) (d0 d1 p0 p1 : Nat) (k : PoolKind)
    (amount supply : Nat) : pairAssertSlippage (some t) d0 d1 p0 p1 k amount supply = .err := by
  unfold pairAssertSlippage
  simp only [gt_iff_lt, ht, if_true]

theorem trioAssertSlippage_gt_one {t : Nat} (ht : E18 < t) (d0 d1 d2 p0 p1 p2 amount supply : Nat) :
    trioAssertSlippage (some t) d0 d1 d2 p0 p1 p2 amount supply = .err := by
  unfold trioAssertSlippage
  simp only [gt_iff_lt, ht, if_true]

private theorem mul_om_bound {a t : Nat} (ha : a ≤ U256MAX) : a * (E18 - t) / E18 ≤ U256MAX :=
  le_trans (mul_div_le_of_le (Nat.sub_le _ _)) ha

theorem pairAssertSlippage_cp_closed {t d0 d1 p0 p1 : Nat} (amount supply : Nat) (ht : t ≤ E18)
    (hd0 : d0 ≠ 0) (hd1 : d1 ≠ 0) (hp0 : p0 ≠ 0) (hp1 : p1 ≠ 0)
    (bd0 : d0 ≤ U128MAX) (bd1 : d1 ≤ U128MAX) (bp0 : p0 ≤ U128MAX) (bp1 : p1 ≤ U128MAX) :
    pairAssertSlippage (some t) d0 d1 p0 p1 .constantProduct amount supply =
      if tolSide d0 d1 p0 p1 t ∧ tolSide d1 d0 p1 p0 t then .ok () else .err := by
  unfold tolSide pairAssertSlippage
  simp only [gt_iff_lt, if_neg (Nat.not_lt.mpr ht)]
  rw [psub_ok ht, Res.bind_ok,
    dec256FromRatio_ok hd1 (u128_ratio_le_u256 d1 bd0), Res.bind_ok,
    dec256Mul_ok (mul_om_bound (u128_ratio_le_u256 d1 bd0)), Res.bind_ok,
    dec256FromRatio_ok hp1 (u128_ratio_le_u256 p1 bp0), Res.bind_ok]
  -- `A || B`: the second direction is only computed when the first passes
  by_cases h0 : d0 * E18 / d1 * (E18 - t) / E18 ≤ p0 * E18 / p1
  · rw [if_neg (Nat.not_lt.mpr h0),
      dec256FromRatio_ok hd0 (u128_ratio_le_u256 d0 bd1), Res.bind_ok,
      dec256Mul_ok (mul_om_bound (u128_ratio_le_u256 d0 bd1)), Res.bind_ok,
      dec256FromRatio_ok hp0 (u128_ratio_le_u256 p0 bp1), Res.bind_ok, reject_gt_eq_accept_le]
    simp only [h0, true_and]
  · rw [if_pos (Nat.lt_of_not_le h0), if_neg (fun h => h0 h.1)]

theorem pairAssertSlippage_ss_closed {t d0 d1 p0 p1 amount supply : Nat} (ht : t ≤ E18)
    (ha : amount ≠ 0) (hs : supply ≠ 0)
    (bd0 : d0 ≤ U128MAX) (bd1 : d1 ≤ U128MAX) (bp0 : p0 ≤ U128MAX) (bp1 : p1 ≤ U128MAX) :
    pairAssertSlippage (some t) d0 d1 p0 p1 .stableSwap amount supply =
      if tolSide (p0 + p1) supply (d0 + d1) amount t then .ok () else .err := by
  have hp : p0 + p1 ≤ U128MAX + U128MAX + U128MAX :=
    le_trans (Nat.add_le_add bp0 bp1) (Nat.le_add_right _ _)
  have hd : d0 + d1 ≤ U128MAX + U128MAX + U128MAX :=
    le_trans (Nat.add_le_add bd0 bd1) (Nat.le_add_right _ _)
  unfold tolSide pairAssertSlippage
  simp only [gt_iff_lt, if_neg (Nat.not_lt.mpr ht)]
  rw [psub_ok ht, Res.bind_ok, cadd_ok (u128_add_le_u256 bp0 bp1), Res.bind_ok,
    cadd_ok (u128_add_le_u256 bd0 bd1), Res.bind_ok,
    dec256FromRatio_ok hs (ratio_le_u256 supply hp), Res.bind_ok,
    dec256FromRatio_ok ha (ratio_le_u256 amount hd), Res.bind_ok,
    dec256Mul_ok (mul_om_bound (ratio_le_u256 supply hp)), Res.bind_ok, reject_gt_eq_accept_le]

theorem trioAssertSlippage_closed {t d0 d1 d2 p0 p1 p2 amount supply : Nat} (ht : t ≤ E18)
    (ha : amount ≠ 0) (hs : supply ≠ 0)
    (bd0 : d0 ≤ U128MAX) (bd1 : d1 ≤ U128MAX) (bd2 : d2 ≤ U128MAX)
    (bp0 : p0 ≤ U128MAX) (bp1 : p1 ≤ U128MAX) (bp2 : p2 ≤ U128MAX) :
    trioAssertSlippage (some t) d0 d1 d2 p0 p1 p2 amount supply =
      if tolSide (p0 + p1 + p2) supply (d0 + d1 + d2) amount t then .ok () else .err := by
  have hp := Nat.add_le_add (Nat.add_le_add bp0 bp1) bp2
  have hd := Nat.add_le_add (Nat.add_le_add bd0 bd1) bd2
  unfold tolSide trioAssertSlippage
  simp only [gt_iff_lt, if_neg (Nat.not_lt.mpr ht)]
  rw [psub_ok ht, Res.bind_ok, cadd_ok (u128_add_le_u256 bp0 bp1), Res.bind_ok,
    cadd_ok (le_trans hp (by decide)), Res.bind_ok,
    cadd_ok (u128_add_le_u256 bd0 bd1), Res.bind_ok, cadd_ok (le_trans hd (by decide)), Res.bind_ok,
    dec256FromRatio_ok hs (ratio_le_u256 supply hp), Res.bind_ok,
    dec256FromRatio_ok ha (ratio_le_u256 amount hd), Res.bind_ok,
    dec256Mul_ok (mul_om_bound (ratio_le_u256 supply hp)), Res.bind_ok, reject_gt_eq_accept_le]

theorem assertMinimumReceive_closed (prev m cur : Nat) :
    assertMinimumReceive prev m cur = if prev + m ≤ cur then .ok () else .err := by
  unfold assertMinimumReceive
  by_cases hp : prev ≤ cur
  · rw [csub_ok hp, Res.bind_ok, reject_gt_eq_accept_le]
    simp only [Nat.le_sub_iff_add_le' hp]
  · have hc : csub cur prev = .err := by simp [csub, hp]
    rw [hc, Res.bind_err, if_neg (fun h => hp (le_trans (Nat.le_add_right _ _) h))]

/-- for `D ≤ E` the double floor `y = ⌊⌊a·E/b⌋·D/E⌋` is less than two units short: `a·D/b < y + 2` -/
theorem lt_floor2_add_two_mul (a : Nat) {b D E : Nat} (hb : 0 < b) (hE : 0 < E) (hD : D ≤ E) :
    a * D < (a * E / b * D / E + 2) * b :=
  Nat.lt_of_mul_lt_mul_right (a := E) <|
    calc a * D * E = a * E * D := Nat.mul_right_comm _ _ _
      _ < (a * E / b * D / E + 1) * E * b + b * D := lt_floor2_succ_mul a D hb hE
      _ ≤ (a * E / b * D / E + 1) * E * b + b * E := Nat.add_le_add_left (Nat.mul_le_mul_left b hD) _
      _ = (a * E / b * D / E + 2) * b * E := by
        rw [Nat.mul_right_comm, ← Nat.add_mul, ← Nat.succ_mul]

theorem tolSide_of_real {a b pa pb t : Nat} (hb : 0 < b) (hpb : 0 < pb)
    (h : a * (E18 - t) * pb ≤ pa * E18 * b) : tolSide a b pa pb t := by
  unfold tolSide
  rw [Nat.le_div_iff_mul_le hpb]
  exact Nat.le_of_mul_le_mul_right (c := b) (by
    calc a * E18 / b * (E18 - t) / E18 * pb * b
        = a * E18 / b * (E18 - t) / E18 * b * pb := Nat.mul_right_comm _ _ _
      _ ≤ a * (E18 - t) * pb := Nat.mul_le_mul_right pb (floor2_mul_le a b _ E18_pos)
      _ ≤ pa * E18 * b := h) hb

/-- the floored check implies the real-number bound up to `2·10⁻¹⁸`:
    `tolSide ⇒ a/b·(1−t) < pa/pb + 2·10⁻¹⁸` -/
theorem real_of_tolSide {a b pa pb t : Nat} (hb : 0 < b) (hpb : 0 < pb)
    (h : tolSide a b pa pb t) : a * (E18 - t) * pb < (pa * E18 + 2 * pb) * b := by
  unfold tolSide at h
  calc a * (E18 - t) * pb
      < (a * E18 / b * (E18 - t) / E18 + 2) * b * pb :=
        Nat.mul_lt_mul_of_pos_right (lt_floor2_add_two_mul a hb E18_pos (Nat.sub_le _ _)) hpb
    _ ≤ (pa * E18 / pb + 2) * b * pb :=
        Nat.mul_le_mul_right pb (Nat.mul_le_mul_right b (Nat.add_le_add_right h 2))
    _ = (pa * E18 / pb * pb + 2 * pb) * b := by rw [Nat.mul_right_comm, Nat.add_mul]
    _ ≤ (pa * E18 + 2 * pb) * b :=
        Nat.mul_le_mul_right b (Nat.add_le_add_right (Nat.div_mul_le_self _ _) _)

/-- the spread test `ret < e ∧ ⌊(e−ret)·E/e⌋ > m ⇒ reject`, read as a bound: what passes has
    `e·(1−m) ≤ ret` up to the floor, … -/
theorem spread_check_sound {e r E m : Nat} (h : e ≤ r ∨ (e - r) * E / e ≤ m) :
    e * (E - m) ≤ r * E + e := by
  rw [Nat.mul_sub, Nat.sub_le_iff_le_add]
  rcases h with h | h
  · exact le_trans (Nat.mul_le_mul_right E h) (by omega)
  · rcases Nat.eq_zero_or_pos e with rfl | hpos
    · simp
    · rw [floor_le_iff hpos, Nat.succ_mul, Nat.mul_comm m] at h
      have := Nat.mul_le_mul_right E (show e ≤ r + (e - r) by omega)
      rw [Nat.add_mul] at this
      omega

/-- … and `e·(1−m) ≤ ret` passes -/
theorem spread_check_complete {e r E m : Nat} (hm : m ≤ E) (h : e * (E - m) ≤ r * E) :
    e ≤ r ∨ (e - r) * E / e ≤ m := by
  refine (Nat.le_total e r).imp_right fun _ => floor_le_of_le_mul ?_
  rw [Nat.sub_mul, Nat.mul_comm m]
  rw [Nat.mul_sub] at h
  have := Nat.mul_le_mul_left e hm
  omega

/-- success ⇒ `ret + slack ≥ (offer/p)(1−m)`, cross-multiplied; `hA` is the double-floor bound on the
    expected return `e`, `hB` what the passed check says -/
theorem belief_core {o p e r E D : Nat} (hA : E * E * o < (e + 1) * E * p + p * o)
    (hB : e * D ≤ r * E + e) :
    o * (E * E) * D ≤ r * (E * E * p) + (e * E * p + (E * p + o * p) * D) :=
  calc o * (E * E) * D = E * E * o * D := by rw [Nat.mul_comm o]
    _ ≤ ((e + 1) * E * p + p * o) * D := Nat.mul_le_mul_right D (le_of_lt hA)
    _ = e * D * (E * p) + (E * p + o * p) * D := by ring
    _ ≤ (r * E + e) * (E * p) + (E * p + o * p) * D :=
      Nat.add_le_add_right (Nat.mul_le_mul_right _ hB) _
    _ = r * (E * E * p) + (e * E * p + (E * p + o * p) * D) := by ring

/-- `(offer/p)(1−m) ≤ ret` ⇒ the expected return, being at most `offer/p`, passes -/
theorem belief_complete_core {o p e r E D : Nat} (hp : 0 < p) (hep : e * p ≤ E * o)
    (h : o * D ≤ r * p) : e * D ≤ r * E :=
  Nat.le_of_mul_le_mul_right (c := p) (by
    calc e * D * p = e * p * D := Nat.mul_right_comm _ _ _
      _ ≤ E * o * D := Nat.mul_le_mul_right D hep
      _ = o * D * E := by rw [Nat.mul_comm E, Nat.mul_right_comm]
      _ ≤ r * p * E := Nat.mul_le_mul_right E h
      _ = r * E * p := Nat.mul_right_comm _ _ _) hp

/-- with an exact inverse (`inv·p = E²`) and `e < E` the slack is below two units -/
theorem belief_two_units_core {o p inv e r E D : Nat} (hp : 0 < p)
    (hdiv : inv * p = E * E) (he : o * inv < (e + 1) * E) (hB : e * D ≤ r * E + e) (hD : D ≤ E)
    (hsmall : e < E) : o * D < (r + 2) * p := by
  -- `o·E² = o·inv·p < (e+1)·E·p`, so `o·E < (e+1)·p`
  have h3 : o * E < (e + 1) * p :=
    Nat.lt_of_mul_lt_mul_right (a := E) <|
      calc o * E * E = o * inv * p := by rw [Nat.mul_assoc, ← hdiv, Nat.mul_assoc]
        _ < (e + 1) * E * p := Nat.mul_lt_mul_of_pos_right he hp
        _ = (e + 1) * p * E := Nat.mul_right_comm _ _ _
  exact Nat.lt_of_mul_lt_mul_right (a := E) <|
    calc o * D * E = o * E * D := Nat.mul_right_comm _ _ _
      _ ≤ (e + 1) * p * D := Nat.mul_le_mul_right D (le_of_lt h3)
      _ = e * D * p + p * D := by ring
      _ ≤ (r * E + e) * p + p * E :=
        Nat.add_le_add (Nat.mul_le_mul_right p hB) (Nat.mul_le_mul_left p hD)
      _ = r * E * p + p * E + e * p := by ring
      _ < r * E * p + p * E + E * p := Nat.add_lt_add_left (Nat.mul_lt_mul_of_pos_right hsmall hp) _
      _ = (r + 2) * p * E := by ring

/-- the pair adds the three fees back onto the proceeds: that is the gross output `g` again, and every
    partial sum fits where `g` fits -/
theorem net_add_fees {g sf pf bf M : Nat} (h : sf + pf + bf ≤ g) (hg : g ≤ M) :
    sf + pf ≤ M ∧ sf + pf + bf ≤ M ∧ g - sf - pf - bf + (sf + pf + bf) ≤ M ∧
    g - sf - pf - bf + (sf + pf + bf) = g := by
  omega

/-- what the pair passes to `assert_max_spread`: the *gross* return `⌊ask·offer/(pool+offer)⌋`
    (proceeds + all three fees) and the spread of `compute_swap`. -/
theorem pairSwapChecked_closed {op ap off : Nat} {f : Fees} (b s : Option Nat)
    (hop : In128 op) (hap : In128 ap) (hoff : In128 off) (hop1 : 1 ≤ op) (hf : f.valid = true)
    (hsp : cpSpread op ap off ≤ U128MAX) :
    pairSwapChecked op ap off f b s =
      (assertMaxSpread b s off (cpGross op ap off) (cpSpread op ap off) >>= fun _ =>
        .ok (cpResult op ap off f).ret) := by
  obtain ⟨h1, h2, h3, e⟩ := net_add_fees (fees_le_gross hf (cpGross op ap off))
    (le_trans (cpGross_le_ask op ap off) hap)
  unfold pairSwapChecked
  rw [cpSwap_closed hop hap hoff hop1 hf, if_pos hsp, Res.bind_ok]
  simp only [cpResult]
  rw [cadd_ok h1, Res.bind_ok, cadd_ok h2, Res.bind_ok, cadd_ok h3, Res.bind_ok, e]
  rfl

theorem routeChecked_some {f : Fees} {ms : Option Nat} {m prev : Nat} {hops : List (Nat × Nat)}
    {offer out : Nat} (hh : routeHops f ms hops offer = .ok out) :
    routeChecked f ms (some m) prev hops offer = if m ≤ out then .ok out else .err := by
  unfold routeChecked
  rw [hh, Res.bind_ok]
  simp only []
  rw [assertMinimumReceive_closed]
  simp only [Nat.add_le_add_iff_left]
  split <;> rfl

theorem routeChecked_ok_hops {f : Fees} {ms minr : Option Nat} {prev : Nat} {hops : List (Nat × Nat)}
    {offer out : Nat} (h : routeChecked f ms minr prev hops offer = .ok out) :
    routeHops f ms hops offer = .ok out := by
  obtain ⟨o, hr, h⟩ := Res.bind_eq_ok.mp h
  cases minr with
  | none => exact hr.trans h
  | some m =>
    obtain ⟨_, -, h⟩ := Res.bind_eq_ok.mp h
    exact hr.trans h

end WW
