/- The fee distributor's multi-asset epoch ledger (`WW.Model.Distributor`): per-asset accounting of `aggregate_assets`
   and of the two loops of `claim` (`FeeLoop`; `claimWalk_frame`, `claimWalk_spec`), the invariant `Inv` that every
   operation keeps (`step_cases`, `step_inv`), and the claim cursors and nominal start times. Core Lean only.

   A handler is inverted by `fun_cases`, which numbers its branches in the order of its text: the arm that is written
   out is the branch in which the handler succeeds (its binders are that branch's variables and guards), the arms
   closed by `nofun` are the failing ones; where several arms are written out a comment says which is which. -/
import WW.Model.Distributor
import WW.Proofs.Res
namespace WW.Distributor

theorem sel_same (a x : Nat) : sel a a x = x := by simp [sel]
theorem sel_ne {k a : Nat} (x : Nat) (h : k ≠ a) : sel k a x = 0 := by simp [sel, h]
theorem sel_add (k a x y : Nat) : sel k a (x + y) = sel k a x + sel k a y := by
  unfold sel; split <;> rfl
theorem sel_sub {x y : Nat} (k a : Nat) (h : y ≤ x) : sel k a (x - y) + sel k a y = sel k a x := by
  unfold sel; split
  · exact Nat.sub_add_cancel h
  · rfl

theorem amtOf_cons (a k x : Nat) (r : Ledger) : amtOf a ((k, x) :: r) = sel k a x + amtOf a r := rfl
theorem keys_cons (k x : Nat) (r : Ledger) : keys ((k, x) :: r) = k :: keys r := rfl

theorem amtOf_append (a : Nat) (l m : Ledger) : amtOf a (l ++ m) = amtOf a l + amtOf a m := by
  induction l with
  | nil => simp [amtOf]
  | cons p l ih => simp only [List.cons_append, amtOf, ih, Nat.add_assoc]

theorem hasKey_iff (k : Nat) (l : Ledger) : hasKey k l = true ↔ k ∈ keys l := by
  induction l with
  | nil => simp [hasKey, keys]
  | cons p l ih => obtain ⟨j, y⟩ := p; simp [hasKey, keys_cons, ih, eq_comm (a := k)]

theorem amtOf_of_not_mem (a : Nat) : ∀ l : Ledger, a ∉ keys l → amtOf a l = 0 := by
  intro l
  induction l with
  | nil => intro _; rfl
  | cons p l ih =>
    intro h
    rw [keys_cons, List.mem_cons, not_or] at h
    rw [amtOf_cons, sel_ne _ (Ne.symm h.1), ih h.2]

theorem amtOf_inflowLedger (d a : Nat) (inflow : Option Nat) : amtOf a (inflowLedger d inflow) = sel d a (amt inflow) := by
  cases inflow <;> simp [inflowLedger, amtOf, amt, sel]

theorem nodup_inflowLedger (d : Nat) (inflow : Option Nat) : (keys (inflowLedger d inflow)).Nodup := by
  cases inflow <;> simp [inflowLedger, keys]

theorem addAt_apply (f : Nat → Nat) (i v a : Nat) : addAt f i v a = f a + sel i a v := by
  unfold addAt sel
  by_cases h : a = i
  · subst h; simp
  · rw [if_neg h, if_neg (Ne.symm h)]; rfl

theorem subAt_apply (f : Nat → Nat) (i v a : Nat) (h : v ≤ f i) : subAt f i v a + sel i a v = f a := by
  unfold subAt sel
  by_cases hi : a = i
  · subst hi; rw [if_pos rfl, if_pos rfl]; exact Nat.sub_add_cancel h
  · rw [if_neg hi, if_neg (Ne.symm hi)]; rfl

theorem bumpFirst_spec {k x : Nat} {l l' : Ledger} (hk : hasKey k l = true) (h : bumpFirst k x l = .ok l') :
    keys l' = keys l ∧ ∀ a, amtOf a l' = amtOf a l + sel k a x := by
  fun_induction bumpFirst k x l generalizing l' with
  | case1 => cases hk                                                  -- the ledger is empty
  -- the entry for `k` comes first and is bumped
  | case2 y r hle => cases h; exact ⟨rfl, fun a => by rw [amtOf_cons, amtOf_cons, sel_add, Nat.add_right_comm]⟩
  | case4 j y r hj r' hb ih =>                                         -- another entry first, `k` is bumped further on
    cases h
    rw [hasKey, if_neg hj] at hk
    obtain ⟨i1, i2⟩ := ih hk hb
    exact ⟨by rw [keys_cons, keys_cons, i1], fun a => by rw [amtOf_cons, amtOf_cons, i2 a, Nat.add_assoc]⟩
  | _ => cases h

theorem aggOne_spec {l l' : Ledger} {k x : Nat} (h : aggOne l k x = .ok l') :
    (∀ a, amtOf a l' = amtOf a l + sel k a x) ∧ ((keys l).Nodup → (keys l').Nodup) ∧
    (∀ j, j ∈ keys l' ↔ j ∈ keys l ∨ j = k) := by
  unfold aggOne at h
  split at h
  next hk =>
    obtain ⟨i1, i2⟩ := bumpFirst_spec hk h
    rw [i1]
    exact ⟨i2, id, fun j => ⟨Or.inl, fun hj => hj.elim id fun e => e ▸ (hasKey_iff k l).mp hk⟩⟩
  next hk =>
    cases h
    rw [hasKey_iff] at hk
    have hkeys : keys (l ++ [(k, x)]) = keys l ++ [k] := List.map_append
    rw [hkeys]
    refine ⟨fun a => ?_, fun hn => ?_, fun j => by simp⟩
    · rw [amtOf_append]; simp [amtOf]
    · rw [List.nodup_append]
      exact ⟨hn, by simp, fun a ha b hb => by simp at hb; subst hb; exact fun e => hk (e ▸ ha)⟩

theorem agg_spec : ∀ (m l l' : Ledger), agg l m = .ok l' →
    (∀ a, amtOf a l' = amtOf a l + amtOf a m) ∧ ((keys l).Nodup → (keys l').Nodup) := by
  intro m l l' h
  fun_induction agg l m with
  | case1 l => cases h; exact ⟨fun a => rfl, id⟩
  | case2 l k x m l1 ha ih =>
    obtain ⟨a1, a2, _⟩ := aggOne_spec ha
    obtain ⟨i1, i2⟩ := ih h
    exact ⟨fun a => by rw [i1 a, a1 a, amtOf_cons, Nat.add_assoc], fun hn => i2 (a2 hn)⟩
  | case3 | case4 => cases h

theorem subAll_of_not_mem (k r : Nat) (l : Ledger) (h : k ∉ keys l) : subAll k r l = .ok l := by
  induction l with
  | nil => rfl
  | cons p l ih =>
    obtain ⟨j, y⟩ := p
    rw [keys_cons, List.mem_cons, not_or] at h
    unfold subAll
    rw [if_neg (Ne.symm h.1), ih h.2]

theorem subAll_spec {k r : Nat} {l l' : Ledger} (hn : (keys l).Nodup) (hk : hasKey k l = true)
    (h : subAll k r l = .ok l') : keys l' = keys l ∧ ∀ a, amtOf a l' + sel k a r = amtOf a l := by
  fun_induction subAll k r l generalizing l' with
  | case1 => cases hk                                                  -- the ledger is empty
  | case2 y rest hle t ht =>                                           -- the entry for `k` comes first and is lowered
    cases h
    rw [keys_cons, List.nodup_cons] at hn
    rw [subAll_of_not_mem k r rest hn.1] at ht
    cases ht
    exact ⟨rfl, fun a => by rw [amtOf_cons, amtOf_cons, ← sel_sub k a hle, Nat.add_right_comm]⟩
  | case6 j y rest hj t ht ih =>                                       -- another entry first
    cases h
    rw [keys_cons, List.nodup_cons] at hn
    rw [hasKey, if_neg hj] at hk
    obtain ⟨i1, i2⟩ := ih hn.2 hk ht
    exact ⟨by rw [keys_cons, keys_cons, i1], fun a => by rw [amtOf_cons, amtOf_cons, ← i2 a, Nat.add_assoc]⟩
  | _ => cases h

/-- what `claim` keeps true of one epoch's three ledgers: every asset is listed at most once in `claimed`,
    only assets of `total` are listed, and for EVERY asset `claimed + available = total`. -/
def ClaimedOk (tot av cl : Ledger) : Prop :=
  (keys cl).Nodup ∧ (∀ j ∈ keys cl, j ∈ keys tot) ∧ ∀ a, amtOf a cl + amtOf a av = amtOf a tot

theorem claimedOk_fresh (tot : Ledger) : ClaimedOk tot tot [] := by
  simp [ClaimedOk, keys, amtOf]

/-- `d` moves from `y` to `x` -/
theorem nat_moved {x y t x' y' d : Nat} (h : x + y = t) (hy : y' + d = y) (hx : x' = x + d) : x' + y' = t := by
  omega

/-- Invariant of the loop over `epoch.total`, in the loop's variables `(available, claimed, claimable_fees)`:
    `available` keeps listing the assets `ks`, `claimed` complements it to `tot`, no asset is listed twice in the
    rewards, and per asset `available` and the rewards still add up to `sum`. -/
def FeeLoop (tot : Ledger) (ks : List Nat) (sum : Nat → Nat) : Ledger × Ledger × Ledger → Prop
  | (av, cl, acc) =>
    keys av = ks ∧ ClaimedOk tot av cl ∧ (keys acc).Nodup ∧ ∀ a, amtOf a acc + amtOf a av = sum a

theorem claimFee_loop {sh k t : Nat} {av cl acc tot : Ledger} {ks : List Nat} {sum : Nat → Nat}
    {x : Ledger × Ledger × Ledger} (hn : ks.Nodup) (hk : k ∈ keys tot) (hx : FeeLoop tot ks sum (av, cl, acc))
    (h : claimFee sh k t av cl acc = .ok x) : FeeLoop tot ks sum x := by
  -- of the paths through `claimFee` two end in `ok`: a reward of zero (2) and the full round (4)
  revert h
  fun_cases claimFee sh k t av cl acc with
  | case2 => intro h; cases h; exact hx                                -- a reward of zero
  | case4 _ _ hhas acc' ha av' hs cl' hc =>                            -- the full round
    intro h; cases h
    rw [Bool.not_eq_false] at hhas
    obtain ⟨hks, ⟨hcn, hcs, hceq⟩, han, hsum⟩ := hx
    obtain ⟨a1, a2, _⟩ := aggOne_spec ha
    obtain ⟨s1, s2⟩ := subAll_spec (hks ▸ hn) hhas hs
    obtain ⟨c1, c2, c3⟩ := aggOne_spec hc
    refine ⟨s1.trans hks, ⟨c2 hcn, fun j hj => ?_, fun a => ?_⟩, a2 han, fun a => ?_⟩
    · exact ((c3 j).mp hj).elim (hcs j) fun e => e ▸ hk
    · exact nat_moved (hceq a) (s2 a) (c1 a)
    · exact nat_moved (hsum a) (s2 a) (a1 a)
  | _ => nofun

theorem claimFees_loop {sh : Nat} {tot : Ledger} {ks : List Nat} {sum : Nat → Nat} (hn : ks.Nodup)
    {rest av cl acc : Ledger} {x : Ledger × Ledger × Ledger} (hsub : ∀ p ∈ rest, p.1 ∈ keys tot)
    (hx : FeeLoop tot ks sum (av, cl, acc)) (h : claimFees sh rest av cl acc = .ok x) : FeeLoop tot ks sum x := by
  fun_induction claimFees sh rest av cl acc with
  | case1 => cases h; exact hx
  | case2 k t rest av cl acc av' cl' acc' hf ih =>
    exact ih (fun p hp => hsub p (List.mem_cons_of_mem _ hp)) (claimFee_loop hn (hsub _ List.mem_cons_self) hx hf) h
  | case3 | case4 => cases h

/-- the ledger invariant of one epoch.  ALWAYS (also after expiry emptied `available`): per asset
    `claimed + available ≤ total`.  As long as its `available` vector is non-empty (= until it expires):
    every asset is listed once in `available`, and `ClaimedOk` — per asset `claimed + available = total`. -/
def LedgerOk (e : Epoch) : Prop :=
  (∀ a, amtOf a e.claimed + amtOf a e.avail ≤ amtOf a e.total) ∧
  (e.avail ≠ [] → (keys e.avail).Nodup ∧ ClaimedOk e.total e.avail e.claimed)

/-- every epoch of the list, inside the grace window or expired, keeps its ledger -/
def AllLedger (es : List Epoch) : Prop := ∀ e ∈ es, LedgerOk e

/-- everything outside the grace window (positions ≥ n of the descending list) has been emptied -/
def OutsideEmpty (n : Nat) (es : List Epoch) : Prop := ∀ e ∈ es.drop n, e.avail = []

def IdsDesc (es : List Epoch) : Prop := es.Pairwise fun a b => b.id < a.id

/-- What every history of the distributor keeps (C09): the epochs' ledgers add up, the contract holds at least what is
    still available, the grace period is at least one epoch, epochs outside the window are empty, the newest comes first. -/
structure Inv (s : St) : Prop where
  ledger : AllLedger s.epochs
  holds : ∀ a, sumAvail a s.epochs ≤ s.bal a
  grace : 1 ≤ s.grace
  outside : OutsideEmpty s.grace s.epochs
  desc : IdsDesc s.epochs

theorem inv_init (g d : Nat) (hg : 1 ≤ g) : Inv (St.init g d) :=
  { ledger := fun _ he => by cases he
    holds := fun _ => Nat.le_refl 0
    grace := hg
    outside := fun _ he => by simp [St.init] at he
    desc := List.Pairwise.nil }

theorem AllLedger.tail {e : Epoch} {es : List Epoch} (h : AllLedger (e :: es)) : AllLedger es :=
  fun x hx => h x (List.mem_cons_of_mem _ hx)

theorem AllLedger.cons {e : Epoch} {es : List Epoch} (he : LedgerOk e) (h : AllLedger es) : AllLedger (e :: es) :=
  fun x hx => by
    cases hx with
    | head => exact he
    | tail _ hm => exact h x hm

theorem map_comp_of_map_eq {α β γ : Type} {f : α → β} (g : β → γ) {l l' : List α} (h : l'.map f = l.map f) :
    l'.map (fun x => g (f x)) = l.map (fun x => g (f x)) := by
  have := congrArg (List.map g) h
  rwa [List.map_map, List.map_map] at this

theorem exists_of_map_eq {α β : Type} {f : α → β} {l l' : List α} (h : l'.map f = l.map f) {x' : α}
    (hx : x' ∈ l') : ∃ x ∈ l, f x = f x' :=
  List.mem_map.mp (h ▸ List.mem_map_of_mem hx)

theorem idsDesc_of_map_eq {es es' : List Epoch} (h : es'.map (·.id) = es.map (·.id)) (hd : IdsDesc es) :
    IdsDesc es' := by
  have h1 : (es.map (·.id)).Pairwise (fun a b => b < a) := List.pairwise_map.mpr hd
  rw [← h] at h1
  exact List.pairwise_map.mp h1

theorem isClaimable_spec {b : Nat} {e : Epoch} (h : isClaimable b e = true) : b < e.id ∧ e.avail ≠ [] := by
  simpa [isClaimable] using h

theorem claimEpoch_ok {e e' : Epoch} {an : LairAns} {acc acc' : Ledger} (h : claimEpoch e an acc = .ok (e', acc')) :
    ∃ sh av' cl', claimFees sh e.total e.avail e.claimed acc = .ok (av', cl', acc') ∧
      e' = { e with avail := av', claimed := cl' } := by
  revert h
  fun_cases claimEpoch e an acc with
  -- the lair answered with a share and `claimFees` went through
  | case3 sh av' cl' acc1 hf => intro h; cases h; exact ⟨sh, av', cl', hf, rfl⟩
  | _ => nofun

/-- `c` complements `a` to `t` before and after: what `a` lost to `x` is what `c` gained -/
theorem nat_complement_moved {c a c' a' x x' t : Nat} (h : c + a = t) (h' : c' + a' = t) (hx : x' + a' = x + a) :
    c' + x = c + x' := by omega

theorem claimEpoch_spec {e e' : Epoch} {an : LairAns} {acc acc' : Ledger} (hl : LedgerOk e) (hne : e.avail ≠ [])
    (hacc : (keys acc).Nodup) (h : claimEpoch e an acc = .ok (e', acc')) :
    LedgerOk e' ∧ (keys acc').Nodup ∧
    (∀ a, amtOf a acc' + amtOf a e'.avail = amtOf a acc + amtOf a e.avail) ∧
    (∀ a, amtOf a e'.claimed + amtOf a acc = amtOf a e.claimed + amtOf a acc') := by
  obtain ⟨sh, av', cl', hf, rfl⟩ := claimEpoch_ok h
  obtain ⟨hn, hc⟩ := hl.2 hne
  obtain ⟨hks, hc', hn', hsum⟩ := claimFees_loop (sum := fun a => amtOf a acc + amtOf a e.avail) hn
    (fun p hp => List.mem_map_of_mem hp) ⟨rfl, hc, hacc, fun _ => rfl⟩ hf
  exact ⟨⟨fun a => Nat.le_of_eq (hc'.2.2 a), fun _ => ⟨hks ▸ hn, hc'⟩⟩, hn', hsum,
    fun a => nat_complement_moved (hc.2.2 a) (hc'.2.2 a) (hsum a)⟩

/-- What the loop over the window leaves alone: identity, start and total of every epoch, every epoch behind the
    window, and every epoch whose id is not among the claimable ones. -/
theorem claimWalk_frame {ans : Nat → LairAns} {b n : Nat} {es es' : List Epoch} {acc t : Ledger}
    (h : claimWalk ans b n es acc = .ok (es', t)) :
    es'.map (fun e => (e.id, e.start, e.total)) = es.map (fun e => (e.id, e.start, e.total)) ∧
    es'.drop n = es.drop n ∧ ∀ e' ∈ es', e' ∈ es ∨ e'.id ∈ claimableIds b n es := by
  -- of the cases of `claimWalk`, 3 is a claimable epoch with `claimEpoch` and the rest of the walk succeeding,
  -- 8 an epoch that is passed over; in all others the walk fails
  fun_induction claimWalk ans b n es acc generalizing es' t with
  | case1 | case2 => cases h; exact ⟨rfl, rfl, fun _ => Or.inl⟩       -- the window or the list is exhausted
  | case3 n e es acc hc e1 acc1 hce es1 t1 hw ih =>                    -- a claimable epoch
    cases h
    obtain ⟨_, _, _, _, rfl⟩ := claimEpoch_ok hce
    obtain ⟨i1, i2, i3⟩ := ih hw
    refine ⟨by simp only [List.map_cons, i1], i2, fun e' he' => ?_⟩
    rw [claimableIds, if_pos hc]
    cases he' with
    | head => exact Or.inr List.mem_cons_self
    | tail _ hm => exact (i3 e' hm).imp (List.mem_cons_of_mem _) (List.mem_cons_of_mem _)
  | case8 n e es acc hc es1 t1 hw ih =>                                -- an epoch that is passed over
    cases h
    obtain ⟨i1, i2, i3⟩ := ih hw
    refine ⟨by simp only [List.map_cons, i1], i2, fun e' he' => ?_⟩
    rw [claimableIds, if_neg hc]
    cases he' with
    | head => exact Or.inl List.mem_cons_self
    | tail _ hm => exact (i3 e' hm).imp_left (List.mem_cons_of_mem _)
  | _ => cases h

/-- the sums over the window, one epoch further: `x` is what the rewards stood at after this epoch -/
theorem nat_walk_avail {t s s' x a a' acc : Nat} (h : t + s' = x + s) (he : x + a' = acc + a) :
    t + (a' + s') = acc + (a + s) := by omega
theorem nat_walk_claimed {t c c' x k k' acc : Nat} (h : c' + x = c + t) (he : k' + acc = k + x) :
    k' + c' + acc = k + c + t := by omega

theorem claimWalk_spec {ans : Nat → LairAns} {b n : Nat} {es es' : List Epoch} {acc t : Ledger}
    (hall : AllLedger es) (hacc : (keys acc).Nodup) (h : claimWalk ans b n es acc = .ok (es', t)) :
    AllLedger es' ∧ (keys t).Nodup ∧
    (∀ a, amtOf a t + sumAvail a es' = amtOf a acc + sumAvail a es) ∧
    (∀ a, sumClaimed a es' + amtOf a acc = sumClaimed a es + amtOf a t) := by
  fun_induction claimWalk ans b n es acc generalizing es' t with
  | case1 | case2 => cases h; exact ⟨hall, hacc, fun _ => rfl, fun _ => rfl⟩
  | case3 n e es acc hc e1 acc1 hce es1 t1 hw ih =>
    cases h
    obtain ⟨v1, v2, v3, v4⟩ := claimEpoch_spec (hall e List.mem_cons_self) (isClaimable_spec hc).2 hacc hce
    obtain ⟨i1, i2, i3, i4⟩ := ih hall.tail v2 hw
    exact ⟨i1.cons v1, i2, fun a => nat_walk_avail (i3 a) (v3 a), fun a => nat_walk_claimed (i4 a) (v4 a)⟩
  | case8 n e es acc hc es1 t1 hw ih =>
    cases h
    obtain ⟨i1, i2, i3, i4⟩ := ih hall.tail hacc hw
    exact ⟨i1.cons (hall e List.mem_cons_self), i2, fun a => nat_walk_avail (i3 a) rfl, fun a => nat_walk_claimed (i4 a) rfl⟩
  | _ => cases h

theorem claimableIds_sublist (b n : Nat) (es : List Epoch) : (claimableIds b n es).Sublist (es.map (·.id)) := by
  fun_induction claimableIds b n es with
  | case1 | case2 => exact List.nil_sublist _
  | case3 n e es hc ih => exact ih.cons_cons _
  | case4 n e es hc ih => exact ih.cons _

theorem lt_of_mem_claimableIds {b n i : Nat} {es : List Epoch} (h : i ∈ claimableIds b n es) : b < i := by
  fun_induction claimableIds b n es with
  | case1 | case2 => cases h
  | case3 n e es hc ih =>
    cases h with
    | head => exact (isClaimable_spec hc).1
    | tail _ hm => exact ih hm
  | case4 n e es hc ih => exact ih h

theorem claimableIds_le_head {b n top : Nat} {es : List Epoch} {rest : List Nat} (hd : IdsDesc es)
    (h : claimableIds b n es = top :: rest) : ∀ i ∈ claimableIds b n es, i ≤ top := by
  have hp : (es.map (·.id)).Pairwise (fun a b => b < a) := List.pairwise_map.mpr hd
  replace hp := hp.sublist (claimableIds_sublist b n es)
  rw [h] at hp ⊢
  intro i hi
  cases hi with
  | head => exact Nat.le_refl _
  | tail _ hm => exact Nat.le_of_lt ((List.pairwise_cons.mp hp).1 i hm)

theorem takeOut_sum (a k : Nat) (es : List Epoch) :
    sumAvail a (takeOut k es).1 + amtOf a (takeOut k es).2 = sumAvail a es := by
  induction k, es using takeOut.induct with
  | case1 => simp [takeOut, sumAvail, amtOf]
  | case2 e es => simp only [takeOut, sumAvail, amtOf, Nat.zero_add, Nat.add_comm]
  | case3 k e es ih => simp only [takeOut, sumAvail, ← ih, Nat.add_assoc]

theorem takeOut_keeps (k : Nat) (es : List Epoch) :
    (takeOut k es).1.map (fun e => (e.id, e.start, e.total, e.claimed)) =
      es.map (fun e => (e.id, e.start, e.total, e.claimed)) := by
  induction k, es using takeOut.induct with
  | case1 => simp [takeOut]
  | case2 e es => rfl
  | case3 k e es ih => simp only [takeOut, List.map_cons, ih]

theorem takeOut_ledger (k : Nat) (es : List Epoch) (h : AllLedger es) : AllLedger (takeOut k es).1 := by
  induction k, es using takeOut.induct with
  | case1 => simpa [takeOut] using h
  | case2 e es =>
    exact AllLedger.cons ⟨fun a => Nat.le_trans (Nat.le_add_right _ _) ((h e List.mem_cons_self).1 a),
      fun hs => absurd rfl hs⟩ h.tail
  | case3 k e es ih => exact AllLedger.cons (h e List.mem_cons_self) (ih h.tail)

theorem takeOut_outside (k : Nat) (es : List Epoch) (h : OutsideEmpty (k + 1) es) :
    OutsideEmpty k (takeOut k es).1 := by
  induction k, es using takeOut.induct with
  | case1 => intro x hx; simp [takeOut] at hx
  | case2 e es =>
    intro x hx
    cases hx with
    | head => rfl
    | tail _ hm => exact h x hm
  | case3 k e es ih => exact ih h

/-- what the epoch at position `k` still has available (all assets of it); `[]` if there is none -/
def availAt (es : List Epoch) (k : Nat) : Ledger :=
  match es[k]? with
  | some e => e.avail
  | none => []

theorem takeOut_rolled : ∀ (k : Nat) (es : List Epoch), (takeOut k es).2 = availAt es k := by
  intro k es
  induction k, es using takeOut.induct with
  | case1 => simp [takeOut, availAt]
  | case2 e es => rfl
  | case3 k e es ih => simpa [takeOut, availAt] using ih

theorem takeOut_others (k : Nat) (es : List Epoch) (j : Nat) (hj : j ≠ k) : (takeOut k es).1[j]? = es[j]? := by
  induction k, es using takeOut.induct generalizing j with
  | case1 => simp [takeOut]
  | case2 e es => cases j with
    | zero => exact absurd rfl hj
    | succ j => rfl
  | case3 k e es ih => cases j with
    | zero => rfl
    | succ j => exact ih j (fun e => hj (congrArg (· + 1) e))

theorem takeOut_at (k : Nat) (es : List Epoch) : availAt (takeOut k es).1 k = [] := by
  induction k, es using takeOut.induct with
  | case1 => simp [takeOut, availAt]
  | case2 e es => rfl
  | case3 k e es ih => simpa [takeOut, availAt] using ih

/-- `create_new_epoch`, in the order of its tests: the current epoch has run its duration, the first epoch does not
    start before genesis (a later one starts within 64 bits), the id fits 64 bits -/
theorem nextEpoch_eq_ok {cfg : Cfg} {s : St} {now id start : Nat} :
    nextEpoch cfg s now = .ok (id, start) ↔
      (current s).start ≤ now ∧ cfg.duration ≤ now - (current s).start ∧
      (if (current s).id = 0 ∧ (current s).start = 0 then cfg.genesis ≤ now
       else (current s).start + cfg.duration ≤ U64MAX) ∧
      (current s).id + 1 ≤ U64MAX ∧ id = (current s).id + 1 ∧
      start = if (current s).id = 0 ∧ (current s).start = 0 then cfg.genesis else (current s).start + cfg.duration := by
  unfold nextEpoch
  generalize current s = cur
  by_cases h0 : cur.id = 0 ∧ cur.start = 0
  · simp only [if_pos h0, Res.ite_eq_ok, reduceCtorEq, and_false, or_false, false_or, Res.ok.injEq,
      Prod.mk.injEq, Nat.not_lt, eq_comm (a := id), eq_comm (a := start)]
  · simp only [if_neg h0, Res.ite_eq_ok, reduceCtorEq, and_false, or_false, false_or, Res.ok.injEq,
      Prod.mk.injEq, Nat.not_lt, eq_comm (a := id), eq_comm (a := start)]

theorem receiveEpoch_ok {s s' : St} {id start : Nat} {inflow : Option Nat}
    (h : receiveEpoch s id start inflow = .ok s') :
    1 ≤ s.grace ∧ ∃ tot, agg (inflowLedger s.dist inflow) (takeOut (s.grace - 1) s.epochs).2 = .ok tot ∧
      s' = { s with epochs := { id := id, start := start, total := tot, avail := tot, claimed := [] } ::
                                (takeOut (s.grace - 1) s.epochs).1,
                    bal := addAt s.bal s.dist (amt inflow) } := by
  revert h
  fun_cases receiveEpoch s id start inflow with
  -- the grace period is not zero and the totals add up
  | case2 hg _ tot ha => intro h; cases h; exact ⟨Nat.pos_of_ne_zero hg, tot, ha, rfl⟩
  | _ => nofun

theorem newEpoch_ok {cfg : Cfg} {s s' : St} {now : Nat} {inflow : Option Nat}
    (h : newEpoch cfg s now inflow = .ok s') :
    ∃ id start, nextEpoch cfg s now = .ok (id, start) ∧ receiveEpoch s id start inflow = .ok s' := by
  revert h
  fun_cases newEpoch cfg s now inflow with
  | case1 id start hn => exact fun h => ⟨id, start, hn, h⟩             -- `create_new_epoch` went through
  | _ => nofun

theorem rolled_total {d k : Nat} {inflow : Option Nat} {es : List Epoch} {tot : Ledger}
    (h : agg (inflowLedger d inflow) (takeOut k es).2 = .ok tot) (a : Nat) :
    amtOf a tot = sel d a (amt inflow) + amtOf a (availAt es k) ∧
    amtOf a tot + sumAvail a (takeOut k es).1 = sumAvail a es + sel d a (amt inflow) := by
  have h1 := (agg_spec _ _ _ h).1 a
  have h2 := takeOut_sum a k es
  rw [amtOf_inflowLedger, takeOut_rolled] at h1
  rw [takeOut_rolled] at h2
  exact ⟨h1, by rw [h1, ← h2]; ac_rfl⟩

theorem current_id_max {s : St} (hd : IdsDesc s.epochs) : ∀ e ∈ s.epochs, e.id ≤ (current s).id := by
  intro e he
  unfold current
  split
  next x xs hs =>
    rw [hs] at he hd
    cases he with
    | head => exact Nat.le_refl _
    | tail _ hm => exact Nat.le_of_lt ((List.pairwise_cons.mp hd).1 e hm)
  next hs => rw [hs] at he; cases he

theorem newEpoch_inv {cfg : Cfg} {s s' : St} {now : Nat} {inflow : Option Nat} (hI : Inv s)
    (h : newEpoch cfg s now inflow = .ok s') : Inv s' := by
  obtain ⟨id, start, hn, hr⟩ := newEpoch_ok h
  obtain ⟨hg, tot, hagg, rfl⟩ := receiveEpoch_ok hr
  have hids := map_comp_of_map_eq (·.1) (takeOut_keeps (s.grace - 1) s.epochs)
  refine { ledger := ?_, holds := fun a => ?_, grace := hI.grace, outside := ?_, desc := ?_ }
  · exact AllLedger.cons ⟨fun a => by simp [amtOf], fun _ =>
      ⟨(agg_spec _ _ _ hagg).2 (nodup_inflowLedger _ _), claimedOk_fresh tot⟩⟩ (takeOut_ledger _ _ hI.ledger)
  · calc amtOf a tot + sumAvail a (takeOut (s.grace - 1) s.epochs).1
        = sumAvail a s.epochs + sel s.dist a (amt inflow) := (rolled_total hagg a).2
      _ ≤ s.bal a + sel s.dist a (amt inflow) := Nat.add_le_add_right (hI.holds a) _
      _ = addAt s.bal s.dist (amt inflow) a := (addAt_apply _ _ _ _).symm
  · have := hI.outside
    rw [← Nat.sub_add_cancel hg] at this ⊢
    exact takeOut_outside _ _ this
  · refine List.pairwise_cons.mpr ⟨fun e he => ?_, idsDesc_of_map_eq hids hI.desc⟩
    obtain ⟨x, hx, hxe⟩ := exists_of_map_eq hids he
    have := current_id_max hI.desc x hx
    have := (nextEpoch_eq_ok.mp hn).2.2.2.2.1
    simp only at hxe ⊢
    omega

theorem payAll_spec {l : Ledger} {b b' : Nat → Nat} (h : payAll l b = .ok b') (a : Nat) :
    b' a + amtOf a l = b a := by
  fun_induction payAll l b with
  | case1 b => cases h; rfl
  | case2 k x l b hle ih => rw [amtOf_cons, ← subAt_apply b k x a hle, ← ih h]; ac_rfl
  | case3 => cases h

section claim
variable {s s' : St} {u : Nat} {view : Option Nat} {ans : Nat → LairAns} {paid : Ledger}

theorem claim_ok (h : claim s u view ans = .ok (s', paid)) :
    ∃ b top rest es' bal', claimBound s u view = some b ∧ claimableIds b s.grace s.epochs = top :: rest ∧
      claimWalk ans b s.grace s.epochs [] = .ok (es', paid) ∧ payAll paid s.bal = .ok bal' ∧
      s' = { s with epochs := es', last := setLast u top s.last, bal := bal' } := by
  revert h
  fun_cases claim s u view ans with
  -- a bound, something claimable, the walk and the bank sends went through
  | case3 b hb top rest hc es' t hw bal' hp =>
    intro h; cases h; exact ⟨b, top, rest, es', bal', hb, hc, hw, hp, rfl⟩
  | _ => nofun

theorem claim_frame (h : claim s u view ans = .ok (s', paid)) :
    s'.epochs.map (fun e => (e.id, e.start, e.total)) = s.epochs.map (fun e => (e.id, e.start, e.total)) ∧
    s'.epochs.drop s.grace = s.epochs.drop s.grace ∧ s'.grace = s.grace ∧ s'.dist = s.dist := by
  obtain ⟨b, top, rest, es', bal', _, _, hw, _, rfl⟩ := claim_ok h
  exact ⟨(claimWalk_frame hw).1, (claimWalk_frame hw).2.1, rfl, rfl⟩

theorem claim_ledger (hL : AllLedger s.epochs) (h : claim s u view ans = .ok (s', paid)) :
    AllLedger s'.epochs ∧ (keys paid).Nodup ∧
    (∀ a, amtOf a paid + sumAvail a s'.epochs = sumAvail a s.epochs) ∧
    (∀ a, sumClaimed a s'.epochs = sumClaimed a s.epochs + amtOf a paid) ∧
    (∀ a, s'.bal a + amtOf a paid = s.bal a) := by
  obtain ⟨b, top, rest, es', bal', _, _, hw, hp, rfl⟩ := claim_ok h
  obtain ⟨i1, i2, i3, i4⟩ := claimWalk_spec (acc := []) hL List.nodup_nil hw
  exact ⟨i1, i2, fun a => (i3 a).trans (Nat.zero_add _), fun a => i4 a, payAll_spec hp⟩

theorem claim_inv (hI : Inv s) (h : claim s u view ans = .ok (s', paid)) : Inv s' := by
  obtain ⟨f1, f2, f3, _⟩ := claim_frame h
  obtain ⟨l1, _, l3, _, l5⟩ := claim_ledger hI.ledger h
  refine { ledger := l1, holds := fun a => ?_, grace := f3 ▸ hI.grace, outside := ?_,
           desc := idsDesc_of_map_eq (map_comp_of_map_eq (·.1) f1) hI.desc }
  · have := hI.holds a; have := l3 a; have := l5 a
    omega
  · unfold OutsideEmpty
    rw [f3, f2]
    exact hI.outside

end claim

theorem updateGrace_eq_ok {cfg : Cfg} {s s' : St} {sender g : Nat} :
    updateGrace cfg s sender g = .ok s' ↔
      sender = cfg.owner ∧ 1 ≤ g ∧ g ≤ WW.Gen.DISTRIBUTOR_MAX_GRACE_PERIOD ∧ s.grace ≤ g ∧
      s' = { s with grace := g } := by
  simp only [updateGrace, Res.err_else_eq_ok, Res.ok.injEq, Classical.not_not, not_or, Nat.not_lt, and_assoc,
    eq_comm (a := s')]

theorem setDist_ok {cfg : Cfg} {s s' : St} {sender a : Nat} (h : setDist cfg s sender a = .ok s') :
    s' = { s with dist := a } ∧ sender = cfg.owner := by
  simp only [setDist, Res.ite_eq_ok, reduceCtorEq, and_false, false_or, Res.ok.injEq] at h
  exact ⟨h.2.symm, Classical.not_not.mp h.1⟩

/-- A successful operation is a `NewEpoch`, a `Claim`, or one that leaves the epochs and the claim cursors alone and
    lowers neither the grace period nor a balance. -/
theorem step_cases {cfg : Cfg} {s s' : St} {op : Op} (h : step cfg s op = .ok s') :
    (∃ now inflow, newEpoch cfg s now inflow = .ok s') ∨
    (∃ u view ans paid, claim s u view ans = .ok (s', paid)) ∨
    s'.epochs = s.epochs ∧ s'.last = s.last ∧ s.grace ≤ s'.grace ∧ ∀ a, s.bal a ≤ s'.bal a := by
  cases op with
  | newEpoch now inflow => exact Or.inl ⟨now, inflow, h⟩
  | claim u view ans =>
    simp only [step] at h
    split at h
    next s1 paid hc => cases h; exact Or.inr (Or.inl ⟨u, view, ans, paid, hc⟩)
    all_goals cases h
  | grace sender g =>
    obtain ⟨_, _, _, hle, rfl⟩ := updateGrace_eq_ok.mp h
    exact Or.inr (Or.inr ⟨rfl, rfl, hle, fun _ => Nat.le_refl _⟩)
  | gift a x =>
    cases h
    exact Or.inr (Or.inr ⟨rfl, rfl, Nat.le_refl _, fun b => by simp only [gift, addAt_apply, Nat.le_add_right]⟩)
  | setDist sender a =>
    obtain ⟨rfl, _⟩ := setDist_ok h
    exact Or.inr (Or.inr ⟨rfl, rfl, Nat.le_refl _, fun _ => Nat.le_refl _⟩)

theorem step_inv {cfg : Cfg} {s s' : St} {op : Op} (hI : Inv s) (h : step cfg s op = .ok s') : Inv s' := by
  obtain ⟨_, _, h⟩ | ⟨_, _, _, _, h⟩ | ⟨he, _, hg, hb⟩ := step_cases h
  · exact newEpoch_inv hI h
  · exact claim_inv hI h
  · exact { ledger := he ▸ hI.ledger
            holds := fun a => he ▸ Nat.le_trans (hI.holds a) (hb a)
            grace := Nat.le_trans hI.grace hg
            outside := fun e hx => hI.outside e (List.drop_subset_drop_left _ hg (he ▸ hx))
            desc := he ▸ hI.desc }

theorem reach_induction {cfg : Cfg} {P : St → Prop} (hP : ∀ {s s' op}, P s → step cfg s op = .ok s' → P s')
    (ops : List Op) : ∀ s, P s → P (reach cfg s ops) := by
  induction ops with
  | nil => exact fun s h => h
  | cons op ops ih =>
    intro s hs
    unfold reach
    split
    next s' h => exact ih s' (hP hs h)
    next => exact ih s hs

theorem reach_inv (cfg : Cfg) (ops : List Op) (s : St) : Inv s → Inv (reach cfg s ops) :=
  reach_induction step_inv ops s

theorem lookup_setLast_same (u v : Nat) (l : List (Nat × Nat)) : lookup u (setLast u v l) = some v := by
  induction l with
  | nil => simp [setLast, lookup]
  | cons p l ih => unfold setLast; split <;> simp [lookup, *]

theorem lookup_setLast_other {u u' : Nat} (v : Nat) (hne : u' ≠ u) (l : List (Nat × Nat)) :
    lookup u' (setLast u v l) = lookup u' l := by
  induction l with
  | nil => simp [setLast, lookup, Ne.symm hne]
  | cons p l ih =>
    unfold setLast
    split
    next hk => simp [lookup, hk, Ne.symm hne]
    next => simp only [lookup, ih]

theorem claimBound_of_last {s : St} {u lc : Nat} (view : Option Nat) (h : lookup u s.last = some lc) :
    claimBound s u view = some lc := by
  unfold claimBound; rw [h]

theorem claimBound_of_never {s : St} {u : Nat} (view : Option Nat) (h : lookup u s.last = none) :
    claimBound s u view = view := by
  unfold claimBound; rw [h]

/-- "the last claimed epoch of `u` is at least `m`" (and defined) -/
def LastGe (s : St) (u m : Nat) : Prop := ∃ lc, lookup u s.last = some lc ∧ m ≤ lc

theorem step_lastGe {cfg : Cfg} {s s' : St} {op : Op} {u m : Nat} (hl : LastGe s u m)
    (h : step cfg s op = .ok s') : LastGe s' u m := by
  obtain ⟨_, _, h⟩ | ⟨u', view, _, _, h⟩ | ⟨_, hl', _, _⟩ := step_cases h
  · obtain ⟨id, start, _, hr⟩ := newEpoch_ok h
    obtain ⟨_, _, _, rfl⟩ := receiveEpoch_ok hr
    exact hl
  · -- a claim moves the claimer's cursor to a claimable id, which lies above the old cursor
    obtain ⟨lc, hlc, hm⟩ := hl
    obtain ⟨b, top, rest, es', bal', hb, hcl, _, _, rfl⟩ := claim_ok h
    by_cases hu : u = u'
    · subst hu
      rw [claimBound_of_last view hlc] at hb
      cases hb
      have := lt_of_mem_claimableIds (hcl ▸ List.mem_cons_self : top ∈ claimableIds lc s.grace s.epochs)
      exact ⟨top, lookup_setLast_same _ _ _, Nat.le_trans hm (Nat.le_of_lt this)⟩
    · exact ⟨lc, (lookup_setLast_other _ hu _).trans hlc, hm⟩
  · unfold LastGe; rw [hl']; exact hl

theorem reach_lastGe (cfg : Cfg) {u m : Nat} (ops : List Op) (s : St) : LastGe s u m → LastGe (reach cfg s ops) u m :=
  reach_induction step_lastGe ops s

/-- epoch `id` starts at `genesis + (id-1)·duration` -/
def Nominal (cfg : Cfg) (es : List Epoch) : Prop :=
  ∀ e ∈ es, 1 ≤ e.id ∧ e.start = cfg.genesis + (e.id - 1) * cfg.duration

theorem nominal_of_map_eq {cfg : Cfg} {es es' : List Epoch}
    (h : es'.map (fun e => (e.id, e.start)) = es.map (fun e => (e.id, e.start))) (hN : Nominal cfg es) :
    Nominal cfg es' := by
  intro e' he'
  obtain ⟨e, he, hee⟩ := exists_of_map_eq h he'
  rw [← (Prod.mk.inj hee).1, ← (Prod.mk.inj hee).2]
  exact hN e he

theorem nominal_succ {g d i st : Nat} (hi : 1 ≤ i) (h : st = g + (i - 1) * d) : st + d = g + (i + 1 - 1) * d := by
  obtain ⟨k, rfl⟩ : ∃ k, i = k + 1 := ⟨i - 1, (Nat.sub_add_cancel hi).symm⟩
  rw [h, Nat.add_sub_cancel, Nat.add_sub_cancel, Nat.succ_mul, Nat.add_assoc]

theorem newEpoch_nominal {cfg : Cfg} {s s' : St} {now : Nat} {inflow : Option Nat}
    (hN : Nominal cfg s.epochs) (h : newEpoch cfg s now inflow = .ok s') : Nominal cfg s'.epochs := by
  obtain ⟨id, start, hn, hr⟩ := newEpoch_ok h
  obtain ⟨_, tot, _, rfl⟩ := receiveEpoch_ok hr
  obtain ⟨_, _, _, _, rfl, rfl⟩ := nextEpoch_eq_ok.mp hn
  intro e he
  cases he with
  | tail _ hm =>
    exact nominal_of_map_eq (map_comp_of_map_eq (fun p => (p.1, p.2.1)) (takeOut_keeps _ _)) hN e hm
  | head =>
    unfold current
    split
    next x xs hs =>
      -- the current epoch is a real one: the next starts one `duration` later
      obtain ⟨h1, h2⟩ := hN x (hs ▸ List.mem_cons_self)
      exact ⟨Nat.le_add_left _ _, (if_neg fun h0 => Nat.ne_of_gt h1 h0.1).trans (nominal_succ h1 h2)⟩
    next => exact ⟨Nat.le_refl _, by simp⟩

theorem claim_nominal {cfg : Cfg} {s s' : St} {u : Nat} {view : Option Nat} {ans : Nat → LairAns} {paid : Ledger}
    (hN : Nominal cfg s.epochs) (h : claim s u view ans = .ok (s', paid)) : Nominal cfg s'.epochs :=
  nominal_of_map_eq (map_comp_of_map_eq (fun p => (p.1, p.2.1)) (claim_frame h).1) hN

theorem step_nominal {cfg : Cfg} {s s' : St} {op : Op} (hN : Nominal cfg s.epochs)
    (h : step cfg s op = .ok s') : Nominal cfg s'.epochs := by
  obtain ⟨_, _, h⟩ | ⟨_, _, _, _, h⟩ | ⟨he, _, _, _⟩ := step_cases h
  · exact newEpoch_nominal hN h
  · exact claim_nominal hN h
  · rw [he]; exact hN

theorem reach_nominal (cfg : Cfg) (ops : List Op) (s : St) :
    Nominal cfg s.epochs → Nominal cfg (reach cfg s ops).epochs :=
  reach_induction (P := fun s => Nominal cfg s.epochs) step_nominal ops s

end WW.Distributor
