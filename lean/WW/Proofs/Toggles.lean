/- Lemmas for the pause-switch model (C17): the gate table, what a successful `step` can change, histories
   (`reach`), and a loan transaction whose inner message is rejected. -/
import WW.Model.Toggles
namespace WW.Toggles
open WW

/-- the gate-table refinement: whenever a handler reads a switch, it is the switch the path names -/
theorem consults_sub_names (p : Path) (s : Switch) (h : p.consults = some s) : p.names = some s := by
  cases p <;> cases h <;> rfl

/-- a path that names a switch but whose handler reads none is one of the two direct pool-withdraw
    entries or an LP-token `Send` whose payload is not a hook message (refused before any switch is read) -/
theorem names_not_consulted (p : Path) (s : Switch) (hn : p.names = some s) (hc : p.consults = none) :
    p = .pairWithdrawDirect ∨ p = .trioWithdrawDirect ∨ p = .pairHookMalformed ∨ p = .trioHookMalformed
      ∨ p = .vaultHookMalformed := by
  cases p <;> cases hc <;> cases hn <;> simp

theorem gate_of_consults {p : Path} {s : Switch} (h : p.consults = some s) (f : Flags) :
    gate p f = f.get s := by
  simp [gate, h]

theorem gate_of_not_consults {p : Path} (h : p.consults = none) (f : Flags) : gate p f = true := by
  simp [gate, h]

theorem gate_allOn (p : Path) : gate p Flags.allOn = true := by
  unfold gate
  cases p.consults with
  | none => rfl
  | some s => cases s <;> rfl

theorem get_set_same (f : Flags) (s : Switch) (v : Bool) : (f.set s v).get s = v := by
  cases s <;> rfl

theorem get_set_other (f : Flags) (s t : Switch) (v : Bool) (h : s ≠ t) : (f.set s v).get t = f.get t := by
  cases s <;> cases t <;> first | rfl | exact absurd rfl h

/-- the guards do not look at what the operation would do -/
theorem stepPath_rejected (base : Path → Res Unit) (s : St) (p : Path)
    (h : gate p s.flags = false ∨ entryRejects s.lpCw20 p = true ∨ loanRejects s.loans p = true) :
    stepPath base s p = .err := by
  unfold stepPath
  rcases h with h | h | h <;> simp [h]

theorem stepPath_passed (base : Path → Res Unit) (s : St) (p : Path) (hg : gate p s.flags = true)
    (he : entryRejects s.lpCw20 p = false) (hl : loanRejects s.loans p = false) :
    stepPath base s p = base p := by
  simp [stepPath, hg, he, hl]

/-- outside a loan the counter stops nothing -/
theorem loanRejects_zero (p : Path) : loanRejects 0 p = false := by
  unfold loanRejects
  split <;> rfl

/-- the guards themselves never panic: around an operation that succeeds a call answers `ok` or `err` -/
theorem stepPath_ok_or_err (s : St) (p : Path) :
    stepPath (fun _ => .ok ()) s p = .ok () ∨ stepPath (fun _ => .ok ()) s p = .err := by
  unfold stepPath
  cases gate p s.flags <;> cases entryRejects s.lpCw20 p <;> cases loanRejects s.loans p <;> simp

/-- the operations that can write a switch: the owner's `UpdateConfig` carrying switches (used in the
    statements of C17, like `Op.isMigrate`) -/
def Op.ownerWrite : Op → Bool
  | .setFlags byOwner _ => byOwner
  | .setPartial byOwner _ _ _ => byOwner
  | _ => false

def Op.isMigrate : Op → Bool
  | .migrate _ _ _ _ => true
  | _ => false

theorem isMigrate_not_ownerWrite (op : Op) (h : op.isMigrate = true) : op.ownerWrite = false := by
  cases op <;> first | rfl | cases h

/-- An operation that succeeds changes at most the switches (the cw20-LP marker is never written and the
    loan counter is back where it was), and not even those unless it is a switch-carrying `UpdateConfig` of
    the owner: every other branch of `step` returns the state it was given. -/
theorem step_ok {base : Path → Res Unit} {s s' : St} {op : Op} (h : step base s op = .ok s') :
    s'.lpCw20 = s.lpCw20 ∧ s'.loans = s.loans ∧ (op.ownerWrite = false → s' = s) := by
  cases op <;> simp only [step] at h <;> split at h <;> cases h <;> simp_all [Op.ownerWrite]

/-- a property kept by every successful operation of a history holds at its end -/
theorem reach_preserves {P : St → Prop} {base : Path → Res Unit} (ops : List Op) {s : St} (hs : P s)
    (hstep : ∀ op ∈ ops, ∀ t t', P t → step base t op = .ok t' → P t') : P (reach base s ops) := by
  induction ops generalizing s with
  | nil => exact hs
  | cons op ops ih =>
    have hrest : ∀ o ∈ ops, ∀ t t', P t → step base t o = .ok t' → P t' :=
      fun o ho => hstep o (List.mem_cons_of_mem _ ho)
    simp only [reach]
    split
    · next s' h => exact ih (hstep op (List.mem_cons_self ..) s s' hs h) hrest
    · exact ih hs hrest

theorem reach_append (base : Path → Res Unit) (l ops : List Op) (s : St) :
    reach base s (l ++ ops) = reach base (reach base s l) ops := by
  induction l generalizing s with
  | nil => rfl
  | cons op l ih =>
    simp only [List.cons_append, reach]
    split <;> exact ih _

theorem reach_lpCw20 (base : Path → Res Unit) (ops : List Op) (s : St) :
    (reach base s ops).lpCw20 = s.lpCw20 :=
  reach_preserves (P := fun t => t.lpCw20 = s.lpCw20) ops rfl fun _ _ _ _ ht h => (step_ok h).1.trans ht

/-- the loan counter is transient: between transactions it is where it started (0 for a new vault) -/
theorem reach_loans (base : Path → Res Unit) (ops : List Op) (s : St) :
    (reach base s ops).loans = s.loans :=
  reach_preserves (P := fun t => t.loans = s.loans) ops rfl fun _ _ _ _ ht h => (step_ok h).2.1.trans ht

/-- any history without a switch-carrying `UpdateConfig` of the owner leaves the whole modelled state as it
    was, whichever of its operations succeed -/
theorem reach_not_ownerWrite (base : Path → Res Unit) (ops : List Op) (s : St)
    (hw : ∀ op ∈ ops, op.ownerWrite = false) : reach base s ops = s :=
  reach_preserves (P := fun t => t = s) ops rfl fun op hop _ _ ht h =>
    ((step_ok h).2.2 (hw op hop)).trans ht

/-- migrations, refused or accepted, leave the state as it was -/
theorem reach_migrations (base : Path → Res Unit) (ms : List Op) (s : St)
    (hm : ∀ op ∈ ms, op.isMigrate = true) : reach base s ms = s :=
  reach_not_ownerWrite base ms s fun op h => isMigrate_not_ownerWrite op (hm op h)

/-- migrations can be struck out of a history: the state reached is the same -/
theorem reach_filter_migrate (base : Path → Res Unit) (ops : List Op) (s : St) :
    reach base s (ops.filter (fun op => !op.isMigrate)) = reach base s ops := by
  induction ops generalizing s with
  | nil => rfl
  | cons op ops ih =>
    cases hm : op.isMigrate with
    | true =>
      have hs : reach base s [op] = s :=
        reach_migrations base [op] s fun o ho => List.mem_singleton.mp ho ▸ hm
      rw [List.filter_cons_of_neg (by simp [hm]), ih, ← List.singleton_append, reach_append, hs]
    | false =>
      rw [List.filter_cons_of_pos (by simp [hm])]
      simp only [reach]
      split <;> exact ih _

theorem finishLoan_false_inner (r : Res Unit) (m : Mode) : (finishLoan r m false).inner ≠ some true := by
  unfold finishLoan
  cases r <;> cases m <;> simp

/-- the loan's own guards reject ⇒ the transaction is rejected, no inner message is sent -/
theorem stepInLoan_outer_err (s : St) (outer inner : Path) (m : Mode) (lb : LoanBase)
    (h : outer.isLoan = false ∨ stepPath (fun _ => .ok ()) s outer = .err) :
    stepInLoan s outer inner m lb = ⟨.err, none⟩ := by
  unfold stepInLoan
  rcases h with h | h
  · simp [h]
  · split <;> simp [h]

/-- The inner message is rejected: sent as a plain message it fails the transaction; sent as a caught
    sub-message the transaction is the loan around a message that fails.  Which of the two it is depends on the
    loan's guards and the mode only, and nothing of what the inner operation would have done (`lb.inner`,
    `lb.done`) enters the result. -/
theorem stepInLoan_inner_err (s : St) (outer inner : Path) (m : Mode) (lb : LoanBase)
    (h : stepPath (fun _ => lb.inner) { s with loans := s.loans + 1 } inner = .err) :
    stepInLoan s outer inner m lb =
      if outer.isLoan = true ∧ stepPath (fun _ => .ok ()) s outer = .ok () ∧ m = .catch
      then finishLoan lb.caught .catch false else ⟨.err, none⟩ := by
  by_cases hl : outer.isLoan = false
  · rw [stepInLoan_outer_err s outer inner m lb (Or.inl hl)]
    simp [hl]
  · rcases stepPath_ok_or_err s outer with ho | ho
    · unfold stepInLoan
      cases m <;> simp [hl, ho, h]
    · rw [stepInLoan_outer_err s outer inner m lb (Or.inr ho)]
      simp [ho]

/-- the loan's guards and the inner message's guards all pass: the loan runs to its end around the inner
    operation -/
theorem stepInLoan_inner_ok (s : St) (outer inner : Path) (m : Mode) (lb : LoanBase) (hl : outer.isLoan = true)
    (ho : stepPath (fun _ => .ok ()) s outer = .ok ())
    (h : stepPath (fun _ => lb.inner) { s with loans := s.loans + 1 } inner = .ok ()) :
    stepInLoan s outer inner m lb = finishLoan lb.done m true := by
  unfold stepInLoan
  simp [hl, ho, h]

theorem stepInLoan_inner_err_propagate (s : St) (outer inner : Path) (lb : LoanBase)
    (h : stepPath (fun _ => lb.inner) { s with loans := s.loans + 1 } inner = .err) :
    stepInLoan s outer inner .propagate lb = ⟨.err, none⟩ := by
  rw [stepInLoan_inner_err s outer inner _ lb h]
  simp

/-- the borrower never records a success for a rejected inner message -/
theorem stepInLoan_inner_err_inner (s : St) (outer inner : Path) (m : Mode) (lb : LoanBase)
    (h : stepPath (fun _ => lb.inner) { s with loans := s.loans + 1 } inner = .err) :
    (stepInLoan s outer inner m lb).inner ≠ some true := by
  rw [stepInLoan_inner_err s outer inner m lb h]
  split
  · exact finishLoan_false_inner _ _
  · simp

end WW.Toggles
