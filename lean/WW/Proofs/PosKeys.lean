/- C11: the staked total (sum over the two position maps) equals the sum of the per-address position
   amounts over any duplicate-free list of addresses that covers every address with a stored entry. -/
import WW.Proofs.HistKeys
namespace WW.Inc
open WW WW.Gen

/-- the position maps have one entry per address -/
structure PKeys (s : St) : Prop where
  openK : (keysOf s.openPos).Nodup
  closedK : (keysOf s.closedPos).Nodup

/-- a handler leaves a position map alone or writes one address's entry (`nodup_keys_aset`) -/
theorem handler_PKeys {c : Cfg} {s s1 : St} {e : Env} {op : Op} {m : List Msg} (hP : PKeys s)
    (h : handler c s e op = .ok (s1, m)) : PKeys s1 := by
  cases op with
  | openPos amt dur recv =>
    obtain ⟨_, rfl, -⟩ := openPosition_ok rfl h
    exact ⟨nodup_keys_aset _ _ hP.openK, hP.closedK⟩
  | expandPos amt dur recv =>
    obtain ⟨_, _, _, _, rfl, -⟩ := expandPosition_ok rfl h
    exact ⟨nodup_keys_aset _ _ hP.openK, hP.closedK⟩
  | closePos dur =>
    obtain ⟨_, _, _, rfl, -⟩ := closePosition_ok h
    exact ⟨nodup_keys_aset _ _ hP.openK, nodup_keys_aset _ _ hP.closedK⟩
  | withdraw =>
    obtain ⟨rfl, -⟩ := withdrawOp_ok (s := s) (e := e) h
    exact ⟨hP.openK, nodup_keys_aset _ _ hP.closedK⟩
  | claim =>
    obtain ⟨_, rfl, -⟩ := claimCore_ok (claimExec_ok (s := s) (e := e) h).2
    exact ⟨hP.openK, hP.closedK⟩
  | snapshot =>
    obtain ⟨rfl, -⟩ := takeSnapshot_ok h
    exact ⟨hP.openK, hP.closedK⟩
  | openFlow a amt st en =>
    obtain ⟨_, _, _, _, _, rfl, -⟩ := openFlow_ok h
    exact ⟨hP.openK, hP.closedK⟩
  | expandFlow id a amt en =>
    obtain ⟨_, _, _, rfl, -⟩ := expandFlow_ok h
    exact ⟨hP.openK, hP.closedK⟩
  | closeFlow id =>
    obtain ⟨_, rfl, -⟩ := closeFlow_ok (s := s) (e := e) h
    exact ⟨hP.openK, hP.closedK⟩
  | helperDeposit a0 a1 dur => cases h
  | helperDepositAs x0 x1 a0 a1 dur => cases h

theorem step_PKeys {c : Cfg} {s s' : St} {e : Env} {op : Op} (hP : PKeys s) (h : step c s e op = .ok s') :
    PKeys s' := by
  obtain ⟨e', op', b, s1, msgs, b1, -, h1, -, rfl⟩ := step_ok h
  have hP1 := handler_PKeys (s := { s with bal := b }) ⟨hP.openK, hP.closedK⟩ h1
  exact ⟨hP1.openK, hP1.closedK⟩

theorem reach_PKeys {c : Cfg} {s : St} (hP : PKeys s) (ops : List (Env × Op)) : PKeys (reach c s ops) :=
  reach_keeps step_PKeys hP ops

theorem init_PKeys (e0 : Nat) (bal : Bal) : PKeys (init e0 bal) := ⟨by simp [init, keysOf], by simp [init, keysOf]⟩

theorem sum_ite_eq {us : List Nat} (hn : us.Nodup) {k : Nat} (hk : k ∈ us) (v : Nat) (g : Nat → Nat) :
    (us.map (fun u => if k = u then v else g u)).sum + g k = v + (us.map g).sum := by
  induction us with
  | nil => cases hk
  | cons u t ih =>
    simp only [List.nodup_cons] at hn
    simp only [List.map_cons, List.sum_cons]
    by_cases hku : k = u
    · rw [if_pos hku]
      have : t.map (fun u => if k = u then v else g u) = t.map g := by
        apply List.map_congr_left
        intro x hx
        have : k ≠ x := fun he => hn.1 (by rw [← hku, he]; exact hx)
        simp [this]
      rw [this, hku]; omega
    · rw [if_neg hku]
      have hk' : k ∈ t := by
        rcases List.mem_cons.mp hk with h | h
        · exact absurd h hku
        · exact h
      have := ih hn.2 hk'
      omega

theorem sum_over_addresses {α : Type} (f : α → Nat) {d : α} (hd : f d = 0) :
    ∀ (l : List (Nat × α)) (us : List Nat), (keysOf l).Nodup → us.Nodup → (∀ k ∈ keysOf l, k ∈ us) →
      (us.map (fun u => f ((alook l u).getD d))).sum = sumBy f l := by
  intro l
  induction l with
  | nil => intro us _ _ _; exact sum_map_eq_zero (fun _ => hd)
  | cons p t ih =>
    intro us hn hus hsub
    obtain ⟨k, v⟩ := p
    obtain ⟨hk, hn⟩ := List.nodup_cons.mp hn
    have hrw : ∀ u, f ((alook ((k, v) :: t) u).getD d) = if k = u then f v else f ((alook t u).getD d) :=
      fun u => by simp only [alook]; split <;> rfl
    have h1 := sum_ite_eq hus (hsub k List.mem_cons_self) (f v) (fun u => f ((alook t u).getD d))
    have h2 := ih us hn hus (fun x hx => hsub x (List.mem_cons_of_mem _ hx))
    have hnone : alook t k = none := (alook_eq_none_iff k).mpr fun p hp he => hk (List.mem_map.mpr ⟨p, hp, he⟩)
    simp only [hnone, Option.getD_none, hd] at h1
    simp only [hrw, sumBy]
    omega

end WW.Inc
