/-
  Lemmas for the three-asset stableswap model (`WW/Model/Trio.lean`); the property theorems are in
  `WW/Props/C04.lean`, and the 3pool's share of C07 / C14 (`trio_ledger_eq`, `trio_collect_exact`,
  `trio_all_time_eq`, `trio_burned_eq`, `trio_counters_step`, `trio_sim_eq_exec`) is proved here for
  `Props/C07.lean` / `Props/C14.lean` to re-export. Also here: the amp ramp in closed form and the y-solver residual.
  Every handler is inverted to the state it leaves, a record over the state it started from; a transfer
  that skips a zero amount leaves the same record as one that does not (`upd_self`).
-/
import WW.Model.Trio
import WW.Proofs.Basic
namespace WW.Trio
open WW

theorem guardErr_eq_ok {c : Bool} {u : Unit} : guardErr c = .ok u ↔ c = true := WW.guardErr_eq_ok

-- `Model/Trio.lean` has its own `pdiv`, `to64`, `to128P`, `unwrapP`, so their characterisations are not
-- among the shared ones
section
variable {a b n d r : Nat}

theorem pdiv_eq_ok : pdiv a b = .ok r ↔ b ≠ 0 ∧ r = a / b := WW.pdiv_eq_ok
theorem to64_eq_ok : to64 a = .ok r ↔ a ≤ U64MAX ∧ r = a := Res.ite_err_eq_ok
theorem to128P_eq_ok : to128P a = .ok r ↔ a ≤ U128MAX ∧ r = a := Res.ite_panic_eq_ok
theorem unwrapP_eq_ok {α : Type} {x : Res α} {a : α} : unwrapP x = .ok a ↔ x = .ok a := by
  cases x <;> simp [unwrapP]

end

theorem lt3_cases {i : Nat} (h : i < 3) : i = 0 ∨ i = 1 ∨ i = 2 := by omega
theorem not_lt3 {i : Nat} (h : ¬i < 3) : i ≠ 0 ∧ i ≠ 1 ∧ i ≠ 2 := by omega

/-- closed form of the effective amplification of a well-formed configuration -/
def ampClosed (init target cur start stop : Nat) : Nat :=
  if cur < stop then
    if target ≥ init then init + (target - init) * (cur - start) / (stop - start)
    else init - (init - target) * (cur - start) / (stop - start)
  else target

theorem u64sq : U64MAX * U64MAX ≤ U128MAX := by decide

theorem ampFactor_ok_eq {i t c s e a : Nat} (h : ampFactor i t c s e = .ok a) :
    a = ampClosed i t c s e ∧ (c < e → s ≤ c ∧ s < e) := by
  unfold ampFactor at h
  unfold ampClosed
  by_cases hce : c < e
  · rw [if_pos hce] at h ⊢
    simp only [Res.bind_eq_ok, csub_eq_ok] at h
    obtain ⟨_, ⟨hse, rfl⟩, _, ⟨hsc, rfl⟩, h⟩ := h
    refine ⟨?_, fun _ => ⟨hsc, by omega⟩⟩
    -- the up-ramp and the down-ramp are the same five steps
    by_cases hti : t ≥ i <;>
      simp only [hti, if_true, if_false, Res.bind_eq_ok, csub_eq_ok, cmul_eq_ok, cdiv_eq_ok,
        to64_eq_ok, cadd_eq_ok] at h ⊢ <;>
      obtain ⟨_, ⟨-, rfl⟩, _, ⟨-, rfl⟩, _, ⟨-, rfl⟩, _, ⟨-, rfl⟩, -, rfl⟩ := h <;> rfl
  · rw [if_neg hce] at h ⊢
    exact ⟨(Res.ok.inj h).symm, fun hh => absurd hh hce⟩

theorem ampClosed_between {i t c s e : Nat} (hw : c < e → s ≤ c ∧ s < e) :
    min i t ≤ ampClosed i t c s e ∧ ampClosed i t c s e ≤ max i t := by
  unfold ampClosed
  split
  · rename_i hce
    have hd : c - s ≤ e - s := by have := hw hce; omega
    have hu := mul_div_le_of_le (a := t - i) hd
    have hl := mul_div_le_of_le (a := i - t) hd
    generalize (t - i) * (c - s) / (e - s) = p at hu ⊢
    generalize (i - t) * (c - s) / (e - s) = q at hl ⊢
    split <;> omega
  · omega

/-- the interpolation steps shared by the up- and the down-ramp: no overflow on `u64` operands -/
theorem interp_ok {β : Type} (f : Nat → Res β) {r d n : Nat} (hr : r ≤ U64MAX) (hd : d ≤ U64MAX)
    (hdn : d ≤ n) (hn : n ≠ 0) :
    (do let m ← cmul U128MAX r d
        let q ← cdiv m n
        let q ← to64 q
        f q) = f (r * d / n) := by
  rw [cmul_ok (le_trans (Nat.mul_le_mul hr hd) u64sq), Res.bind_ok, cdiv_ok hn, Res.bind_ok,
    to64_eq_ok.mpr ⟨le_trans (mul_div_le_of_le hdn) hr, rfl⟩, Res.bind_ok]

theorem ampFactor_closed {i t c s e : Nat} (hi : i ≤ U64MAX) (ht : t ≤ U64MAX) (hc : c ≤ U64MAX)
    (hw : c < e → s ≤ c) : ampFactor i t c s e = .ok (ampClosed i t c s e) := by
  unfold ampFactor ampClosed
  split
  · rename_i hce
    have hsc := hw hce
    have hd : c - s ≤ e - s := by omega
    rw [csub_ok (show s ≤ e by omega), Res.bind_ok, csub_ok hsc, Res.bind_ok]
    split
    · rename_i hti
      have hle := mul_div_le_of_le (a := t - i) hd
      rw [csub_ok hti, Res.bind_ok, interp_ok _ (by omega) (by omega) hd (by omega)]
      exact cadd_ok (by omega)
    · rename_i hti
      have hle := mul_div_le_of_le (a := i - t) hd
      rw [csub_ok (by omega), Res.bind_ok, interp_ok _ (by omega) (by omega) hd (by omega)]
      exact csub_ok (by omega)
  · rfl

theorem ampClosed_mono {i t s e c1 c2 : Nat} (hs : s ≤ c1) (h12 : c1 ≤ c2) (hse : s < e) :
    (i ≤ t → ampClosed i t c1 s e ≤ ampClosed i t c2 s e) ∧
    (t ≤ i → ampClosed i t c2 s e ≤ ampClosed i t c1 s e) := by
  by_cases h2 : c2 < e
  · -- both values are interpolated, and the interpolated part grows with the clock
    have hq : ∀ r, r * (c1 - s) / (e - s) ≤ r * (c2 - s) / (e - s) := fun r =>
      Nat.div_le_div_right (Nat.mul_le_mul_left _ (by omega))
    have hu := hq (t - i)
    have hl := hq (i - t)
    have hu2 := mul_div_le_of_le (a := t - i) (s := c2 - s) (E := e - s) (by omega)
    have hl2 := mul_div_le_of_le (a := i - t) (s := c2 - s) (E := e - s) (by omega)
    unfold ampClosed
    rw [if_pos h2, if_pos (show c1 < e by omega)]
    generalize (t - i) * (c1 - s) / (e - s) = p1 at hu ⊢
    generalize (t - i) * (c2 - s) / (e - s) = p2 at hu hu2 ⊢
    generalize (i - t) * (c1 - s) / (e - s) = q1 at hl ⊢
    generalize (i - t) * (c2 - s) / (e - s) = q2 at hl hl2 ⊢
    split <;> omega
  · -- the later value is the target, and every value lies between start and target
    have hb := ampClosed_between (i := i) (t := t) (c := c1) (s := s) (e := e) fun _ => ⟨hs, hse⟩
    rw [show ampClosed i t c2 s e = t from if_neg h2]
    omega

-- the constants the property speaks of (a change of the Rust constant breaks these `rfl`s); `rampRule`,
-- `Inv` (amp range `1 … 1000000`), `collectable` and `CollectOneEff` (threshold `1000`) and the C04
-- statements spell the numbers out, and these equations are what ties them to `Gen.TRIO_*`
theorem MIN_AMP_eq : WW.Gen.TRIO_MIN_AMP = 1 := rfl
theorem MAX_AMP_eq : WW.Gen.TRIO_MAX_AMP = 1000000 := rfl
theorem MAX_AMP_CHANGE_eq : WW.Gen.TRIO_MAX_AMP_CHANGE = 10 := rfl
theorem MIN_RAMP_BLOCKS_eq : WW.Gen.TRIO_MIN_RAMP_BLOCKS = 10000 := rfl
theorem MIN_COLLECTABLE_eq : WW.Gen.TRIO_MINIMUM_COLLECTABLE_BALANCE = 1000 := rfl
theorem MIN_LIQUIDITY_eq : WW.Gen.MINIMUM_LIQUIDITY_AMOUNT = 1000 := rfl

theorem u64_big : 10000000 ≤ U64MAX := by decide

/-- the decision `update_config` takes on a ramp request, given the amp in effect -/
def rampRule (cur h fa fb : Nat) : Prop :=
  1 ≤ fa ∧ fa ≤ 1000000 ∧ fa ≤ 10 * cur ∧ cur ≤ 10 * fa ∧ h + 10000 ≤ fb

instance (cur h fa fb : Nat) : Decidable (rampRule cur h fa fb) := by
  unfold rampRule; infer_instance

-- forward evaluation of `rampAmp`: a guard becomes an `if … else err`, and each of its two short-circuit
-- tests (`if p then ok (decide q) else ok false`, `if b then ok true else ok c`) one Boolean
theorem guardErr_bind {β : Type} (c : Bool) (f : Unit → Res β) :
    (guardErr c >>= f) = if c then f () else .err := by cases c <;> rfl
theorem ite_ok_decide (p q : Prop) [Decidable p] [Decidable q] :
    (if p then Res.ok (decide q) else Res.ok false) = Res.ok (decide (p ∧ q)) := by
  by_cases hp : p <;> simp [hp]
theorem ite_ok_or (b c : Bool) : (if b = true then Res.ok true else Res.ok c) = Res.ok (b || c) := by
  cases b <;> rfl

theorem rampAmp_closed {A : AmpCfg} {h fa fb cur : Nat} (hat : A.at h = .ok cur)
    (hcur : cur ≤ 1000000) (hh : h + 10000 ≤ U64MAX) :
    rampAmp A h fa fb =
      if rampRule cur h fa fb then .ok { init := cur, target := fa, start := h, stop := fb }
      else .err := by
  have hb := u64_big
  have hmin := MIN_AMP_eq
  have hmax := MAX_AMP_eq
  unfold rampAmp
  rw [hat]
  simp only [unwrapP, Res.bind_ok, guardErr_bind, MAX_AMP_CHANGE_eq, MIN_RAMP_BLOCKS_eq, padd_ok hh]
  by_cases h2 : fa ≤ 1000000
  · -- inside the guards no `u64` product overflows, so the two short-circuit tests are plain
    -- Booleans and the guards one conjunction
    simp only [pmul_ok (show cur * 10 ≤ U64MAX by omega), pmul_ok (show fa * 10 ≤ U64MAX by omega),
      Res.bind_ok, ite_ok_decide, ite_ok_or, ← ite_and, Res.pure_eq]
    refine if_congr ?_ rfl rfl
    simp only [rampRule, Bool.not_eq_true', Bool.or_eq_false_iff, decide_eq_true_eq,
      decide_eq_false_iff_not]
    omega
  · rw [if_neg (fun c : rampRule cur h fa fb => h2 c.2.1),
      if_neg (show ¬decide (fa ≤ WW.Gen.TRIO_MAX_AMP) = true by simpa [hmax] using h2), ite_self]

theorem rampAmp_ok_bounds {A A' : AmpCfg} {h fa fb : Nat} (hr : rampAmp A h fa fb = .ok A') :
    ∃ cur, A.at h = .ok cur ∧ A' = { init := cur, target := fa, start := h, stop := fb } ∧
      1 ≤ fa ∧ fa ≤ 1000000 := by
  simp only [rampAmp, Res.bind_eq_ok, unwrapP_eq_ok, guardErr_eq_ok, Res.pure_eq, Res.ok.injEq] at hr
  obtain ⟨cur, hc, _, g1, _, g2, _, -, _, -, _, -, _, -, _, -, rfl⟩ := hr
  exact ⟨cur, hc, rfl, of_decide_eq_true g1, of_decide_eq_true g2⟩

/-- without an amp in effect (`compute_amp_factor` = `None`) no ramp request is accepted -/
theorem rampAmp_not_ok_of_at {A : AmpCfg} {h fa fb : Nat} (hat : ∀ cur, A.at h ≠ .ok cur)
    (A' : AmpCfg) : rampAmp A h fa fb ≠ .ok A' := fun hr =>
  have ⟨cur, hc, _⟩ := rampAmp_ok_bounds hr
  hat cur hc

theorem select_eq (o a : Nat) :
    select o a = if o < 3 ∧ a < 3 ∧ o ≠ a then .ok (o, a, 3 - o - a) else .err := by
  by_cases ha : a < 3
  · by_cases ho : o < 3
    · obtain rfl | rfl | rfl := lt3_cases ho <;> obtain rfl | rfl | rfl := lt3_cases ha <;> rfl
    · obtain ⟨h0, h1, h2⟩ := not_lt3 ho
      simp only [select, ho, h0, h1, h2, false_and, if_false, ite_self]
  · obtain ⟨h0, h1, h2⟩ := not_lt3 ha
    simp only [select, ha, h0, h1, h2, false_and, and_false, if_false]

theorem swapTo_ok {A : AmpCfg} {cur src ss sd un : Nat} {r : SwapRes}
    (h : swapTo A cur src ss sd un = .ok r) :
    ∃ d y, computeD A cur ss sd un = .ok d ∧ computeY A cur (ss + src) un d = .ok y ∧
      y + 1 ≤ sd ∧ r.swapped = sd - y - 1 ∧ r.newDest = y + 1 ∧ r.newSource = ss + src := by
  simp only [swapTo, Res.bind_eq_ok, padd_eq_ok, psub_eq_ok, unwrapP_eq_ok, Res.pure_eq,
    Res.ok.injEq] at h
  obtain ⟨_, ⟨-, rfl⟩, d, hd, y, hy, _, ⟨hyd, rfl⟩, _, ⟨h1, rfl⟩, _, ⟨-, rfl⟩, _, ⟨-, rfl⟩, rfl⟩ := h
  exact ⟨d, y, hd, hy, by omega, rfl, by dsimp only; omega, rfl⟩

theorem computeSwap_ok {A : AmpCfg} {cur op ap un off : Nat} {f : Fees} {c : SwapComp}
    (h : computeSwap A cur op ap un off f = .ok c) :
    ∃ r, swapTo A cur off op ap un = .ok r ∧
      c.swapFee = r.swapped * f.swap / E18 ∧ c.protFee = r.swapped * f.prot / E18 ∧
      c.burnFee = r.swapped * f.burn / E18 ∧
      c.ret + c.swapFee + c.protFee + c.burnFee = r.swapped ∧
      c.spread = (if off > r.swapped then off - r.swapped else r.swapped - off) := by
  simp only [computeSwap, Res.bind_eq_ok, unwrapP_eq_ok, u256MulDec_eq_ok, psub_eq_ok, to128_eq_ok,
    Res.pure_eq, Res.ok.injEq] at h
  obtain ⟨r, hr, _, ⟨-, rfl⟩, _, ⟨-, rfl⟩, _, ⟨-, rfl⟩, _, ⟨g1, rfl⟩, _, ⟨g2, rfl⟩, _, ⟨g3, rfl⟩,
    _, ⟨-, rfl⟩, _, ⟨-, rfl⟩, _, ⟨-, rfl⟩, _, ⟨-, rfl⟩, _, ⟨-, rfl⟩, rfl⟩ := h
  exact ⟨r, hr, rfl, rfl, rfl, by dsimp only; omega, rfl⟩

theorem computeSwap_lt_pool {A : AmpCfg} {cur op ap un off : Nat} {f : Fees} {c : SwapComp}
    (h : computeSwap A cur op ap un off f = .ok c) :
    c.ret + c.swapFee + c.protFee + c.burnFee < ap := by
  obtain ⟨r, hr, _, _, _, hsum, _⟩ := computeSwap_ok h
  obtain ⟨d, y, _, _, hy, hsw, _, _⟩ := swapTo_ok hr
  omega

theorem mintAmount_ok {A : AmpCfg} {cur da db dc sa sb sc S m : Nat}
    (h : mintAmount A cur da db dc sa sb sc S = .ok m) :
    ∃ d0 d1, computeD A cur sa sb sc = .ok d0 ∧
      computeD A cur (sa + da) (sb + db) (sc + dc) = .ok d1 ∧
      d0 < d1 ∧ d0 ≠ 0 ∧ m = S * (d1 - d0) / d0 := by
  simp only [mintAmount, Res.bind_eq_ok, padd_eq_ok] at h
  obtain ⟨d0, hd0, _, ⟨-, rfl⟩, _, ⟨-, rfl⟩, _, ⟨-, rfl⟩, d1, hd1, h⟩ := h
  split at h
  · cases h
  · simp only [Res.bind_eq_ok, psub_eq_ok, pmul_eq_ok, pdiv_eq_ok, to128P_eq_ok] at h
    obtain ⟨_, ⟨-, rfl⟩, _, ⟨-, rfl⟩, _, ⟨hne, rfl⟩, -, rfl⟩ := h
    exact ⟨d0, d1, hd0, hd1, by omega, hne, rfl⟩

theorem upd_same (f : Nat → Nat) (i x : Nat) : upd f i x i = x := if_pos rfl
theorem upd_other (f : Nat → Nat) {i j : Nat} (x : Nat) (h : j ≠ i) : upd f i x j = f j := if_neg h

theorem upd2_same (f : Nat → Nat → Nat) (a i x : Nat) : upd2 f a i x a i = x := if_pos ⟨rfl, rfl⟩
theorem upd2_other (f : Nat → Nat → Nat) {a i b j : Nat} (x : Nat) (h : b ≠ a ∨ j ≠ i) :
    upd2 f a i x b j = f b j :=
  if_neg fun c => h.elim (· c.1) (· c.2)

theorem upd_self (f : Nat → Nat) (i : Nat) : upd f i (f i) = f := by
  funext j; unfold upd; split <;> simp_all
theorem upd2_self (f : Nat → Nat → Nat) (a i : Nat) : upd2 f a i (f a i) = f := by
  funext b j; unfold upd2; split <;> simp_all

theorem upd_ite (f g : Nat → Nat) (i j : Nat) : upd f i (g i) j = if j = i then g j else f j := by
  unfold upd; split <;> simp_all
theorem upd2_ite (f g : Nat → Nat → Nat) (a i b j : Nat) :
    upd2 f a i (g a i) b j = if b = a ∧ j = i then g b j else f b j := by
  unfold upd2; split <;> simp_all

theorem upd_add (f : Nat → Nat) (i x j : Nat) :
    upd f i (f i + x) j = if j = i then f j + x else f j := upd_ite f (fun k => f k + x) i j
theorem upd_sub (f : Nat → Nat) (i x j : Nat) :
    upd f i (f i - x) j = if j = i then f j - x else f j := upd_ite f (fun k => f k - x) i j

/-- a table credited at `o`, then debited twice at `a ≠ o` (a swap's offer, proceeds and burn) -/
theorem upd_credit_debit2 {f g g' : Nat → Nat} {o a x y : Nat} (hne : o ≠ a)
    (hg : g = upd f o (f o + x)) (hg' : g' = upd g a (g a - y)) (z j : Nat) :
    upd g' a (g' a - z) j = if j = o then f j + x else if j = a then f j - y - z else f j := by
  subst hg' hg
  by_cases hja : j = a
  · subst hja
    rw [upd_same, upd_same, upd_other _ _ (Ne.symm hne), if_neg (Ne.symm hne), if_pos rfl]
  · rw [upd_other _ _ hja, upd_other _ _ hja, if_neg hja]
    exact upd_add f o x j

/-- a table debited by `x j` at each of the three pool indices `j = 0, 1, 2` in turn -/
theorem upd_debit3 {f g g' : Nat → Nat} (x : Nat → Nat) (hg : g = upd f 0 (f 0 - x 0))
    (hg' : g' = upd g 1 (g 1 - x 1)) (j : Nat) :
    upd g' 2 (g' 2 - x 2) j = if j < 3 then f j - x j else f j := by
  subst hg' hg
  by_cases hj : j < 3
  · obtain rfl | rfl | rfl := lt3_cases hj <;> rfl
  · rw [if_neg hj, upd_other _ _ (by omega), upd_other _ _ (by omega), upd_other _ _ (by omega)]

theorem moveIn_ok {s s' : St} {u i amt : Nat} (h : moveIn s u i amt = .ok s') :
    amt ≤ s.ub u i ∧
    s' = { s with ub := upd2 s.ub u i (s.ub u i - amt), bal := upd s.bal i (s.bal i + amt) } := by
  simp only [moveIn, Res.err_else_eq_ok, Res.ok.injEq] at h
  exact ⟨Nat.le_of_not_lt h.1, h.2.symm⟩

theorem payOut_ok {s s' : St} {i rc amt : Nat} (h : payOut s i rc amt = .ok s') :
    amt ≤ s.bal i ∧
    s' = { s with bal := upd s.bal i (s.bal i - amt), ub := upd2 s.ub rc i (s.ub rc i + amt) } := by
  simp only [payOut, Res.err_else_eq_ok, Res.ok.injEq] at h
  exact ⟨Nat.le_of_not_lt h.2.1, h.2.2.symm⟩

theorem burnOut_ok {s s' : St} {i amt : Nat} (h : burnOut s i amt = .ok s') :
    amt ≤ s.bal i ∧
    s' = { s with bal := upd s.bal i (s.bal i - amt), sup := upd s.sup i (s.sup i - amt) } := by
  simp only [burnOut, Res.err_else_eq_ok, Res.ok.injEq] at h
  exact ⟨Nat.le_of_not_lt h.2.1, h.2.2.symm⟩

theorem mintLp_ok {s s' : St} {rc amt : Nat} (h : mintLp s rc amt = .ok s') :
    s' = { s with lpSup := s.lpSup + amt, lp := upd s.lp rc (s.lp rc + amt) } := by
  simp only [mintLp, Res.bind_eq_ok, padd_eq_ok, Res.pure_eq, Res.ok.injEq] at h
  obtain ⟨_, ⟨-, rfl⟩, rfl⟩ := h
  rfl

theorem mintLpPool_ok {s s' : St} {amt : Nat} (h : mintLpPool s amt = .ok s') :
    s' = { s with lpSup := s.lpSup + amt, lpPool := s.lpPool + amt } := by
  simp only [mintLpPool, Res.bind_eq_ok, padd_eq_ok, Res.pure_eq, Res.ok.injEq] at h
  obtain ⟨_, ⟨-, rfl⟩, rfl⟩ := h
  rfl

/-- the offer of a swap landing in the pool (attached native funds, or the cw20 `Send`) -/
theorem land_ok {s s1 : St} {u offer amt : Nat}
    (h : (if s.kind offer then fundsIn s u offer amt else moveIn s u offer amt) = .ok s1) :
    s1 = { s with ub := upd2 s.ub u offer (s.ub u offer - amt),
                  bal := upd s.bal offer (s.bal offer + amt) } := by
  simp only [fundsIn, Res.ite_eq_ok, Bool.and_eq_true, bne_iff_ne, ne_eq, Res.ok.injEq] at h
  obtain ⟨hk, ⟨-, h⟩ | ⟨hz, rfl⟩⟩ | ⟨-, h⟩ := h
  · exact (moveIn_ok h).2
  · obtain rfl : amt = 0 := by simpa [hk] using hz
    simp only [Nat.sub_zero, Nat.add_zero, upd_self, upd2_self]
  · exact (moveIn_ok h).2

theorem payOut_unless_zero {s s' : St} {i rc amt : Nat}
    (h : (if amt != 0 then payOut s i rc amt else .ok s) = .ok s') :
    s' = { s with bal := upd s.bal i (s.bal i - amt), ub := upd2 s.ub rc i (s.ub rc i + amt) } := by
  simp only [Res.ite_eq_ok, bne_iff_ne, ne_eq, Decidable.not_not, Res.ok.injEq] at h
  obtain ⟨-, h⟩ | ⟨rfl, rfl⟩ := h
  · exact (payOut_ok h).2
  · simp only [Nat.sub_zero, Nat.add_zero, upd_self, upd2_self]

/-- the burn of a swap together with its ghost ledger entry -/
theorem burn_unless_zero {s s' : St} {i amt : Nat}
    (h : (if amt != 0 then do
            let s ← burnOut s i amt
            pure { s with burnedSum := upd s.burnedSum i (s.burnedSum i + amt) }
          else pure s) = .ok s') :
    s' = { s with bal := upd s.bal i (s.bal i - amt), sup := upd s.sup i (s.sup i - amt),
                  burnedSum := upd s.burnedSum i (s.burnedSum i + amt) } := by
  simp only [Res.ite_eq_ok, bne_iff_ne, ne_eq, Decidable.not_not, Res.bind_eq_ok, Res.pure_eq,
    Res.ok.injEq] at h
  obtain ⟨-, _, e, rfl⟩ | ⟨rfl, rfl⟩ := h
  · obtain ⟨-, rfl⟩ := burnOut_ok e
    rfl
  · simp only [Nat.sub_zero, Nat.add_zero, upd_self]

theorem padd_unless_zero {m x y r : Nat}
    (h : (if y != 0 then padd m x y else .ok x) = .ok r) : r = x + y := by
  simp only [Res.ite_eq_ok, bne_iff_ne, ne_eq, Decidable.not_not, padd_eq_ok, Res.ok.injEq] at h
  omega

/-- Frame records, one per kind of step, each listing the fields that kind leaves alone:
    `SameBook` (deposits, donations, withdrawals: ledgers and configuration; balances move),
    `SameRest` (swaps, collections: configuration and LP; balances and ledgers move),
    `SameMoney` (configuration updates: every balance, supply and ledger).
    `SameBook` is what the C04 / C07 invariants read apart from the pool balances; `Grow` adds that
    the balances only rise. -/
structure SameBook (s s' : St) : Prop where
  kind : s'.kind = s.kind
  pend : s'.pend = s.pend
  allTime : s'.allTime = s.allTime
  burned : s'.burned = s.burned
  charged : s'.charged = s.charged
  sent : s'.sent = s.sent
  burnedSum : s'.burnedSum = s.burnedSum
  fees : s'.fees = s.fees
  amp : s'.amp = s.amp
  owner : s'.owner = s.owner
  collector : s'.collector = s.collector
  depOn : s'.depOn = s.depOn
  wdOn : s'.wdOn = s.wdOn
  swOn : s'.swOn = s.swOn

theorem SameBook.rfl' (s : St) : SameBook s s := by constructor <;> rfl

theorem SameBook.trans {a b c : St} (h1 : SameBook a b) (h2 : SameBook b c) : SameBook a c :=
  ⟨h2.kind.trans h1.kind, h2.pend.trans h1.pend, h2.allTime.trans h1.allTime, h2.burned.trans h1.burned,
   h2.charged.trans h1.charged, h2.sent.trans h1.sent, h2.burnedSum.trans h1.burnedSum,
   h2.fees.trans h1.fees, h2.amp.trans h1.amp, h2.owner.trans h1.owner,
   h2.collector.trans h1.collector, h2.depOn.trans h1.depOn, h2.wdOn.trans h1.wdOn,
   h2.swOn.trans h1.swOn⟩

/-- a step that only adds to pool balances (deposits, donations, LP mints) -/
structure Grow (s s' : St) : Prop where
  book : SameBook s s'
  bal : ∀ j, s.bal j ≤ s'.bal j
  sup : s'.sup = s.sup

theorem Grow.rfl' (s : St) : Grow s s := ⟨SameBook.rfl' s, fun _ => Nat.le_refl _, rfl⟩
theorem Grow.trans {a b c : St} (h1 : Grow a b) (h2 : Grow b c) : Grow a c :=
  ⟨h1.book.trans h2.book, fun j => Nat.le_trans (h1.bal j) (h2.bal j), h2.sup.trans h1.sup⟩

theorem moveIn_grow {s s' : St} {u i amt : Nat} (h : moveIn s u i amt = .ok s') : Grow s s' := by
  obtain ⟨_, rfl⟩ := moveIn_ok h
  refine ⟨by constructor <;> rfl, fun j => ?_, rfl⟩
  show s.bal j ≤ upd s.bal i (s.bal i + amt) j
  rw [upd_add]; split <;> omega

theorem fundsIn_grow {s s' : St} {u i amt : Nat} (h : fundsIn s u i amt = .ok s') : Grow s s' := by
  unfold fundsIn at h
  split at h
  · exact moveIn_grow h
  · injection h with h; subst h; exact Grow.rfl' _

theorem pullCw20_grow {s s' : St} {u i amt : Nat} (h : pullCw20 s u i amt = .ok s') : Grow s s' := by
  unfold pullCw20 at h
  split at h
  · injection h with h; subst h; exact Grow.rfl' _
  · exact moveIn_grow h

theorem mintLp_grow {s s' : St} {rc amt : Nat} (h : mintLp s rc amt = .ok s') : Grow s s' := by
  rw [mintLp_ok h]; exact ⟨by constructor <;> rfl, fun _ => Nat.le_refl _, rfl⟩

theorem mintLpPool_grow {s s' : St} {amt : Nat} (h : mintLpPool s amt = .ok s') : Grow s s' := by
  rw [mintLpPool_ok h]; exact ⟨by constructor <;> rfl, fun _ => Nat.le_refl _, rfl⟩

theorem provide_grow {s s' : St} {hh u d0 d1 d2 : Nat} {slip recv : Option Nat}
    (h : provide s hh u d0 d1 d2 slip recv = .ok s') : Grow s s' := by
  simp only [provide, Res.bind_eq_ok] at h
  obtain ⟨s1, e1, s2, e2, s3, e3, _, -, _, -, _, -, _, -, _, -, h⟩ := h
  have g3 : Grow s s3 := (fundsIn_grow e1).trans ((fundsIn_grow e2).trans (fundsIn_grow e3))
  split at h <;> simp only [Res.bind_eq_ok] at h
  · obtain ⟨_, -, _, -, _, -, _, -, s4, e4, s5, e5, s6, e6, s7, e7, e8⟩ := h
    exact g3.trans ((pullCw20_grow e4).trans ((pullCw20_grow e5).trans ((pullCw20_grow e6).trans
      ((mintLpPool_grow e7).trans (mintLp_grow e8)))))
  · obtain ⟨_, -, _, -, s4, e4, s5, e5, s6, e6, e7⟩ := h
    exact g3.trans ((pullCw20_grow e4).trans ((pullCw20_grow e5).trans ((pullCw20_grow e6).trans
      (mintLp_grow e7))))

theorem donate_grow {s s' : St} {u i amt : Nat} (h : donate s u i amt = .ok s') : Grow s s' := by
  unfold donate at h
  split at h
  · cases h
  · split at h
    · cases h
    · exact moveIn_grow h

theorem refundOf_ok {s : St} {i ratio r : Nat} (h : refundOf s i ratio = .ok r) :
    s.pend i ≤ s.bal i ∧ r = (s.bal i - s.pend i) * ratio / E18 := by
  simp only [refundOf, Res.bind_eq_ok, csub_eq_ok, u128MulDec_eq_ok] at h
  obtain ⟨_, ⟨hle, rfl⟩, -, rfl⟩ := h
  exact ⟨hle, rfl⟩

/-- arithmetic core of the withdrawal bound: the refund `⌊R·⌊amt·10¹⁸/S⌋/10¹⁸⌋` of a reserve `R`
    for `amt ≤ S` LP tokens is at most `R`, and at most the proportional part: `r·S ≤ R·amt` -/
theorem refund_le {R amt S : Nat} (hS : amt ≤ S) :
    R * (amt * E18 / S) / E18 ≤ R ∧ R * (amt * E18 / S) / E18 * S ≤ R * amt := by
  refine ⟨pro_rata_le hS, ?_⟩
  rw [Nat.mul_comm R, Nat.mul_comm R]
  exact floor2_mul_le amt S R E18_pos

theorem withdraw_spec {s s' : St} {u amt : Nat} (h : withdraw s u amt = .ok s') :
    SameBook s s' ∧ s'.sup = s.sup ∧ (∀ j, s'.bal j ≤ s.bal j) ∧
    (∀ j, s.pend j ≤ s.bal j → s.pend j ≤ s'.bal j) ∧ s'.lpSup = s.lpSup - amt ∧ amt ≤ s.lpSup ∧
    (∀ j, j < 3 → (s.bal j - s'.bal j) * s.lpSup ≤ (s.bal j - s.pend j) * amt) := by
  simp only [withdraw, Res.bind_eq_ok, guardErr_eq_ok, decide_eq_true_eq, dec128FromRatio_eq_ok,
    Res.pure_eq, Res.ok.injEq] at h
  obtain ⟨_, -, _, -, _, ⟨-, -, rfl⟩, r0, hr0, r1, hr1, r2, hr2, s1, e1, s2, e2, s3, e3, _, hg, hs'⟩ := h
  obtain ⟨-, rfl⟩ := refundOf_ok hr0
  obtain ⟨-, rfl⟩ := refundOf_ok hr1
  obtain ⟨-, rfl⟩ := refundOf_ok hr2
  obtain ⟨-, rfl⟩ := payOut_ok e1
  obtain ⟨-, rfl⟩ := payOut_ok e2
  obtain ⟨-, rfl⟩ := payOut_ok e3
  have hS : amt ≤ s.lpSup := hg.2
  -- the refund of every asset is the same function `x` of its reserve
  let x : Nat → Nat := fun j => (s.bal j - s.pend j) * (amt * E18 / s.lpSup) / E18
  have hle : ∀ j, x j ≤ s.bal j - s.pend j ∧ x j * s.lpSup ≤ (s.bal j - s.pend j) * amt :=
    fun j => refund_le hS
  have hst : SameBook s s' ∧ s'.sup = s.sup ∧ s'.lpSup = s.lpSup - amt ∧
      ∀ j, s'.bal j = if j < 3 then s.bal j - x j else s.bal j := by
    subst hs'
    exact ⟨by constructor <;> rfl, rfl, rfl, upd_debit3 x rfl rfl⟩
  clear_value x
  clear hg hs'
  obtain ⟨hbook, hsup, hlp, hbal⟩ := hst
  refine ⟨hbook, hsup, fun j => ?_, fun j hj => ?_, hlp, hS, fun j hj => ?_⟩
  · rw [hbal]; split <;> omega
  · have := (hle j).1
    rw [hbal]; split <;> omega
  · have := (hle j).1
    rw [hbal, if_pos hj, show s.bal j - (s.bal j - x j) = x j by omega]
    exact (hle j).2

/-- the fields no token movement, swap or collection touches -/
structure SameRest (s s' : St) : Prop where
  kind : s'.kind = s.kind
  fees : s'.fees = s.fees
  amp : s'.amp = s.amp
  owner : s'.owner = s.owner
  collector : s'.collector = s.collector
  depOn : s'.depOn = s.depOn
  wdOn : s'.wdOn = s.wdOn
  swOn : s'.swOn = s.swOn
  lpSup : s'.lpSup = s.lpSup
  lpPool : s'.lpPool = s.lpPool
  lp : s'.lp = s.lp

theorem SameRest.trans {a b c : St} (h1 : SameRest a b) (h2 : SameRest b c) : SameRest a c :=
  ⟨h2.kind.trans h1.kind, h2.fees.trans h1.fees, h2.amp.trans h1.amp, h2.owner.trans h1.owner,
   h2.collector.trans h1.collector, h2.depOn.trans h1.depOn, h2.wdOn.trans h1.wdOn,
   h2.swOn.trans h1.swOn, h2.lpSup.trans h1.lpSup, h2.lpPool.trans h1.lpPool, h2.lp.trans h1.lp⟩

/-- the execute-side pool of a swap, computed after the offer landed, is the reserve before it -/
theorem poolForSwap_ok {s1 s : St} {offer amt i p : Nat} (h : poolForSwap s1 offer amt i = .ok p)
    (hbal : s1.bal = upd s.bal offer (s.bal offer + amt)) (hpend : s1.pend = s.pend) :
    s.pend i ≤ s.bal i ∧ p = s.bal i - s.pend i := by
  unfold poolForSwap at h
  rw [hbal, hpend] at h
  by_cases hio : i = offer
  · subst hio
    simp only [upd, if_pos, Res.bind_eq_ok, csub_eq_ok] at h
    obtain ⟨_, ⟨_, rfl⟩, _, rfl⟩ := h
    omega
  · simp only [upd, if_neg hio, Res.bind_eq_ok, csub_eq_ok, Res.ok.injEq] at h
    obtain ⟨_, ⟨hle, rfl⟩, rfl⟩ := h
    exact ⟨hle, rfl⟩

theorem swapOn_ok {s : St} {h : Nat} {p : Nat → Nat} {o ask amt a : Nat} {c : SwapComp}
    (hs : swapOn s h p o ask amt = .ok (a, c)) :
    a = ask ∧ o < 3 ∧ ask < 3 ∧ o ≠ ask ∧
    computeSwap s.amp h (p o) (p ask) (p (3 - o - ask)) amt s.fees = .ok c := by
  unfold swapOn at hs
  obtain ⟨⟨o', a', n'⟩, hsel, h1⟩ := Res.bind_eq_ok.mp hs
  rw [select_eq] at hsel
  split at hsel
  · rename_i hcond
    simp only [Res.ok.injEq, Prod.mk.injEq] at hsel
    obtain ⟨rfl, rfl, rfl⟩ := hsel
    simp only [Res.bind_eq_ok, Res.pure_eq, Res.ok.injEq, Prod.mk.injEq] at h1
    obtain ⟨_, hc, rfl, rfl⟩ := h1
    exact ⟨rfl, hcond.1, hcond.2.1, hcond.2.2, hc⟩
  · cases hsel

/-- field-wise effect of a successful swap that computed `c` and asked for asset `a` -/
structure SwapEff (s s' : St) (offer a amt rc : Nat) (c : SwapComp) : Prop where
  rest : SameRest s s'
  offer3 : offer < 3
  ask3 : a < 3
  ne : offer ≠ a
  askSolvent : s.pend a ≤ s.bal a
  lt : c.ret + c.swapFee + c.protFee + c.burnFee < s.bal a - s.pend a
  pend : ∀ j, s'.pend j = if j = a then s.pend j + c.protFee else s.pend j
  allTime : ∀ j, s'.allTime j = if j = a then s.allTime j + c.protFee else s.allTime j
  charged : ∀ j, s'.charged j = if j = a then s.charged j + c.protFee else s.charged j
  burned : ∀ j, s'.burned j = if j = a then s.burned j + c.burnFee else s.burned j
  burnedSum : ∀ j, s'.burnedSum j = if j = a then s.burnedSum j + c.burnFee else s.burnedSum j
  sent : s'.sent = s.sent
  bal : ∀ j, s'.bal j = if j = offer then s.bal j + amt
                        else if j = a then s.bal j - c.ret - c.burnFee else s.bal j
  sup : ∀ j, s'.sup j = if j = a then s.sup j - c.burnFee else s.sup j
  recv : s'.ub rc a = s.ub rc a + c.ret

theorem swap_spec {s s' : St} {h u offer ask amt : Nat} {bp ms rc : Option Nat}
    (hs : swap s h u offer ask amt bp ms rc = .ok s') :
    ∃ c, SwapEff s s' offer ask amt (rc.getD u) c ∧ simulate s h offer ask amt = .ok c := by
  simp only [swap, Res.bind_eq_ok, guardErr_eq_ok, decide_eq_true_eq] at hs
  obtain ⟨_, ho3, s1, e1, _, -, p0, hp0, p1, hp1, p2, hp2, ⟨a, c⟩, hso, hs⟩ := hs
  simp only [padd_eq_ok] at hs
  obtain ⟨_, -, _, -, _, -, _, -, _, hb, _, ⟨-, rfl⟩, _, ⟨-, rfl⟩, s3, e3, h15⟩ := hs
  obtain rfl := land_ok e1
  obtain ⟨q0, rfl⟩ := poolForSwap_ok (s := s) hp0 rfl rfl
  obtain ⟨q1, rfl⟩ := poolForSwap_ok (s := s) hp1 rfl rfl
  obtain ⟨q2, rfl⟩ := poolForSwap_ok (s := s) hp2 rfl rfl
  obtain ⟨rfl, -, ha3, hne, hcs⟩ := swapOn_ok hso
  -- the quote on the pre-state is the same computation
  have hsim : simulate s h offer a amt = .ok c := by
    unfold simulate
    rw [csub_ok q0, Res.bind_ok, csub_ok q1, Res.bind_ok, csub_ok q2, Res.bind_ok]
    exact congrArg (· >>= _) hso
  have hres : s.pend a ≤ s.bal a ∧
      c.ret + c.swapFee + c.protFee + c.burnFee < s.bal a - s.pend a := by
    have hlt := computeSwap_lt_pool hcs
    obtain rfl | rfl | rfl := lt3_cases ha3
    exacts [⟨q0, hlt⟩, ⟨q1, hlt⟩, ⟨q2, hlt⟩]
  -- the states are substituted last: every later step would have to traverse them
  obtain rfl := padd_unless_zero hb
  obtain rfl := payOut_unless_zero e3
  obtain rfl := burn_unless_zero h15
  refine ⟨c, ⟨by constructor <;> rfl, ho3, ha3, hne, hres.1, hres.2, upd_add _ _ _, upd_add _ _ _,
    upd_add _ _ _, upd_add _ _ _, upd_add _ _ _, rfl, fun j => ?_, upd_sub _ _ _, ?_⟩, hsim⟩
  · exact upd_credit_debit2 hne rfl rfl _ j
  · dsimp only
    rw [upd2_same, upd2_other _ _ (Or.inr (Ne.symm hne))]

/-- field-wise effect of one entry of `collect_protocol_fees` -/
structure CollectOneEff (s s' : St) (i : Nat) : Prop where
  rest : SameRest s s'
  allTime : s'.allTime = s.allTime
  charged : s'.charged = s.charged
  burned : s'.burned = s.burned
  burnedSum : s'.burnedSum = s.burnedSum
  sup : s'.sup = s.sup
  pend : ∀ j, s'.pend j = if j = i ∧ s.pend i > 1000 then 0 else s.pend j
  bal : ∀ j, s'.bal j = if j = i ∧ s.pend i > 1000 then s.bal j - s.pend j else s.bal j
  sent : ∀ j, s'.sent j = if j = i ∧ s.pend i > 1000 then s.sent j + s.pend j else s.sent j
  ub : ∀ a j, s'.ub a j =
    if a = s.collector ∧ j = i ∧ s.pend i > 1000 then s.ub a j + s.pend j else s.ub a j
  le : s.pend i > 1000 → s.pend i ≤ s.bal i

theorem collectOne_eff {s s' : St} {i : Nat} (h : collectOne s i = .ok s') : CollectOneEff s s' i := by
  unfold collectOne at h
  rw [MIN_COLLECTABLE_eq] at h
  split at h
  · rename_i hgt
    simp only [Res.bind_eq_ok, Res.pure_eq, Res.ok.injEq] at h
    obtain ⟨_, e, rfl⟩ := h
    obtain ⟨hle, rfl⟩ := payOut_ok e
    refine ⟨by constructor <;> rfl, rfl, rfl, rfl, rfl, rfl, fun j => ?_, fun j => ?_, fun j => ?_,
      fun a j => ?_, fun _ => hle⟩
    all_goals simp only [hgt, and_true]
    · exact upd_ite s.pend (fun _ => 0) i j
    · exact upd_ite s.bal (fun k => s.bal k - s.pend k) i j
    · exact upd_ite s.sent (fun k => s.sent k + s.pend k) i j
    · exact upd2_ite s.ub (fun b k => s.ub b k + s.pend k) s.collector i a j
  · rename_i hle
    injection h with h; subst h
    exact ⟨by constructor <;> rfl, rfl, rfl, rfl, rfl, rfl, fun j => (if_neg fun c => hle c.2).symm,
      fun j => (if_neg fun c => hle c.2).symm, fun j => (if_neg fun c => hle c.2).symm,
      fun a j => (if_neg fun c => hle c.2.2).symm, fun hc => absurd hc hle⟩

/-- whether entry `j` of the pending ledger is collected -/
def collectable (s : St) (j : Nat) : Prop := j < 3 ∧ s.pend j > 1000

instance (s : St) (j : Nat) : Decidable (collectable s j) := by unfold collectable; infer_instance

/-- field-wise effect of `collect_protocol_fees` -/
structure CollectEff (s s' : St) : Prop where
  rest : SameRest s s'
  allTime : s'.allTime = s.allTime
  charged : s'.charged = s.charged
  burned : s'.burned = s.burned
  burnedSum : s'.burnedSum = s.burnedSum
  sup : s'.sup = s.sup
  pend : ∀ j, s'.pend j = if collectable s j then 0 else s.pend j
  bal : ∀ j, s'.bal j = if collectable s j then s.bal j - s.pend j else s.bal j
  sent : ∀ j, s'.sent j = if collectable s j then s.sent j + s.pend j else s.sent j
  ub : ∀ a j, s'.ub a j = if a = s.collector ∧ collectable s j then s.ub a j + s.pend j else s.ub a j
  le : ∀ j, collectable s j → s.pend j ≤ s.bal j

theorem collect_eff {s s' : St} (h : collect s = .ok s') : CollectEff s s' := by
  simp only [collect, Res.bind_eq_ok] at h
  obtain ⟨s1, e1, s2, e2, e3⟩ := h
  have f1 := collectOne_eff e1
  have f2 := collectOne_eff e2
  have f3 := collectOne_eff e3
  have c1 : s1.collector = s.collector := f1.rest.collector
  have c2 : s2.collector = s.collector := f2.rest.collector.trans c1
  -- entry `j` is touched by the `j`-th step only
  have key : ∀ j, (s'.pend j = if collectable s j then 0 else s.pend j) ∧
      (s'.bal j = if collectable s j then s.bal j - s.pend j else s.bal j) ∧
      (s'.sent j = if collectable s j then s.sent j + s.pend j else s.sent j) ∧
      (∀ a, s'.ub a j = if a = s.collector ∧ collectable s j then s.ub a j + s.pend j else s.ub a j) ∧
      (collectable s j → s.pend j ≤ s.bal j) := by
    intro j
    have l1 := f1.le
    have l2 := f2.le
    have l3 := f3.le
    simp only [f3.pend, f3.bal, f3.sent, f3.ub, f2.pend, f2.bal, f2.sent, f2.ub, f1.pend, f1.bal,
      f1.sent, f1.ub, c1, c2, collectable] at l2 l3 ⊢
    rcases (by omega : j = 0 ∨ j = 1 ∨ j = 2 ∨ ¬j < 3) with rfl | rfl | rfl | hj
    · simpa using l1
    · simpa using l2
    · simpa using l3
    · obtain ⟨h0, h1, h2⟩ := not_lt3 hj
      simp [hj, h0, h1, h2]
  exact ⟨f1.rest.trans (f2.rest.trans f3.rest), by rw [f3.allTime, f2.allTime, f1.allTime],
    by rw [f3.charged, f2.charged, f1.charged], by rw [f3.burned, f2.burned, f1.burned],
    by rw [f3.burnedSum, f2.burnedSum, f1.burnedSum], by rw [f3.sup, f2.sup, f1.sup],
    fun j => (key j).1, fun j => (key j).2.1, fun j => (key j).2.2.1, fun a j => (key j).2.2.2.1 a,
    fun j => (key j).2.2.2.2⟩

/-- every balance, supply and ledger entry is unchanged (configuration updates) -/
structure SameMoney (s s' : St) : Prop where
  kind : s'.kind = s.kind
  bal : s'.bal = s.bal
  ub : s'.ub = s.ub
  sup : s'.sup = s.sup
  pend : s'.pend = s.pend
  allTime : s'.allTime = s.allTime
  burned : s'.burned = s.burned
  charged : s'.charged = s.charged
  sent : s'.sent = s.sent
  burnedSum : s'.burnedSum = s.burnedSum
  lpSup : s'.lpSup = s.lpSup
  lpPool : s'.lpPool = s.lpPool
  lp : s'.lp = s.lp

/-- effect of `update_config`: only the owner may call it; money and ledgers are untouched; the amp
    configuration changes only through an accepted ramp -/
theorem updateConfig_spec {s s' : St} {h u : Nat} {o c : Option Nat} {f : Option Fees}
    {t : Option (Bool × Bool × Bool)} {r : Option (Nat × Nat)}
    (hs : updateConfig s h u o c f t r = .ok s') :
    u = s.owner ∧ SameMoney s s' ∧
    (∀ fa fb, r = some (fa, fb) → rampAmp s.amp h fa fb = .ok s'.amp) ∧ (r = none → s'.amp = s.amp) ∧
    (∀ f', f = some f' → f'.valid = true ∧ s'.fees = f') ∧ (f = none → s'.fees = s.fees) ∧
    s'.owner = o.getD s.owner ∧ s'.collector = c.getD s.collector := by
  simp only [updateConfig, Res.bind_eq_ok, guardErr_eq_ok, decide_eq_true_eq, Res.pure_eq,
    Res.ok.injEq] at hs
  obtain ⟨_, hown, s2, e2, s4, e4, rfl⟩ := hs
  -- the fee update and the ramp are the steps that can fail; each sets one field
  obtain ⟨A, rfl, hA, hAn⟩ : ∃ A, s4 = { (match t with
        | some (d, w, sw) => { s2 with depOn := d, wdOn := w, swOn := sw }
        | none => s2) with amp := A } ∧
      (∀ fa fb, r = some (fa, fb) → rampAmp s2.amp h fa fb = .ok A) ∧ (r = none → A = s2.amp) := by
    rcases r with _ | ⟨fa, fb⟩
    · exact ⟨s2.amp, by cases t <;> exact (Res.ok.inj e4).symm, nofun, fun _ => rfl⟩
    · simp only [Res.bind_eq_ok, Res.ok.injEq] at e4
      obtain ⟨A, hA, rfl⟩ := e4
      exact ⟨A, rfl, fun _ _ hc => by cases hc; cases t <;> exact hA, nofun⟩
  obtain ⟨F, rfl, hF, hFn⟩ : ∃ F, s2 = { (match o with
        | some o => { s with owner := o }
        | none => s) with fees := F } ∧
      (∀ f', f = some f' → f'.valid = true ∧ F = f') ∧ (f = none → F = s.fees) := by
    cases f with
    | none => exact ⟨s.fees, by cases o <;> exact (Res.ok.inj e2).symm, nofun, fun _ => rfl⟩
    | some f' =>
      obtain ⟨hv, rfl⟩ := Res.ok_else_err_eq_ok.mp e2
      exact ⟨f', rfl, fun _ hf => by cases hf; exact ⟨hv, rfl⟩, nofun⟩
  -- what is left are record updates
  cases o <;> cases t <;> cases c <;>
    exact ⟨hown, by constructor <;> rfl, hA, hAn, hF, hFn, rfl, rfl⟩

/-- what holds in every reachable state of the 3pool -/
structure Inv (s : St) : Prop where
  solvent : ∀ i, s.pend i ≤ s.bal i
  ledger : ∀ i, s.pend i + s.sent i = s.charged i
  allTime : ∀ i, s.allTime i = s.charged i
  burned : ∀ i, s.burned i = s.burnedSum i
  ampLo : 1 ≤ s.amp.init ∧ 1 ≤ s.amp.target
  ampHi : s.amp.init ≤ 1000000 ∧ s.amp.target ≤ 1000000

theorem amp_at_range {A : AmpCfg} {h a : Nat} (hlo : 1 ≤ A.init ∧ 1 ≤ A.target)
    (hhi : A.init ≤ 1000000 ∧ A.target ≤ 1000000) (ha : A.at h = .ok a) : 1 ≤ a ∧ a ≤ 1000000 := by
  obtain ⟨he, hw⟩ := ampFactor_ok_eq ha
  have hb := ampClosed_between (i := A.init) (t := A.target) (c := h) (s := A.start) (e := A.stop) hw
  rw [← he] at hb
  omega

/-- `Inv` is stated field by field, as the properties quote it; the proofs use it entry by entry -/
theorem inv_iff {s : St} : Inv s ↔ (∀ i, s.pend i ≤ s.bal i ∧ s.pend i + s.sent i = s.charged i ∧
    s.allTime i = s.charged i ∧ s.burned i = s.burnedSum i) ∧
    (1 ≤ s.amp.init ∧ 1 ≤ s.amp.target) ∧ (s.amp.init ≤ 1000000 ∧ s.amp.target ≤ 1000000) :=
  ⟨fun h => ⟨fun i => ⟨h.solvent i, h.ledger i, h.allTime i, h.burned i⟩, h.ampLo, h.ampHi⟩,
   fun h => ⟨fun i => (h.1 i).1, fun i => (h.1 i).2.1, fun i => (h.1 i).2.2.1, fun i => (h.1 i).2.2.2,
     h.2.1, h.2.2⟩⟩

theorem inv_of_book {s s' : St} (hi : Inv s) (b : SameBook s s')
    (hsolv : ∀ i, s.pend i ≤ s'.bal i) : Inv s' := by
  obtain ⟨he, hamp⟩ := inv_iff.mp hi
  refine inv_iff.mpr ⟨fun i => ?_, b.amp ▸ hamp⟩
  rw [b.pend, b.sent, b.charged, b.allTime, b.burned, b.burnedSum]
  exact ⟨hsolv i, (he i).2⟩

theorem inv_of_grow {s s' : St} (hi : Inv s) (g : Grow s s') : Inv s' :=
  inv_of_book hi g.book fun i => Nat.le_trans (hi.solvent i) (g.bal i)

theorem step_inv {s s' : St} {h u : Nat} {op : Op} (hi : Inv s) (hs : step h u s op = .ok s') :
    Inv s' := by
  obtain ⟨he, hamp⟩ := inv_iff.mp hi
  cases op with
  | provide d0 d1 d2 slip recv => exact inv_of_grow hi (provide_grow hs)
  | donate i amt => exact inv_of_grow hi (donate_grow hs)
  | withdraw amt =>
    obtain ⟨b, _, _, hsolv, _, _⟩ := withdraw_spec hs
    exact inv_of_book hi b fun i => hsolv i (hi.solvent i)
  | swap offer ask amt bp ms rc =>
    obtain ⟨c, e, _⟩ := swap_spec hs
    refine inv_iff.mpr ⟨fun i => ?_, e.rest.amp ▸ hamp⟩
    have hlt := e.lt
    have hne := e.ne
    have := he i
    rw [e.pend, e.bal, e.sent, e.charged, e.allTime, e.burned, e.burnedSum]
    by_cases hia : i = ask
    · subst hia; simp only [↓reduceIte, if_neg (Ne.symm hne)]; omega
    · simp only [if_neg hia]; split <;> omega
  | collect =>
    have e := collect_eff hs
    refine inv_iff.mpr ⟨fun i => ?_, e.rest.amp ▸ hamp⟩
    have := he i
    rw [e.pend, e.bal, e.sent, e.charged, e.allTime, e.burned, e.burnedSum]
    split <;> omega
  | updateConfig o c f t r =>
    obtain ⟨_, m, hr, hrn, _, _, _, _⟩ := updateConfig_spec hs
    refine inv_iff.mpr ⟨fun i => ?_, ?_⟩
    · rw [m.pend, m.bal, m.sent, m.charged, m.allTime, m.burned, m.burnedSum]; exact he i
    · rcases r with _ | ⟨fa, fb⟩
      · rw [hrn rfl]; exact hamp
      · obtain ⟨cur, hc, hA, h1, h2⟩ := rampAmp_ok_bounds (hr fa fb rfl)
        have := amp_at_range hi.ampLo hi.ampHi hc
        rw [hA]; simp only; omega
  | foreign k a amt => cases hs

theorem run_inv {s : St} (hi : Inv s) (ops : List (Nat × Nat × Op)) : Inv (run s ops) := by
  induction ops generalizing s with
  | nil => exact hi
  | cons x rest ih =>
    obtain ⟨h, u, op⟩ := x
    unfold run
    cases hs : step h u s op with
    | ok s' => exact ih (step_inv hi hs)
    | err => exact ih hi
    | panic => exact ih hi

theorem init_inv {kind : Nat → Bool} {fees : Fees} {amp h0 : Nat} {fund : Nat → Nat → Nat}
    {sup : Nat → Nat} {s : St} (h : mkInit kind fees amp h0 fund sup = .ok s) : Inv s := by
  simp only [mkInit, Res.bind_eq_ok, guardErr_eq_ok, Res.pure_eq, Res.ok.injEq] at h
  obtain ⟨_, -, _, g1, _, g2, rfl⟩ := h
  have g1 := of_decide_eq_true g1
  have g2 := of_decide_eq_true g2
  exact ⟨fun _ => Nat.le_refl _, fun _ => rfl, fun _ => rfl, fun _ => rfl, ⟨g1, g1⟩, ⟨g2, g2⟩⟩

/-- C07 (`C07.trio_ledger_eq`): pending = Σ charged − Σ sent to the collector, in every reachable state -/
theorem trio_ledger_eq {s : St} (hi : Inv s) (ops : List (Nat × Nat × Op)) (i : Nat) :
    (run s ops).pend i = (run s ops).charged i - (run s ops).sent i ∧
    (run s ops).sent i ≤ (run s ops).charged i := by
  have := (run_inv hi ops).ledger i
  omega

/-- C07 (`C07.trio_all_time_eq`): the all-time counter equals Σ charged, in every reachable state -/
theorem trio_all_time_eq {s : St} (hi : Inv s) (ops : List (Nat × Nat × Op)) (i : Nat) :
    (run s ops).allTime i = (run s ops).charged i := (run_inv hi ops).allTime i

/-- C07 (`C07.trio_burned_eq`): the burned counter equals Σ burned, in every reachable state -/
theorem trio_burned_eq {s : St} (hi : Inv s) (ops : List (Nat × Nat × Op)) (i : Nat) :
    (run s ops).burned i = (run s ops).burnedSum i := (run_inv hi ops).burned i

theorem counters_of_same {s s' : St} (h1 : s'.allTime = s.allTime) (h2 : s'.burned = s.burned)
    (h3 : s'.charged = s.charged) (h4 : s'.burnedSum = s.burnedSum) (h5 : s'.sup = s.sup) (i : Nat) :
    s.allTime i ≤ s'.allTime i ∧ s.burned i ≤ s'.burned i ∧ s.charged i ≤ s'.charged i ∧
    s.burnedSum i ≤ s'.burnedSum i ∧ s'.sup i = s.sup i - (s'.burnedSum i - s.burnedSum i) := by
  rw [h1, h2, h3, h4, h5, Nat.sub_self]
  exact ⟨Nat.le_refl _, Nat.le_refl _, Nat.le_refl _, Nat.le_refl _, rfl⟩

theorem counters_of_grow {s s' : St} (g : Grow s s') (i : Nat) :
    s.allTime i ≤ s'.allTime i ∧ s.burned i ≤ s'.burned i ∧ s.charged i ≤ s'.charged i ∧
    s.burnedSum i ≤ s'.burnedSum i ∧ s'.sup i = s.sup i - (s'.burnedSum i - s.burnedSum i) :=
  counters_of_same g.book.allTime g.book.burned g.book.charged g.book.burnedSum g.sup i

/-- per step: the all-time and burned counters never decrease, and the asset's total supply drops by
    exactly what was added to the burned sum (truncated subtraction; exact whenever the pool's
    balance is part of the supply) -/
theorem trio_counters_step {s s' : St} {h u : Nat} {op : Op} (hs : step h u s op = .ok s') (i : Nat) :
    s.allTime i ≤ s'.allTime i ∧ s.burned i ≤ s'.burned i ∧ s.charged i ≤ s'.charged i ∧
    s.burnedSum i ≤ s'.burnedSum i ∧ s'.sup i = s.sup i - (s'.burnedSum i - s.burnedSum i) := by
  cases op with
  | provide d0 d1 d2 slip recv => exact counters_of_grow (provide_grow hs) i
  | donate j amt => exact counters_of_grow (donate_grow hs) i
  | withdraw amt =>
    obtain ⟨b, hsup, _⟩ := withdraw_spec hs
    exact counters_of_same b.allTime b.burned b.charged b.burnedSum hsup i
  | swap offer ask amt bp ms rc =>
    obtain ⟨c, e, _⟩ := swap_spec hs
    rw [e.allTime, e.burned, e.charged, e.burnedSum, e.sup]
    split <;> simp
  | collect =>
    have e := collect_eff hs
    exact counters_of_same e.allTime e.burned e.charged e.burnedSum e.sup i
  | updateConfig o c f t r =>
    obtain ⟨_, m, _⟩ := updateConfig_spec hs
    exact counters_of_same m.allTime m.burned m.charged m.burnedSum m.sup i
  | foreign k a amt => cases hs

/-- C07 (`C07.trio_collect_exact`): a collection sends exactly the pending entries above the threshold, to the
    configured collector only, zeroes exactly those entries, and leaves every reserve
    (`balance − pending`), every counter and the LP supply unchanged -/
theorem trio_collect_exact {s s' : St} (hc : collect s = .ok s') (hi : Inv s) (j : Nat) :
    (s'.ub s.collector j = s.ub s.collector j + (if collectable s j then s.pend j else 0)) ∧
    (∀ a, a ≠ s.collector → s'.ub a j = s.ub a j) ∧
    (s'.pend j = if collectable s j then 0 else s.pend j) ∧
    (s'.bal j - s'.pend j = s.bal j - s.pend j) ∧
    (s.bal j - s'.bal j = if collectable s j then s.pend j else 0) ∧
    s'.allTime j = s.allTime j ∧ s'.burned j = s.burned j ∧ s'.lpSup = s.lpSup ∧
    s'.collector = s.collector := by
  have e := collect_eff hc
  have hsolv := hi.solvent j
  refine ⟨?_, fun a ha => ?_, e.pend j, ?_, ?_, by rw [e.allTime], by rw [e.burned], e.rest.lpSup,
    e.rest.collector⟩
  · rw [e.ub]
    by_cases hcj : collectable s j
    · rw [if_pos ⟨rfl, hcj⟩, if_pos hcj]
    · rw [if_neg fun c => hcj c.2, if_neg hcj]; rfl
  · rw [e.ub, if_neg fun c => ha c.1]
  · rw [e.pend, e.bal]; split <;> omega
  · rw [e.bal]; split <;> omega

/-- C14 (`C14.trio_sim_eq_exec`): whenever a swap executes, the `Simulation` query on the state just before
    it (same block) returns a computation `c`, and the swap transfers and records exactly `c`:
    the receiver gets `c.ret` of the ask asset, the pending and all-time protocol-fee ledgers grow by
    `c.protFee`, the burned ledger and the burn by `c.burnFee`; for native and cw20 offers alike. -/
theorem trio_sim_eq_exec {s s' : St} {h u offer ask amt : Nat} {bp ms rc : Option Nat}
    (hs : swap s h u offer ask amt bp ms rc = .ok s') :
    ∃ c, simulate s h offer ask amt = .ok c ∧
      s'.ub (rc.getD u) ask = s.ub (rc.getD u) ask + c.ret ∧
      s'.pend ask = s.pend ask + c.protFee ∧ s'.allTime ask = s.allTime ask + c.protFee ∧
      s'.burned ask = s.burned ask + c.burnFee ∧ s'.sup ask = s.sup ask - c.burnFee ∧
      s'.bal offer = s.bal offer + amt ∧ s'.bal ask = s.bal ask - c.ret - c.burnFee := by
  obtain ⟨c, e, hsim⟩ := swap_spec hs
  refine ⟨c, hsim, e.recv, ?_, ?_, ?_, ?_, ?_, ?_⟩
  · rw [e.pend, if_pos rfl]
  · rw [e.allTime, if_pos rfl]
  · rw [e.burned, if_pos rfl]
  · rw [e.sup, if_pos rfl]
  · rw [e.bal, if_pos rfl]
  · rw [e.bal, if_neg (Ne.symm e.ne), if_pos rfl]

/-- the `compute_y_raw` loop left through its `|Δ| ≤ 1` exit, at the Newton step from `yp` to `y'` -/
def YConverged (b c d yp y' : Nat) : Prop :=
  d < 2 * yp + b ∧ y' = (yp * yp + c) / (2 * yp + b - d) ∧ close1 y' yp = true

/-- mirror of `yLoop` that only says whether the loop fell off the end of its iteration budget -/
def yExhausted (b c d : Nat) : Nat → Nat → Bool
  | 0, _ => true
  | fuel + 1, y =>
    let y' := (y * y + c) / (2 * y + b - d)
    if close1 y' y then false else yExhausted b c d fuel y'

theorem yLoop_ok_cases {b c d : Nat} : ∀ (fuel y y' : Nat), yLoop b c d fuel y = .ok y' →
    (∃ yp, YConverged b c d yp y') ∨ yExhausted b c d fuel y = true := by
  intro fuel
  induction fuel with
  | zero => intro y y' _; right; rfl
  | succ n ih =>
    intro y y' h
    simp only [yLoop, Res.bind_eq_ok, pmul_eq_ok, padd_eq_ok, psub_eq_ok, pdiv_eq_ok] at h
    obtain ⟨_, ⟨-, rfl⟩, _, ⟨-, rfl⟩, _, ⟨-, rfl⟩, _, ⟨-, rfl⟩, _, ⟨hdt, rfl⟩, yn, ⟨hne, hyn⟩, h⟩ := h
    rw [Nat.mul_comm y 2] at hyn hne hdt
    split at h
    · rename_i hc
      injection h with h
      subst h
      exact .inl ⟨y, by omega, hyn, hc⟩
    · rename_i hc
      refine (ih yn y' h).imp_right fun hex => ?_
      unfold yExhausted
      dsimp only
      rw [← hyn, if_neg hc]
      exact hex

theorem close1_cases {a b : Nat} (h : close1 a b = true) : a = b + 1 ∨ a = b ∨ b = a + 1 := by
  unfold close1 at h
  split at h <;> simp only [decide_eq_true_eq] at h <;> omega

theorem close1_sq {a b : Nat} (h : close1 a b = true) : a * a + b * b ≤ 2 * b * a + 1 := by
  obtain rfl | rfl | rfl := close1_cases h <;>
    simp only [Nat.mul_add, Nat.add_mul, Nat.mul_one, Nat.one_mul, Nat.mul_assoc] <;> omega

theorem two_mul_le_sq_add_sq (a b : Nat) : 2 * a * b ≤ a * a + b * b := by
  have := two_mul_le_add_sq a b
  rwa [Nat.pow_two, Nat.pow_two] at this

/-- one Newton step `y = ⌊(yp² + c)/g⌋` for `F(t) = t² + (b − d)·t − c`, with `g = F'(yp)`, that moved by
    at most one unit lands within one unit of the root: both bounds are
    `F(y) = (y − yp)² + (g·y − yp² − c)`, the second bracket being the floor's remainder
    (`WW.y_residual_int` in `Proofs/Stable2.lean` is the same fact over `ℤ`, for the two-asset pool) -/
theorem newton_residual {b c d g yp y : Nat} (hgd : g + d = 2 * yp + b)
    (hlo : g * y ≤ yp * yp + c) (hhi : yp * yp + c < g * y + g)
    (hclose : y * y + yp * yp ≤ 2 * yp * y + 1) :
    y * y + b * y ≤ c + d * y + 1 ∧ c + d * y < y * y + b * y + g := by
  have e : g * y + d * y = 2 * yp * y + b * y := by rw [← Nat.add_mul, hgd, Nat.add_mul]
  have am := two_mul_le_sq_add_sq yp y
  omega

/-- **residual**: a `y` returned through the convergence exit is the integer root of
    `F(t) = t² + (b − d)·t − c` up to one unit: `F(y') ≤ 1` and `F(y') > −(2·y_prev + b − d)`
    (written without subtraction). -/
theorem y_residual_nat {b c d yp y' : Nat} (h : YConverged b c d yp y') :
    y' * y' + b * y' ≤ c + d * y' + 1 ∧
    c + d * y' < y' * y' + b * y' + (2 * yp + b - d) := by
  obtain ⟨hd, hy, hc⟩ := h
  have hg : 0 < 2 * yp + b - d := by omega
  refine newton_residual (by omega) ?_ ?_ (close1_sq hc)
  · rw [hy]; exact Nat.mul_div_le _ _
  · rw [hy]; exact Nat.lt_mul_div_succ _ hg

end WW.Trio
