/- Fee-ledger facts of the vault model for C07: what one successful transaction does to the pending
   ledger, the ghost sum of collector transfers, the all-time and burned counters and the asset's
   total supply. -/
import WW.Proofs.Vault
namespace WW.Vault
open WW

/-- the ledger footprint of one transaction: `pf` protocol fee charged, `bf` burn fee burned,
    `c` transferred to the collector by a collection -/
structure LedgerStep (s s' : St) (pf bf c : Nat) : Prop where
  pend : s'.pend + c = s.pend + pf
  sent : s'.sent = s.sent + c
  allTime : s'.allTime = s.allTime + pf
  burned : s'.burned = s.burned + bf
  supply : s'.assetSupply + bf = s.assetSupply

theorem LedgerStep.none {s s' : St} (h1 : s'.pend = s.pend) (h2 : s'.sent = s.sent)
    (h3 : s'.allTime = s.allTime) (h4 : s'.burned = s.burned) (h5 : s'.assetSupply = s.assetSupply) :
    LedgerStep s s' 0 0 0 := ⟨by omega, by omega, by omega, by omega, by omega⟩

theorem loanSpec_ledger {s s' : St} {amount : Nat} (L : LoanSpec s s' amount) :
    ∃ c, LedgerStep s s' (fee s.fees.prot amount) (fee s.fees.burn amount) c := by
  -- c = what the borrower's re-entrant collections moved out of the pending ledger
  have h1 := L.ledger
  have h2 := L.pendLe
  exact ⟨s.pend + fee s.fees.prot amount - s'.pend, ⟨by omega, by omega, L.allTime, L.burned, L.assetSupply⟩⟩

theorem ArriveSpec.ledger {s s' : St} (A : ArriveSpec s s') : LedgerStep s s' 0 0 0 :=
  .none A.pend A.sent A.allTime A.burned A.assetSupply

private theorem no_fee {s s' : St} {c : Nat} {P : Prop} (L : LedgerStep s s' 0 0 c) :
    ∃ pf bf c, LedgerStep s s' pf bf c ∧ (pf ≠ 0 ∨ bf ≠ 0 → P) :=
  ⟨0, 0, c, L, fun h => (h.elim (· rfl) (· rfl)).elim⟩

/-- every successful top-level operation has a ledger footprint; only loans charge fees (exactly
    `⌊share·loan⌋`), only collections (direct, or re-entrant inside a loan) pay the collector.
    `op.core` is the message itself, without the stray coins that may be attached to it (`Op.attach`):
    attached coins charge nothing and move nothing on the ledgers. -/
theorem step_ledger {s s' : St} {op : Op} (hI : Inv s) (h : step s op = some s') :
    ∃ pf bf c, LedgerStep s s' pf bf c ∧
      (pf ≠ 0 ∨ bf ≠ 0 → ∃ amount, (∃ cb, op.core = .loan amount cb) ∨ (∃ i p, op.core = .routerLoan i amount p)) := by
  have hS := Step.of_step h
  clear h
  induction hS with
  | deposit _ h => obtain ⟨_, rfl⟩ := deposit_eq_some.mp h; exact no_fee (.none rfl rfl rfl rfl rfl)
  | withdraw _ h => obtain ⟨_, _, _, rfl⟩ := withdraw_some h; exact no_fee (.none rfl rfl rfl rfl rfl)
  | collect h =>
    rcases collect_eq_some.mp h with ⟨_, rfl⟩ | ⟨_, _, rfl⟩
    · exact no_fee (.none rfl rfl rfl rfl rfl)
    · exact no_fee ⟨(Nat.zero_add _).trans (Nat.add_zero _).symm, rfl, rfl, rfl, rfl⟩
  | setFees | setToggles | routerLoanNone => exact no_fee (.none rfl rfl rfl rfl rfl)
  | loan h =>
    obtain ⟨c, hc⟩ := loanSpec_ledger (loan_spec hI h)
    exact ⟨_, _, c, hc, fun _ => ⟨_, .inl ⟨_, rfl⟩⟩⟩
  | routerLoan hi h =>
    obtain ⟨c, hc⟩ := loanSpec_ledger (router_loan_spec hI (by omega) h)
    exact ⟨_, _, c, hc, fun _ => ⟨_, .inr ⟨_, _, rfl⟩⟩⟩
  | donate hw h => exact no_fee (payIn_donated hI (by omega) h).ledger
  | fundRouter hw h => exact no_fee (move_donated hI (by omega) (by omega) h).ledger
  | attach ha _ ih =>
    have A := arrive_spec hI ha
    obtain ⟨pf, bf, c, L, hc⟩ := ih A.inv
    exact ⟨pf, bf, c, ⟨A.pend ▸ L.pend, A.sent ▸ L.sent, A.allTime ▸ L.allTime, A.burned ▸ L.burned,
      A.assetSupply ▸ L.supply⟩, hc⟩

structure LedgerInv (K : Nat) (s : St) : Prop where
  ledger : s.pend + s.sent = s.allTime
  supply : s.burned + s.assetSupply = K

theorem ledgerInv_step {K : Nat} {s s' : St} {op : Op} (hI : Inv s) (hL : LedgerInv K s)
    (h : step s op = some s') : LedgerInv K s' := by
  obtain ⟨pf, bf, c, L, _⟩ := step_ledger hI h
  have h1 := L.pend; have h2 := L.sent; have h3 := L.allTime; have h4 := L.burned; have h5 := L.supply
  have := hL.ledger; have := hL.supply
  exact ⟨by omega, by omega⟩

end WW.Vault
