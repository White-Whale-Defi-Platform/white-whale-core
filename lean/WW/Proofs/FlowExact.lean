/- An accepted `open_flow` / `expand_flow` as a whole transaction: the flow's funded amount and the contract's
   balance grow by exactly the same amount and the fee reaches the collector (C12 `open_expand_exact_*`); what
   was paid beyond a native fee comes back to the sender (C11 `overpaid_fee_refunded`). -/
import WW.Proofs.Custody
namespace WW.Inc
open WW WW.Gen

/-- **expand_flow, exactly**: the flow's unclaimed funds and the contract's balance of the flow asset
    both grow by exactly the stated amount -/
theorem step_expandFlow_exact {c : Cfg} {s s' : St} {e : Env} {id a amt : Nat} {en : Option Nat}
    (hF : FInv s) (hH : HistLe s e.epoch) (hs : e.sender ≠ INC)
    (h : step c s e (.expandFlow id a amt en) = .ok s') :
    ∃ f f2, findFlow s.flows id = some f ∧ findFlow s'.flows id = some f2
      ∧ f.asset = a ∧ f2.asset = a ∧ f2.creator = f.creator
      ∧ f2.claimed ≤ f2.funded ∧ f2.funded - f2.claimed = f.funded - f.claimed + amt
      ∧ balOf s' INC a = balOf s INC a + amt := by
  obtain ⟨_, _, b, s1, msgs, b1, hc, h1, hb1, rfl⟩ := step_ok h
  cases hc
  rename_i hb
  obtain ⟨f, f2, endE, hs', hf, hfa, hfunds, hadd⟩ := expandFlow_ok h1
  subst hs'
  have hf' : findFlow s.flows id = some f := hf
  obtain ⟨hfm, hfid⟩ := findFlow_mem hf'
  obtain ⟨x1, x2, x3, _, x5, _, hexact⟩ := expandFlow_flow (hF.hist_nodup f hfm) (hF.claimed_le f hfm) hadd
  obtain ⟨e1, e2⟩ := expandFlowFunds_ledger hs hfunds
  refine ⟨f, f2, hf', ?_, hfa, by rw [x2, hfa], x3, x5, (hexact (hH f hfm)).1, ?_⟩
  · apply findFlow_insertFlow
    · intro g hg; exact (mem_removeFlow.mp hg).2
    · rw [x1, hfid]
  · have t1 := attachFunds_eff (x := e.sender) (y := INC) INC a _ _ _ hb
    rw [if_neg (fun hh => hs hh.1), if_pos ⟨rfl, hs⟩] at t1
    have t2 := applyMsgs_eff INC a _ _ _ _ hb1
    rw [e1 a] at t2
    simp only at t2
    unfold balOf
    simp only
    omega

theorem openFlowMsgs_collector {c : Cfg} {e : Env} (hsc : e.sender ≠ COLLECTOR) (a y p : Nat) :
    insOf COLLECTOR c.feeAsset (openFlowMsgs c e a y p) = c.feeAmt
    ∧ outsOf COLLECTOR c.feeAsset (openFlowMsgs c e a y p) = 0 := by
  have hic : INC ≠ COLLECTOR := by decide
  unfold openFlowMsgs
  cases c.native c.feeAsset <;> cases c.native a <;> by_cases hlt : c.feeAmt < p <;>
    simp [insOf, outsOf, msgIn, msgOut, hsc, hic, hlt]

/-- `openFlowMsgs` under a native fee, seen from the sender in the fee denom: what was attached beyond the fee
    (and beyond the flow amount, for a flow in the fee denom) comes back, nothing is taken -/
theorem openFlowMsgs_sender {c : Cfg} {e : Env} {a y p : Nat} (hnf : c.native c.feeAsset = true)
    (hs : e.sender ≠ INC) (hsc : e.sender ≠ COLLECTOR) :
    outsOf e.sender c.feeAsset (openFlowMsgs c e a y p) = 0
    ∧ insOf e.sender c.feeAsset (openFlowMsgs c e a y p) = p - c.feeAmt := by
  unfold openFlowMsgs
  cases hna : c.native a
  · -- a cw20 flow asset is not the native fee denom
    have hne : ¬ a = c.feeAsset := fun hh => by rw [hh, hnf] at hna; cases hna
    by_cases hlt : c.feeAmt < p <;>
      simp [insOf, outsOf, msgIn, msgOut, hnf, Ne.symm hs, Ne.symm hsc, hlt, hne] <;> omega
  · by_cases hlt : c.feeAmt < p <;>
      simp [insOf, outsOf, msgIn, msgOut, hnf, Ne.symm hs, Ne.symm hsc, hlt] <;> omega

/-- an accepted `open_flow` as a whole transaction: the handler charges the fee, takes the flow amount `y` and
    records a flow `f` of that amount under the next id; between the ledger before and the ledger after lie the
    attached funds and the handler's messages, seen here from any account `X` in any asset `a'` -/
theorem step_openFlow_ok {c : Cfg} {s s' : St} {e : Env} {a amt : Nat} {st en : Option Nat}
    (h : step c s e (.openFlow a amt st en) = .ok s') :
    ∃ x y m0 m1 f, openFlowFee c e a amt = .ok (x, m0) ∧ openFlowAsset c e a x = .ok (y, m1)
      ∧ (∀ X a', balOf s' X a' + outsOf X a' (m0 ++ m1)
            + (if e.sender = X ∧ INC ≠ X then att c a' (fundsOf c e.offers) else 0)
          = balOf s X a' + insOf X a' (m0 ++ m1)
            + (if INC = X ∧ e.sender ≠ X then att c a' (fundsOf c e.offers) else 0))
      ∧ s'.flows = insertFlow f s.flows ∧ f.id = s.flowCounter + 1 ∧ f.creator = e.sender ∧ f.asset = a
      ∧ f.funded = y ∧ f.claimed = 0 := by
  obtain ⟨_, _, b, s1, msgs, b1, hc, h1, hb1, rfl⟩ := step_ok h
  cases hc
  rename_i hb
  obtain ⟨x, y, m0, m1, f, rfl, hfee, hasset, rfl, f1, f2, f3, f4, f5, f6, _⟩ := openFlow_ok h1
  refine ⟨x, y, m0, m1, f, hfee, hasset, fun X a' => ?_, rfl, f1, f2, f3,
    (Flow.funded_of_hist_nil f6).trans f4, f5⟩
  have t1 := attachFunds_eff X a' _ _ _ hb
  have t2 := applyMsgs_eff X a' _ _ _ _ hb1
  unfold balOf
  simp only at t2 ⊢
  omega

/-- **open_flow, exactly**: a new flow with a fresh id is recorded for the sender with nothing claimed; its
    funded amount is the declared amount (less the fee when the fee is charged in the flow asset itself);
    the contract's balance of the flow asset grows by exactly the funded amount; the collector's balance of
    the fee asset grows by exactly the fee. -/
theorem step_openFlow_exact {c : Cfg} {s s' : St} {e : Env} {a amt : Nat} {st en : Option Nat}
    (hF : FInv s) (hs : e.sender ≠ INC) (hsc : e.sender ≠ COLLECTOR) (hn : (keysOf e.offers).Nodup)
    (h : step c s e (.openFlow a amt st en) = .ok s') :
    ∃ f, findFlow s'.flows (s.flowCounter + 1) = some f ∧ findFlow s.flows (s.flowCounter + 1) = none
      ∧ f.creator = e.sender ∧ f.asset = a ∧ f.claimed = 0
      ∧ f.funded = (if c.feeAsset = a then amt - c.feeAmt else amt)
      ∧ balOf s' INC a = balOf s INC a + f.funded
      ∧ balOf s' COLLECTOR c.feeAsset = balOf s COLLECTOR c.feeAsset + c.feeAmt := by
  obtain ⟨x, y, m0, m1, f, hfee, hasset, hbal, hflows, f1, f2, f3, rfl, f5⟩ := step_openFlow_ok h
  have hfresh : ∀ g ∈ s.flows, g.id ≠ s.flowCounter + 1 := by
    intro g hg; have := hF.ids_le g hg; omega
  obtain ⟨hy, _, p, hmsgs, _, _⟩ := openFlow_msgs hfee hasset
  refine ⟨f, by rw [hflows]; exact findFlow_insertFlow hfresh f1, ?_, f2, f3, f5, hy, ?_, ?_⟩
  · unfold findFlow
    apply List.find?_eq_none.mpr
    intro g hg
    simpa using hfresh g hg
  · have t := hbal INC a
    rw [if_neg (fun hh => hs hh.1), if_pos ⟨rfl, hs⟩] at t
    have t3 := openFlow_ledger_eq hs (nodup_fundsOf hn) hfee hasset a
    rw [if_pos rfl, if_pos (Or.inl rfl)] at t3
    omega
  · have t := hbal COLLECTOR c.feeAsset
    rw [if_neg (fun hh => hsc hh.1), if_neg (fun hh => collector_ne_inc hh.1.symm), hmsgs] at t
    obtain ⟨t3, t4⟩ := openFlowMsgs_collector (c := c) hsc a f.funded p
    omega

/-- **an over-paid native flow fee is refunded in full, whatever the kind of the flow asset**: an accepted
    `open_flow` under a fee charged in a native denom — with ANY amount of that denom attached — lowers the
    sender's balance of the fee denom by exactly the fee (plus the flow amount `amt - fee` when the flow is
    opened in the fee denom itself, where the attached amount must be exactly `amt`), raises the collector's
    by exactly the fee and the contract's by exactly that flow amount (by nothing otherwise): every unit
    beyond fee + flow went back to the sender in the same transaction. -/
theorem step_openFlow_fee_refund {c : Cfg} {s s' : St} {e : Env} {a amt : Nat} {st en : Option Nat}
    (hnf : c.native c.feeAsset = true) (hs : e.sender ≠ INC) (hsc : e.sender ≠ COLLECTOR)
    (hn : (keysOf e.offers).Nodup) (h : step c s e (.openFlow a amt st en) = .ok s') :
    balOf s' e.sender c.feeAsset + c.feeAmt + (if a = c.feeAsset then amt - c.feeAmt else 0)
        = balOf s e.sender c.feeAsset
    ∧ balOf s' INC c.feeAsset = balOf s INC c.feeAsset + (if a = c.feeAsset then amt - c.feeAmt else 0)
    ∧ balOf s' COLLECTOR c.feeAsset = balOf s COLLECTOR c.feeAsset + c.feeAmt := by
  obtain ⟨x, y, m0, m1, f, hfee, hasset, hbal, _⟩ := step_openFlow_ok h
  obtain ⟨hy, _, p, hmsgs, hp, _⟩ := openFlow_msgs hfee hasset
  obtain ⟨hle, hpaid⟩ := hp hnf
  -- all of the fee denom that was attached: `p`, and the flow amount for a flow in the fee denom
  have hatt : att c c.feeAsset (fundsOf c e.offers) = p + (if a = c.feeAsset then amt - c.feeAmt else 0) := by
    rw [att_eq_of_mem (nodup_fundsOf hn) (alook_some_mem hpaid) hnf, hy]
    by_cases haa : a = c.feeAsset
    · rw [if_pos haa, if_pos haa, if_pos haa.symm]
    · rw [if_neg haa, if_neg haa]
  rw [hmsgs] at hbal
  refine ⟨?_, ?_, ?_⟩
  · have t := hbal e.sender c.feeAsset
    rw [if_pos ⟨rfl, Ne.symm hs⟩, if_neg (fun hh => hs hh.1.symm)] at t
    obtain ⟨t3, t4⟩ := openFlowMsgs_sender (a := a) (y := y) (p := p) hnf hs hsc
    omega
  · have t := hbal INC c.feeAsset
    rw [if_neg (fun hh => hs hh.1), if_pos ⟨rfl, hs⟩] at t
    obtain ⟨t3, t4⟩ := openFlowMsgs_inc hs (fun _ => hle) (fun hh => by rw [hnf] at hh; cases hh)
      (a := a) (y := y) c.feeAsset
    rw [if_pos rfl] at t3
    rw [if_neg (fun hh => by rw [hh.1, hnf] at hh; cases hh.2)] at t4
    omega
  · have t := hbal COLLECTOR c.feeAsset
    rw [if_neg (fun hh => hsc hh.1), if_neg (fun hh => collector_ne_inc hh.1.symm)] at t
    obtain ⟨t3, t4⟩ := openFlowMsgs_collector (c := c) hsc a y p
    omega

end WW.Inc
