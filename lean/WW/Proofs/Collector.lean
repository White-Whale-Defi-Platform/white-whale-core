/- Lemmas about `WW.Model.Collector`: the `ForwardFees` pipeline (collection, the aggregation passes, the take rate),
   the directly sent `CollectFees` / `AggregateFees`, and the factory pages.  Core Lean only. (`fun_cases` arms are read as said at the head of `Proofs/Distributor.lean`.) -/
import WW.Model.Collector
import WW.Model.Distributor
import WW.Proofs.Res

namespace WW.Collector

/-- `Collector.add` is the same function as `Distributor.addAt` (each model defines its own); cf. `Distributor.addAt_apply` -/
theorem add_apply (b : Nat → Nat) (x u i : Nat) : add b x u i = b i + (if x = i then u else 0) := by
  simp only [add, eq_comm (a := i)]
  split <;> rfl

theorem collectVaults_apply (l : Vault → Bool) (i : Nat) : ∀ (vs : List Vault) (b : Nat → Nat),
    collectVaults l vs b i = b i + vaultsCollected l i vs
  | [], _ => rfl
  | v :: vs, b => by
    rw [collectVaults, vaultsCollected, collectVaults_apply l i vs, add_apply, Nat.add_assoc]

theorem collectPools_apply (l : Pool → Bool) (i : Nat) : ∀ (ps : List Pool) (b : Nat → Nat),
    collectPools l ps b i = b i + poolsCollected l i ps
  | [], _ => rfl
  | p :: ps, b => by
    rw [collectPools, poolsCollected, collectPools_apply l i ps, add_apply, add_apply]
    simp only [Nat.add_assoc]

/-- aggregation passes over the pairs `ps` took the balances `b` to `b'`: the distribution asset grew by what the router
    paid, every other asset is untouched or was swapped in full, and swapped only above the minimum, with a route that
    simulates -/
def Agg (ps : List Pool) (routes : Nat → List (Nat × Nat)) (dist : Nat) (b b' : Nat → Nat) (inn : Nat) : Prop :=
  b' dist = b dist + inn ∧ ∀ i, i ≠ dist → b' i = b i ∨ (b' i = 0 ∧ AGG_T < b i ∧ simOk ps (routes i) = true)

theorem Agg.refl {ps : List Pool} {routes : Nat → List (Nat × Nat)} {dist : Nat} {b : Nat → Nat} :
    Agg ps routes dist b b 0 :=
  ⟨rfl, fun _ _ => .inl rfl⟩

theorem Agg.trans {ps : List Pool} {routes : Nat → List (Nat × Nat)} {dist x y : Nat} {b b' b'' : Nat → Nat}
    (h0 : Agg ps routes dist b b' x) (h1 : Agg ps routes dist b' b'' y) : Agg ps routes dist b b'' (x + y) := by
  refine ⟨by rw [h1.1, h0.1, Nat.add_assoc], fun i hi => ?_⟩
  obtain u0 | w0 := h0.2 i hi
  · rw [← u0]; exact h1.2 i hi
  · exact .inr ⟨(h1.2 i hi).elim (·.trans w0.1) (·.1), w0.2⟩

theorem aggregate_spec {dist : Nat} {router : Nat → Nat → Nat → Nat} {stage : Nat} {ps : List Pool}
    {routes : Nat → List (Nat × Nat)} {cands : List Nat} {b b' : Nat → Nat} {inn : Nat} {sw : List (Nat × Nat × Nat)}
    (hc : ∀ c ∈ cands, c ≠ dist) (h : aggregate dist router stage ps routes cands b = .ok (b', inn, sw)) :
    Agg ps routes dist b b' inn := by
  fun_induction aggregate dist router stage ps routes cands b generalizing b' inn sw with
  | case1 => cases h; exact .refl                                   -- no candidate left
  | case2 c cs b hcond hex b1 inn1 sw1 hr ih =>                     -- `c` is swapped, then the rest of the pass
    cases h
    refine Agg.trans ⟨?_, fun i hi => ?_⟩ (ih (fun x hx => hc x (List.mem_cons_of_mem _ hx)) hr)
    · rw [add_apply, upd, if_neg (Ne.symm (hc c List.mem_cons_self)), if_pos rfl]
    · rw [add_apply, if_neg (Ne.symm hi), upd]
      by_cases hic : i = c
      · exact .inr ⟨if_pos hic, hic ▸ hcond⟩
      · exact .inl (if_neg hic)
  -- `c` is passed over
  | case6 c cs b hcond ih => exact ih (fun x hx => hc x (List.mem_cons_of_mem _ hx)) h
  | case3 | case4 | case5 => cases h

theorem ne_of_mem_filter_bne {xs : List Nat} {d c : Nat} {q : Nat → Bool}
    (h : c ∈ xs.filter fun i => i != d && q i) : c ≠ d := by
  have := (List.mem_filter.mp h).2
  simp only [Bool.and_eq_true, bne_iff_ne, ne_eq] at this
  exact this.1

theorem vaultAssets_ne (cfg : Cfg) (l : Vault → Bool) (vs : List Vault) : ∀ c ∈ vaultAssets cfg l vs, c ≠ cfg.dist :=
  fun _ hc => ne_of_mem_filter_bne hc

theorem poolAssets_ne (cfg : Cfg) (l : Pool → Bool) (ps : List Pool) : ∀ c ∈ poolAssets cfg l ps, c ≠ cfg.dist :=
  fun _ hc => ne_of_mem_filter_bne hc

theorem forwardFees_spec {cfg : Cfg} {s : St} {sender epochId : Nat} {router : Nat → Nat → Nat → Nat}
    {acc : Nat → Nat → Nat} {o : Out} (h : forwardFees cfg s sender epochId router acc = .ok o) :
    sender = cfg.distributor ∧
    ∃ b3 in0 sw0 in1 sw1,
      Agg (poolsAfter (fwdPools s) s.pools) s.routes cfg.dist
        (collectPools (fwdPools s) s.pools (collectVaults (fwdVaults s) s.vaults s.bal)) b3 (in0 + in1) ∧
      takeOf s (b3 cfg.dist) ≤ b3 cfg.dist ∧
      o = { st := { s with bal := upd b3 cfg.dist 0,
                           dao := s.dao + takeOf s (b3 cfg.dist),
                           trh := if takeOf s (b3 cfg.dist) = 0 then s.trh else s.trh ++ [(epochId, takeOf s (b3 cfg.dist))],
                           pools := addAcc acc 0 (poolsAfter (fwdPools s) s.pools),
                           vaults := vaultsAfter (fwdVaults s) s.vaults },
            inflow := if b3 cfg.dist - takeOf s (b3 cfg.dist) = 0 then none else some (b3 cfg.dist - takeOf s (b3 cfg.dist)),
            take := takeOf s (b3 cfg.dist), base := b3 cfg.dist, swappedIn := in0 + in1, swaps := sw0 ++ sw1 } := by
  revert h
  fun_cases forwardFees cfg s sender epochId router acc with
  | case2 hs b1 ps1 b2 in0 sw0 h0 b3 in1 sw1 h1 tb take hle rest =>
    intro h
    cases h
    exact ⟨Classical.not_not.mp hs, b3, in0, sw0, in1, sw1,
      (aggregate_spec (vaultAssets_ne cfg _ _) h0).trans (aggregate_spec (poolAssets_ne cfg _ _) h1), hle, rfl⟩
  | _ => nofun

theorem mulRate_le {tb r : Nat} (hr : r < E18) : tb * r / E18 ≤ tb := mul_div_le_of_le (Nat.le_of_lt hr)

/-- `checked_mul_floor` works in 256 bits and its result is at most the balance: an active take rate below one
    never takes the `unwrap_or(0)` fallback -/
theorem takeOf_active {s : St} {tb : Nat} (hrate : s.rate < E18) (htb : tb ≤ U128MAX)
    (hact : s.active = true ∧ s.rate ≠ 0 ∧ s.daoSet = true) : takeOf s tb = tb * s.rate / E18 := by
  rw [takeOf, if_pos hact, if_pos (Nat.le_trans (mulRate_le hrate) htb)]

theorem takeOf_le_of_rate_lt (s : St) (tb : Nat) (hr : s.rate < E18) : takeOf s tb ≤ tb := by
  unfold takeOf
  split
  · split
    · exact mulRate_le hr
    · exact Nat.zero_le _
  · exact Nat.zero_le _

theorem amt_inflow (n : Nat) : Distributor.amt (if n = 0 then none else some n) = n := by
  split
  · next h => exact h.symm
  · rfl

/-! ### `CollectFees` / `AggregateFees` sent directly -/

theorem collectFees_any_sender (s : St) (a b : Nat) (f : FeesFor) : collectFees s a f = collectFees s b f := by
  cases f <;> rfl

theorem aggregateFees_any_sender (cfg : Cfg) (s : St) (a b : Nat) (f : FeesFor) (router : Nat → Nat → Nat → Nat)
    (acc : Nat → Nat → Nat) : aggregateFees cfg s a f router acc = aggregateFees cfg s b f router acc := rfl

theorem sent_add_kept (r : Bool) (p : Nat) : sent r p + kept r p = p := by
  unfold sent kept
  split <;> omega

theorem vsent_add_vkept (l : Bool) (p : Nat) : vsent l p + vkept l p = p := by
  unfold vsent vkept
  split <;> omega

theorem ite_add_ite {c : Prop} [Decidable c] (x y : Nat) :
    (if c then x else 0) + (if c then y else 0) = if c then x + y else 0 := by
  split <;> rfl

theorem ite_sent_add_kept (c : Prop) [Decidable c] (r : Bool) (p : Nat) :
    (if c then sent r p else 0) + (if c then kept r p else 0) = if c then p else 0 := by
  rw [ite_add_ite, sent_add_kept]

theorem poolsPending_after (l : Pool → Bool) (i : Nat) : ∀ ps : List Pool,
    poolsPending i (poolsAfter l ps) + poolsCollected l i ps = poolsPending i ps
  | [] => rfl
  | p :: ps => by
    have ih : poolsPending i (List.map _ ps) + _ = _ := poolsPending_after l i ps
    have ha := ite_sent_add_kept (p.a = i) (l p) p.pa
    have hb := ite_sent_add_kept (p.b = i) (l p) p.pb
    simp only [poolsAfter, List.map, poolsPending, poolsCollected]
    omega

theorem vaultsPending_after (l : Vault → Bool) (i : Nat) : ∀ vs : List Vault,
    vaultsPending i (vaultsAfter l vs) + vaultsCollected l i vs = vaultsPending i vs
  | [] => rfl
  | v :: vs => by
    have ih : vaultsPending i (List.map _ vs) + _ = _ := vaultsPending_after l i vs
    have hv : (if v.asset = i then vsent (l v) v.pend else 0) + (if v.asset = i then vkept (l v) v.pend else 0) =
        if v.asset = i then v.pend else 0 := by rw [ite_add_ite, vsent_add_vkept]
    simp only [vaultsAfter, List.map, vaultsPending, vaultsCollected]
    omega

theorem vaultsPending_set (i : Nat) (w : Vault) : ∀ (vs : List Vault) (k : Nat) (v : Vault), vs[k]? = some v →
    vaultsPending i (vs.set k w) + (if v.asset = i then v.pend else 0) =
      vaultsPending i vs + (if w.asset = i then w.pend else 0)
  | [], _, _, h => by cases h
  | x :: xs, 0, v, h => by
    cases h
    simp only [List.set, vaultsPending]
    omega
  | x :: xs, k + 1, v, h => by
    have := vaultsPending_set i w xs k v h
    simp only [List.set, vaultsPending]
    omega

theorem poolsPending_set (i : Nat) (q : Pool) : ∀ (ps : List Pool) (k : Nat) (p : Pool), ps[k]? = some p →
    poolsPending i (ps.set k q) + ((if p.a = i then p.pa else 0) + (if p.b = i then p.pb else 0)) =
      poolsPending i ps + ((if q.a = i then q.pa else 0) + (if q.b = i then q.pb else 0))
  | [], _, _, h => by cases h
  | x :: xs, 0, p, h => by
    cases h
    simp only [List.set, poolsPending]
    omega
  | x :: xs, k + 1, p, h => by
    have := poolsPending_set i q xs k p h
    simp only [List.set, poolsPending]
    omega

theorem collectFees_ok {s s' : St} {sender : Nat} {f : FeesFor} (h : collectFees s sender f = .ok s') :
    (∃ lim, f = .vaultFactory lim ∧
      s' = { s with bal := collectVaults (vaultListed s.vaults (vaultPage lim)) s.vaults s.bal,
                    vaults := vaultsAfter (vaultListed s.vaults (vaultPage lim)) s.vaults }) ∨
    (∃ lim, f = .poolFactory lim ∧
      s' = { s with bal := collectPools (poolListed s.pools (poolPage lim)) s.pools s.bal,
                    pools := poolsAfter (poolListed s.pools (poolPage lim)) s.pools }) ∨
    (∃ k p, f = .onePool k ∧ s.pools[k]? = some p ∧
      s' = { s with bal := add (add s.bal p.a (sent true p.pa)) p.b (sent true p.pb),
                    pools := s.pools.set k { p with pa := kept true p.pa, pb := kept true p.pb } }) ∨
    (∃ k v, f = .oneVault k ∧ s.vaults[k]? = some v ∧
      s' = { s with bal := add s.bal v.asset v.pend, vaults := s.vaults.set k { v with pend := 0 } }) := by
  revert h
  fun_cases collectFees s sender f with
  -- the vault factory's page, the pool factory's page, a named pair, a named vault
  | case1 lim => intro h; cases h; exact .inl ⟨lim, rfl, rfl⟩
  | case2 lim => intro h; cases h; exact .inr (.inl ⟨lim, rfl, rfl⟩)
  | case4 k p hk => intro h; cases h; exact .inr (.inr (.inl ⟨k, p, rfl, hk, rfl⟩))
  | case6 k v hk => intro h; cases h; exact .inr (.inr (.inr ⟨k, v, rfl, hk, rfl⟩))
  | _ => nofun

/-- a direct `CollectFees`: the collector's balance of every asset grows by exactly what the named
    contracts send, and that is exactly what leaves their pending ledgers -/
theorem collectFees_spec {s s' : St} {sender : Nat} {f : FeesFor} (h : collectFees s sender f = .ok s') (i : Nat) :
    s'.bal i = s.bal i + directCollected s f i ∧
    vaultsPending i s'.vaults + poolsPending i s'.pools + directCollected s f i =
      vaultsPending i s.vaults + poolsPending i s.pools := by
  obtain ⟨lim, rfl, rfl⟩ | ⟨lim, rfl, rfl⟩ | ⟨k, p, rfl, hk, rfl⟩ | ⟨k, v, rfl, hk, rfl⟩ := collectFees_ok h
  · refine ⟨collectVaults_apply _ i _ _, ?_⟩
    simp only [directCollected]
    rw [Nat.add_right_comm, vaultsPending_after]
  · refine ⟨collectPools_apply _ i _ _, ?_⟩
    simp only [directCollected]
    rw [Nat.add_assoc, poolsPending_after]
  · simp only [directCollected, hk]
    refine ⟨by rw [add_apply, add_apply, Nat.add_assoc], ?_⟩
    have := poolsPending_set i { p with pa := kept true p.pa, pb := kept true p.pb } s.pools k p hk
    have := ite_sent_add_kept (p.a = i) true p.pa
    have := ite_sent_add_kept (p.b = i) true p.pb
    simp only at *
    omega
  · simp only [directCollected, hk]
    refine ⟨add_apply _ _ _ _, ?_⟩
    have := vaultsPending_set i { v with pend := 0 } s.vaults k v hk
    simp only [ite_self] at this
    omega

theorem collectFees_rest {s s' : St} {sender : Nat} {f : FeesFor} (h : collectFees s sender f = .ok s') :
    s'.dao = s.dao ∧ s'.trh = s.trh ∧ s'.rate = s.rate ∧ s'.active = s.active ∧ s'.daoSet = s.daoSet ∧
    s'.routes = s.routes := by
  obtain ⟨_, _, rfl⟩ | ⟨_, _, rfl⟩ | ⟨_, _, _, _, rfl⟩ | ⟨_, _, _, _, rfl⟩ := collectFees_ok h <;>
    exact ⟨rfl, rfl, rfl, rfl, rfl, rfl⟩

theorem directCollected_bal (s : St) (b : Nat → Nat) (f : FeesFor) (i : Nat) :
    directCollected { s with bal := b } f i = directCollected s f i := by
  cases f <;> rfl

/-- whether a direct `CollectFees` succeeds, and what it leaves on the pending ledgers, does not depend on the
    collector's balances -/
theorem collectFees_bal {s c' : St} {b : Nat → Nat} {sender : Nat} {f : FeesFor}
    (h : collectFees { s with bal := b } sender f = .ok c') :
    ∃ c0, collectFees s sender f = .ok c0 ∧ c' = { c0 with bal := c'.bal } := by
  obtain ⟨lim, rfl, rfl⟩ | ⟨lim, rfl, rfl⟩ | ⟨k, p, rfl, hk, rfl⟩ | ⟨k, v, rfl, hk, rfl⟩ := collectFees_ok h
  · exact ⟨_, rfl, rfl⟩
  · exact ⟨_, rfl, rfl⟩
  · have hk : s.pools[k]? = some p := hk
    exact ⟨_, by rw [collectFees, hk], rfl⟩
  · have hk : s.vaults[k]? = some v := hk
    exact ⟨_, by rw [collectFees, hk], rfl⟩

theorem aggCands_eq_some {cfg : Cfg} {s : St} {f : FeesFor} {cands : List Nat} (h : aggCands cfg s f = some cands) :
    ((∃ lim, f = .vaultFactory lim) ∨ (∃ lim, f = .poolFactory lim)) ∧ ∀ c ∈ cands, c ≠ cfg.dist := by
  cases f <;> cases h
  · exact ⟨.inl ⟨_, rfl⟩, vaultAssets_ne cfg _ s.vaults⟩
  · exact ⟨.inr ⟨_, rfl⟩, poolAssets_ne cfg _ s.pools⟩

theorem aggregateFees_spec {cfg : Cfg} {s s' : St} {sender : Nat} {f : FeesFor} {router : Nat → Nat → Nat → Nat}
    {acc : Nat → Nat → Nat} {inn : Nat} {sw : List (Nat × Nat × Nat)}
    (h : aggregateFees cfg s sender f router acc = .ok (s', inn, sw)) :
    ∃ cands b, aggCands cfg s f = some cands ∧
      aggregate cfg.dist router 0 s.pools s.routes cands s.bal = .ok (b, inn, sw) ∧
      s' = { s with bal := b, pools := addAcc acc 0 s.pools } := by
  revert h
  fun_cases aggregateFees cfg s sender f router acc with
  | case2 cands hc b inn1 sw1 ha => intro h; cases h; exact ⟨cands, b, hc, ha, rfl⟩
  | _ => nofun

/-! ### factory pages: a page at least as long as the factory's map lists every entry -/

theorem keyLt_irrefl (k : Nat × Nat) : keyLt k k = false := by
  simp [keyLt]

theorem poolRank_le_regCount (k : Nat × Nat) : ∀ ps : List Pool, poolRank k ps ≤ regCount ps
  | [] => Nat.le_refl _
  | q :: qs => by
    have := poolRank_le_regCount k qs
    simp only [poolRank, regCount]
    cases q.reg <;> cases keyLt (poolKey q) k <;> simp <;> omega

/-- a registered pair of the list is not counted in its own rank -/
theorem poolRank_lt_regCount : ∀ (ps : List Pool) (p : Pool), p ∈ ps → p.reg = true →
    poolRank (poolKey p) ps < regCount ps
  | q :: qs, p, hp, hr => by
    simp only [poolRank, regCount]
    cases List.mem_cons.mp hp with
    | inl he =>
      subst he
      have := poolRank_le_regCount (poolKey p) qs
      rw [keyLt_irrefl, if_neg (by simp), if_pos hr]
      omega
    | inr hm =>
      have := poolRank_lt_regCount qs p hm hr
      cases q.reg <;> cases keyLt (poolKey q) (poolKey p) <;> simp <;> omega

theorem vaultRank_le_length (a : Nat) : ∀ vs : List Vault, vaultRank a vs ≤ vs.length
  | [] => Nat.le_refl _
  | w :: ws => by
    have := vaultRank_le_length a ws
    simp only [vaultRank, List.length_cons]
    split <;> omega

theorem vaultRank_lt_length : ∀ (vs : List Vault) (v : Vault), v ∈ vs → vaultRank v.asset vs < vs.length
  | w :: ws, v, hv => by
    simp only [vaultRank, List.length_cons]
    cases List.mem_cons.mp hv with
    | inl he =>
      subst he
      have := vaultRank_le_length v.asset ws
      rw [if_neg (Nat.lt_irrefl _)]
      omega
    | inr hm =>
      have := vaultRank_lt_length ws v hm
      split <;> omega

theorem poolListed_of_regCount_le {ps : List Pool} {n : Nat} (h : regCount ps ≤ n) :
    ∀ p ∈ ps, poolListed ps n p = p.reg := by
  intro p hp
  unfold poolListed
  cases hr : p.reg with
  | false => rfl
  | true =>
    have := poolRank_lt_regCount ps p hp hr
    simp only [Bool.true_and, decide_eq_true_eq]
    omega

theorem vaultListed_of_length_le {vs : List Vault} {n : Nat} (h : vs.length ≤ n) :
    ∀ v ∈ vs, vaultListed vs n v = true := by
  intro v hv
  have := vaultRank_lt_length vs v hv
  simp only [vaultListed, decide_eq_true_eq]
  omega

theorem poolsAfter_congr {l l' : Pool → Bool} (ps : List Pool) (h : ∀ p ∈ ps, l p = l' p) :
    poolsAfter l ps = poolsAfter l' ps :=
  List.map_congr_left fun p hp => by rw [h p hp]

theorem poolsCollected_congr {l l' : Pool → Bool} (i : Nat) : ∀ ps : List Pool, (∀ p ∈ ps, l p = l' p) →
    poolsCollected l i ps = poolsCollected l' i ps
  | [], _ => rfl
  | p :: ps, h => by
    rw [poolsCollected, poolsCollected, h p List.mem_cons_self,
      poolsCollected_congr i ps fun q hq => h q (List.mem_cons_of_mem _ hq)]

theorem vaultsCollected_all {l : Vault → Bool} (i : Nat) : ∀ vs : List Vault, (∀ v ∈ vs, l v = true) →
    vaultsCollected l i vs = vaultsPending i vs
  | [], _ => rfl
  | v :: vs, h => by
    rw [vaultsCollected, vaultsPending, h v List.mem_cons_self,
      vaultsCollected_all i vs fun q hq => h q (List.mem_cons_of_mem _ hq)]
    rfl

theorem vaultsAfter_all {l : Vault → Bool} (vs : List Vault) (h : ∀ v ∈ vs, l v = true) :
    vaultsAfter l vs = vs.map fun v => { v with pend := 0 } :=
  List.map_congr_left fun v hv => by rw [h v hv]; rfl

end WW.Collector
