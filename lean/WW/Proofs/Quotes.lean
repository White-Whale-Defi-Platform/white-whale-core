/- Helper lemmas for C14 (router + constant-product pair): inversion of the `Res` do-blocks of
   `WW/Model/Quotes.lean`, the frame lemma and the hop induction. -/
import WW.Model.Quotes
import WW.Proofs.CpSwap
namespace WW

namespace Quotes

theorem set_same {κ : Type} [DecidableEq κ] {α : Type} (f : κ → α) (k : κ) (v : α) :
    set f k v k = v := by
  simp [set]

theorem set_other {κ : Type} [DecidableEq κ] {α : Type} (f : κ → α) {k j : κ} (v : α) (h : j ≠ k) :
    set f k v j = f j := by
  simp [set, h]

/-- `assert_max_spread` on an all-zero computation divides by zero -/
theorem assertMaxSpread_zero (ms : Option Nat) : assertMaxSpread ms 0 0 = .panic := by
  unfold assertMaxSpread
  rw [padd_ok (by omega)]
  rfl

/-- what a successful `swapCore` did, in terms of the pre-state: the swap computation is the one the
    `Simulation` query returns on the pre-state, and the transfers / ledger updates are those amounts -/
structure SwapEffect (ps ps' : PoolSt) (k : Bool) (amt : Nat) (c : SwapComp) : Prop where
  /-- the offer is on the pair's balance -/
  balOffer : ps'.bal k = ps.bal k + amt
  /-- proceeds and burn fee left the pair's balance (swap and protocol fee stay) -/
  balAsk : ps'.bal (!k) + c.ret + c.burnFee = ps.bal (!k)
  /-- the protocol fee was added to the pending ledger … -/
  pendAsk : ps'.pend (!k) = ps.pend (!k) + c.protFee
  pendOffer : ps'.pend k = ps.pend k
  /-- … and to the all-time ledger -/
  allAsk : ps'.allTime (!k) = ps.allTime (!k) + c.protFee
  allOffer : ps'.allTime k = ps.allTime k
  /-- the burn fee was recorded -/
  burnAsk : ps'.burned (!k) = ps.burned (!k) + c.burnFee
  burnOffer : ps'.burned k = ps.burned k

/-- any pair type: the executed computation is the simulated one, and is what is transferred and
    recorded; it also passed `assert_max_spread`. (`rf` names the sum handed to the assertion: a caller
    substitutes its value once the computation `c` is known, as `swapCore_ok` does with 0 for a zero offer.) -/
theorem swapCoreG_ok {compute : Compute} {ps ps' : PoolSt} {k : Bool} {amt : Nat} {ms : Option Nat}
    {c : SwapComp} (h : swapCoreG compute ps k amt ms = .ok (ps', c)) :
    simCoreG compute ps k amt = .ok c ∧ SwapEffect ps ps' k amt c ∧
    (∃ rf, rf = c.ret + (c.swapFee + c.protFee + c.burnFee) ∧ assertMaxSpread ms rf c.spread = .ok ()) := by
  -- with the amounts the arithmetic fixes put in, what is left is flat: side conditions, `compute`, the assertion
  simp only [swapCoreG, Res.bind_eq_ok, cadd_eq_ok, csub_eq_ok, padd_eq_ok, Res.pure_eq, Res.ok.injEq,
    Prod.mk.injEq, and_assoc, exists_and_left, exists_eq_left] at h
  obtain ⟨-, l2, l3, l4, c', e5, -, -, -, _, e9, -, -, -, l13, l14, rfl, rfl⟩ := h
  have hkk : k ≠ (!k) := by cases k <;> simp
  have hle : ps.pend k ≤ ps.bal k := by omega
  -- the execute pools are the query's pools
  rw [Nat.sub_right_comm, Nat.add_sub_cancel] at e5
  refine ⟨?_, ?_, ⟨_, rfl, e9⟩⟩
  · rw [simCoreG, queryPool, queryPool, csub_ok hle, Res.bind_ok, csub_ok l4, Res.bind_ok]
    exact e5
  · exact
      { balOffer := (set_other _ _ hkk).trans (set_same ..)
        balAsk := by dsimp only; rw [set_same]; omega
        pendAsk := set_same ..
        pendOffer := set_other _ _ hkk
        allAsk := set_same ..
        allOffer := set_other _ _ hkk
        burnAsk := set_same ..
        burnOffer := set_other _ _ hkk }

/-- constant-product pair: as above, and a zero offer cannot get past `assert_max_spread` -/
theorem swapCore_ok {pc : PairCfg} {ps ps' : PoolSt} {k : Bool} {amt : Nat} {ms : Option Nat}
    {c : SwapComp} (h : swapCore pc ps k amt ms = .ok (ps', c)) :
    simCore pc ps k amt = .ok c ∧ SwapEffect ps ps' k amt c ∧ amt ≠ 0 := by
  obtain ⟨h1, h2, rf, hrf, e9⟩ := swapCoreG_ok h
  refine ⟨h1, h2, ?_⟩
  rintro rfl
  simp only [simCoreG, Res.bind_eq_ok] at h1
  obtain ⟨pO, -, pA, -, e5⟩ := h1
  obtain rfl := cpSwap_zero e5
  obtain rfl : rf = 0 := hrf
  rw [assertMaxSpread_zero] at e9
  cases e9

theorem executeSwap_ok {cfg : Cfg} {s s' : St} {i asset amt : Nat} {ms : Option Nat} {fr tr : Bool}
    {c : SwapComp} (h : executeSwap cfg s i asset amt ms fr tr = .ok (s', c)) :
    ∃ pc k ps' rO rA, cfg.pairs[i]? = some pc ∧ sideOf pc asset = some k
      ∧ swapCore pc (s.pool i) k amt ms = .ok (ps', c)
      ∧ payFrom fr (s.router asset) amt = .ok rO
      ∧ payTo tr (set s.router asset rO (assetOf pc (!k))) c.ret = .ok rA
      ∧ s'.pool = set s.pool i ps'
      ∧ s'.router = set (set s.router asset rO) (assetOf pc (!k)) rA := by
  unfold executeSwap at h
  split at h
  · cases h
  · rename_i pc hpc
    split at h
    · cases h
    · rename_i k hk
      simp only [Res.bind_eq_ok, Res.pure_eq, Res.ok.injEq, Prod.mk.injEq] at h
      obtain ⟨_, -, rO, e2, pc', e3, rA, e4, rfl, rfl⟩ := h
      exact ⟨pc, k, pc'.1, rO, rA, hpc, hk, e3, e2, e4, rfl, rfl⟩

/-- **the quote is the execution** (pool level): the computation of an executed swap is the one the
    `Simulation` query returns on the state before it -/
theorem executeSwap_sim {cfg : Cfg} {s s' : St} {i asset amt : Nat} {ms : Option Nat} {fr tr : Bool}
    {c : SwapComp} (h : executeSwap cfg s i asset amt ms fr tr = .ok (s', c)) :
    simulate cfg s i asset amt = .ok c := by
  obtain ⟨pc, k, ps', rO, rA, hpc, hk, hsw, _, _, _, _⟩ := executeSwap_ok h
  simp only [simulate, hpc, hk]
  exact (swapCore_ok hsw).1

/-- **frame**: a swap on pair `i` leaves every other pool untouched -/
theorem executeSwap_frame {cfg : Cfg} {s s' : St} {i asset amt : Nat} {ms : Option Nat} {fr tr : Bool}
    {c : SwapComp} (h : executeSwap cfg s i asset amt ms fr tr = .ok (s', c)) {j : Nat} (hj : j ≠ i) :
    s'.pool j = s.pool j := by
  obtain ⟨pc, k, ps', rO, rA, _, _, _, _, _, hp, _⟩ := executeSwap_ok h
  rw [hp, set_other _ _ hj]

/-- the quote of pair `i` reads pool `i` only -/
theorem simulate_congr {cfg : Cfg} {s t : St} {i : Nat} (h : s.pool i = t.pool i) (asset amt : Nat) :
    simulate cfg s i asset amt = simulate cfg t i asset amt := by
  unfold simulate
  rw [h]

/-- a registered hop: the resolved pair trades the hop's offer asset against its ask asset -/
theorem resolve_some {cfg : Cfg} {h : Hop} {i : Nat} (hr : resolve cfg h = some i) :
    ∃ pc, cfg.pairs[i]? = some pc ∧ pairMatches pc h.offer h.ask = true := by
  unfold resolve at hr
  obtain ⟨hlt, hp, _⟩ := List.findIdx?_eq_some_iff_getElem.mp hr
  exact ⟨cfg.pairs[i], by simp [hlt], hp⟩

theorem ask_of_matches {pc : PairCfg} {x y : Nat} {k : Bool} (hm : pairMatches pc x y = true)
    (hk : sideOf pc x = some k) : assetOf pc (!k) = y := by
  simp only [pairMatches, Bool.or_eq_true, Bool.and_eq_true, beq_iff_eq] at hm
  unfold sideOf at hk
  unfold assetOf
  split at hk
  · cases hk
    simp only [Bool.not_false, if_true]
    omega
  split at hk
  · cases hk
    simp only [Bool.not_true, Bool.false_eq_true, if_false]
    omega
  · cases hk

/-- router balances after a router-paid hop that swapped the router's whole balance `x` of `offer`:
    nothing of `offer` is left; the proceeds are added to the ask asset iff the hop is not the last -/
theorem executeSwap_router {cfg : Cfg} {s s' : St} {i : Nat} {h : Hop} {ms : Option Nat} {tr : Bool}
    {c : SwapComp} (hr : resolve cfg h = some i)
    (he : executeSwap cfg s i h.offer (s.router h.offer) ms true tr = .ok (s', c)) :
    s.router h.offer ≠ 0 ∧
    s'.router = set (set s.router h.offer 0) h.ask
      (if tr then set s.router h.offer 0 h.ask + c.ret else set s.router h.offer 0 h.ask) := by
  obtain ⟨pc, k, ps', rO, rA, hpc, hk, hsw, hrO, hrA, _, hrt⟩ := executeSwap_ok he
  obtain ⟨pc2, hpc2, hm⟩ := resolve_some hr
  rw [hpc] at hpc2
  injection hpc2 with hpc2
  subst hpc2
  have hask := ask_of_matches hm hk
  rw [hask] at hrA hrt
  simp only [payFrom, if_true, csub_eq_ok, Nat.sub_self] at hrO
  obtain ⟨-, rfl⟩ := hrO
  refine ⟨(swapCore_ok hsw).2.2, ?_⟩
  rw [hrt]
  cases tr <;> simp only [payTo, Bool.false_eq_true, if_true, if_false, cadd_eq_ok, Res.ok.injEq] at hrA ⊢
  · rw [hrA]
  · rw [hrA.2]

/-- a route that executed: its first hop resolved and executed, and the rest ran from there -/
theorem execHops_cons_ok {cfg : Cfg} {ms : Option Nat} {s s' : St} {h : Hop} {rest : List Hop}
    {x recv : Nat} (he : execHops cfg ms s (h :: rest) x = .ok (s', recv)) :
    ∃ i s1 c, resolve cfg h = some i
      ∧ executeSwap cfg s i h.offer (s.router h.offer) ms true (!rest.isEmpty) = .ok (s1, c)
      ∧ execHops cfg ms s1 rest c.ret = .ok (s', recv) := by
  unfold execHops at he
  split at he
  · cases he
  · rename_i i hres
    split at he
    · rename_i sc hsc
      exact ⟨i, sc.1, sc.2, hres, hsc, he⟩
    · cases he
    · cases he

theorem simulateOps_cons {cfg : Cfg} {s0 : St} {h : Hop} {i x : Nat} {c : SwapComp}
    (hres : resolve cfg h = some i) (hsim : simulate cfg s0 i h.offer x = .ok c) (rest : List Hop) :
    simulateOps cfg s0 (h :: rest) x = simulateOps cfg s0 rest c.ret := by
  simp only [simulateOps, hres, hsim]

theorem pairIds_cons {cfg : Cfg} {h : Hop} {i : Nat} (hres : resolve cfg h = some i)
    (rest : List Hop) : pairIds cfg (h :: rest) = i :: pairIds cfg rest := by
  unfold pairIds
  rw [List.filterMap_cons, hres]

/-- **one hop**: if the router holds the running amount `x` of `cur` and nothing else the route
    offers, an executed hop offered `x`, so its computation is the quote for `x` on any state with
    the same pool, and the router then holds the proceeds of the ask asset and nothing else the
    rest of the route offers -/
theorem execHop_sim {cfg : Cfg} {ms : Option Nat} {s s1 s0 : St} {h : Hop} {rest : List Hop}
    {i cur x : Nat} {c : SwapComp} (hres : resolve cfg h = some i)
    (hsc : executeSwap cfg s i h.offer (s.router h.offer) ms true (!rest.isEmpty) = .ok (s1, c))
    (hpool : s.pool i = s0.pool i)
    (hrt : ∀ h' ∈ h :: rest, s.router h'.offer = if h'.offer = cur then x else 0) :
    simulate cfg s0 i h.offer x = .ok c ∧
    ∀ h' ∈ rest, s1.router h'.offer = if h'.offer = h.ask then c.ret else 0 := by
  obtain ⟨hne, hrouter⟩ := executeSwap_router hres hsc
  -- the hop's offer asset is `cur`: the router holds none of any other
  have hx := hrt h (List.mem_cons_self ..)
  split at hx
  case isFalse => exact absurd hx hne
  rename_i hcur
  constructor
  · rw [← simulate_congr hpool h.offer x, ← hx]
    exact executeSwap_sim hsc
  · intro h' hh'
    -- once the offer is paid the router holds nothing of what the rest offers
    have hzero : set s.router h.offer 0 h'.offer = 0 := by
      by_cases hb : h'.offer = h.offer
      · rw [hb, set_same]
      · rw [set_other _ _ hb, hrt h' (List.mem_cons_of_mem _ hh'), if_neg (hcur ▸ hb)]
    rw [hrouter, List.isEmpty_eq_false_iff.mpr (List.ne_nil_of_mem hh'), Bool.not_false, if_pos rfl]
    by_cases ha : h'.offer = h.ask
    · rw [if_pos ha, ha, set_same, ← ha, hzero, Nat.zero_add]
    · rw [if_neg ha, set_other _ _ ha, hzero]

/-- **hop induction**: threading the real state through the hops gives, hop by hop, the amounts the
    stateless simulation computes on the initial state `s0` — provided no pair is visited twice
    (frame lemma) and the router holds exactly the running amount `x` of the asset `cur` it is
    about to offer and nothing of any other asset the remaining hops offer. -/
theorem execHops_sim (cfg : Cfg) (ms : Option Nat) (s0 : St) :
    ∀ (hops : List Hop) (s : St) (cur x : Nat) (s' : St) (recv : Nat),
      (pairIds cfg hops).Nodup →
      (∀ j ∈ pairIds cfg hops, s.pool j = s0.pool j) →
      (∀ h ∈ hops, s.router h.offer = if h.offer = cur then x else 0) →
      execHops cfg ms s hops x = .ok (s', recv) →
      simulateOps cfg s0 hops x = .ok recv := by
  intro hops
  induction hops with
  | nil =>
    intro s cur x s' recv _ _ _ he
    unfold execHops at he
    cases he
    rfl
  | cons h rest ih =>
    intro s cur x s' recv hnd hfr hrt he
    obtain ⟨i, s1, c, hres, hsc, he⟩ := execHops_cons_ok he
    rw [pairIds_cons hres] at hnd hfr
    obtain ⟨hnotin, hnd'⟩ := List.nodup_cons.mp hnd
    obtain ⟨hsim, hrt'⟩ := execHop_sim hres hsc (hfr i (List.mem_cons_self ..)) hrt
    rw [simulateOps_cons hres hsim]
    -- the pools of the remaining pairs are still those of `s0`: pair `i` is not among them
    refine ih s1 h.ask c.ret s' recv hnd' (fun j hj => ?_) hrt' he
    rw [executeSwap_frame hsc (ne_of_mem_of_not_mem hj hnotin)]
    exact hfr j (List.mem_cons_of_mem _ hj)

end Quotes
end WW
