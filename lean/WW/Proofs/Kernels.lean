/-
  Lemmas for the equivalence theorems `gen_*_eq_model` (`WW/Props/Kernels/*.lean`).  Core Lean only; `WW.Gen.K` is
  not mentioned here (the lemmas about one group of generated definitions are in
  `WW/Proofs/Kernels{Fees,Swap,Slippage,Vault}.lean`; `KernelsStable2Swap.lean` is of the kind of this file), so that
  a kernel that fails to translate breaks the obligations of ITS properties only.

  An equivalence is proved by bringing both sides to the same text.  Two spellings occur in the models: a
  sequence of statements (`do`), reached with the monad laws and the lemmas on the generated control flow;
  and a chain of tests with the failure first (`if a < b then panic else …`), reached with the `…_bind`
  lemmas, each of which turns a primitive and what follows it into one such test.

  NOTE: never let the kernel decide an `if … ≤ U256MAX` by evaluation (`rfl` / `decide` / `show` on terms
  that are not syntactically equal): `Nat.ble _ (2^256-1)` does not terminate in practice.
-/
import WW.Proofs.Res
import WW.Model.Weight
import WW.Model.Trio
import WW.Model.Stable2
namespace WW

theorem Res.bind_congr {α β : Type} {x : Res α} {f g : α → Res β} (h : ∀ a, f a = g a) :
    (x >>= f) = (x >>= g) :=
  congrArg _ (funext h)

/-- statements that apply `Res.bind` directly, brought to the `>>=` the lemmas are stated with -/
theorem Res.rbind_eq_bind {α β : Type} (x : Res α) (f : α → Res β) : x.bind f = (x >>= f) := rfl
theorem Res.rbind_ok {α β : Type} (a : α) (f : α → Res β) : (Res.ok a).bind f = f a := rfl
theorem Res.rbind_err {α β : Type} (f : α → Res β) : (Res.err : Res α).bind f = Res.err := rfl
theorem Res.rbind_panic {α β : Type} (f : α → Res β) : (Res.panic : Res α).bind f = Res.panic := rfl

/-- `Res.bind_ok` with a proof that is not `rfl`, so that `simp only` leaves a proof term: after a `rfl`-lemma it
    leaves none, and the kernel then has to find the definitional equality across the whole continuation again -/
theorem Res.bind_ok_s {α β : Type} (a : α) (f : α → Res β) : (Res.ok a >>= f) = f a := id rfl
theorem Res.bind_err_s {α β : Type} (f : α → Res β) : ((Res.err : Res α) >>= f) = Res.err := id rfl
theorem Res.bind_panic_s {α β : Type} (f : α → Res β) : ((Res.panic : Res α) >>= f) = Res.panic := id rfl

theorem Res.bind_ok_right {α : Type} (x : Res α) : (x >>= fun a => Res.ok a) = x := by
  cases x <;> rfl
theorem Res.bind_pure_s {α : Type} (x : Res α) : (x >>= fun a => pure a) = x := Res.bind_ok_right x
theorem Res.bind_unit_ok (x : Res Unit) : (x >>= fun _ => Res.ok ()) = x := Res.bind_ok_right x

theorem Res.ite_bind {α β : Type} {c : Prop} [Decidable c] (a b : Res α) (k : α → Res β) :
    ((if c then a else b) >>= k) = if c then a >>= k else b >>= k := by
  split <;> rfl

/-- carries a model result into the generated result type -/
def Res.mapTo {α β : Type} (f : α → β) (x : Res α) : Res β := x >>= fun a => pure (f a)

/-- the generated `if c { return Err(..) }` statement against the model's `guardErr` -/
theorem ite_err_eq_guardErr (p : Prop) [Decidable p] :
    (if p then (Res.err : Res Unit) else Res.ok ()) = guardErr (!decide p) := by
  by_cases h : p
  · rw [if_pos h, decide_eq_true h]; rfl
  · rw [if_neg h, decide_eq_false h]; rfl

/-- a whole generated one-test validator: `if p { return Err(..) } Ok(())` -/
theorem validator_shape (p : Prop) [Decidable p] :
    ((if p then (Res.err : Res Unit) else Res.ok ()) >>= fun _ => Res.ok ()) = guardErr (!(decide p)) := by
  rw [Res.bind_unit_ok, ite_err_eq_guardErr]

theorem ite_err_pos {c : Prop} [Decidable c] (h : c) :
    (if c then (Res.err : Res Unit) else Res.ok ()) = Res.err := if_pos h
theorem ite_err_neg {c : Prop} [Decidable c] (h : ¬ c) :
    (if c then (Res.err : Res Unit) else Res.ok ()) = Res.ok () := if_neg h

/-- the translator's rendering of `a && b` with an effectful `b`, followed by its consumer -/
theorem and_shortcircuit {α β : Type} {c : Prop} [Decidable c] (x : Res α) (q : α → Prop)
    [DecidablePred q] (k : Bool → Res β) :
    ((if c then (x >>= fun t => pure (decide (q t))) else pure false) >>= k)
      = if c then (x >>= fun t => k (decide (q t))) else k false := by
  rw [Res.ite_bind, Res.bind_assoc']
  rfl

/-- the translator's rendering of `a || b` with an effectful `b`, followed by its consumer -/
theorem or_shortcircuit {α β : Type} {c : Prop} [Decidable c] (x : Res α) (q : α → Prop)
    [DecidablePred q] (k : Bool → Res β) :
    ((if c then pure true else (x >>= fun t => pure (decide (q t)))) >>= k)
      = if c then k true else (x >>= fun t => k (decide (q t))) := by
  rw [Res.ite_bind, Res.bind_assoc']
  rfl

/-! ### a primitive and what follows it as one test, the failure first -/

theorem ite_le_flip {α : Type} (a m : Nat) (x y : α) : (if a ≤ m then x else y) = if a > m then y else x := by
  by_cases h : a ≤ m
  · rw [if_pos h, if_neg (Nat.not_lt.mpr h)]
  · rw [if_neg h, if_pos (Nat.lt_of_not_le h)]

theorem cadd_bind {α : Type} (m a b : Nat) (k : Nat → Res α) :
    (cadd m a b >>= k) = if a + b > m then Res.err else k (a + b) := by
  unfold cadd
  rw [Res.ite_bind, ite_le_flip]
  rfl

theorem padd_bind {α : Type} (m a b : Nat) (k : Nat → Res α) :
    (padd m a b >>= k) = if a + b > m then Res.panic else k (a + b) := by
  unfold padd
  rw [Res.ite_bind, ite_le_flip]
  rfl

theorem psub_bind {α : Type} (a b : Nat) (k : Nat → Res α) :
    (psub a b >>= k) = if a < b then Res.panic else k (a - b) := by
  unfold psub
  rw [Res.ite_bind, ite_le_flip]
  rfl

theorem cadd_cadd_cadd {α : Type} (m a p f b : Nat) (k : Nat → Res α) :
    (cadd m a p >>= fun t => cadd m t f >>= fun t => cadd m t b >>= k)
      = if a + p + f + b ≤ m then k (a + p + f + b) else Res.err := by
  unfold cadd
  by_cases h1 : a + p ≤ m
  · rw [if_pos h1, Res.bind_ok_s]
    by_cases h2 : a + p + f ≤ m
    · rw [if_pos h2, Res.bind_ok_s]
      by_cases h3 : a + p + f + b ≤ m
      · rw [if_pos h3, if_pos h3, Res.bind_ok_s]
      · rw [if_neg h3, if_neg h3, Res.bind_err_s]
    · rw [if_neg h2, Res.bind_err_s, if_neg fun h => h2 (Nat.le_trans (Nat.le_add_right _ b) h)]
  · rw [if_neg h1, Res.bind_err_s,
      if_neg fun h => h1 (Nat.le_trans (Nat.le_add_right _ f) (Nat.le_trans (Nat.le_add_right _ b) h))]

theorem csub_chain {α : Type} {n a p f b : Nat} (h : a + p + f + b ≤ n) (k : Nat → Res α) :
    (csub n a >>= fun t => csub t p >>= fun t => csub t f >>= fun t => csub t b >>= k)
      = k (n - a - p - f - b) := by
  -- the four side conditions one after the other; `omega` is slow on the nested truncated subtractions
  rw [Nat.add_assoc, Nat.add_assoc] at h
  have h1 : p + (f + b) ≤ n - a := Nat.le_sub_of_add_le' h
  have h2 : f + b ≤ n - a - p := Nat.le_sub_of_add_le' h1
  unfold csub
  rw [if_pos (Nat.le_trans (Nat.le_add_right _ _) h), Res.bind_ok_s,
    if_pos (Nat.le_trans (Nat.le_add_right _ _) h1), Res.bind_ok_s,
    if_pos (Nat.le_trans (Nat.le_add_right _ _) h2), Res.bind_ok_s,
    if_pos (Nat.le_sub_of_add_le' h2), Res.bind_ok_s]

/-- a checked addition in front of a refusal changes nothing: its own failure is `Err` too -/
theorem cadd_bind_err {α : Type} (max a b : Nat) : (cadd max a b >>= fun _ => (Res.err : Res α)) = Res.err := by
  unfold cadd; split <;> rfl

/-- `if a > b { a - b } else { b - a }` on unchecked operators never panics -/
theorem guarded_absdiff (a b : Nat) :
    (if a > b then psub a b else psub b a) = Res.ok (if a > b then a - b else b - a) := by
  unfold psub
  by_cases h : a > b
  · rw [if_pos h, if_pos h, if_pos (Nat.le_of_lt h)]
  · rw [if_neg h, if_neg h, if_pos (Nat.le_of_not_lt h)]

theorem unwrapPanic_ok {α : Type} (a : α) : unwrapPanic (Res.ok a) = Res.ok a := rfl
theorem unwrapPanic_idem {α : Type} (x : Res α) : unwrapPanic (unwrapPanic x) = unwrapPanic x := by
  cases x <;> rfl
theorem unwrapPanic_eq_unwrapP {α : Type} (x : Res α) : unwrapPanic x = Trio.unwrapP x := by
  cases x <;> rfl

theorem unwrapPanic_bind {α β : Type} (x : Res α) (f : α → Res β) :
    unwrapPanic (x >>= f) = (unwrapPanic x >>= fun a => unwrapPanic (f a)) := by
  cases x <;> rfl

/-- every checked or unchecked primitive is one test; `.unwrap()` goes into its branches, where it turns an
    `err` into a `panic` and leaves the rest -/
theorem unwrapPanic_ite {α : Type} {c : Prop} [Decidable c] (x y : Res α) :
    unwrapPanic (if c then x else y) = if c then unwrapPanic x else unwrapPanic y := by
  split <;> rfl

/-! `x.checked_op(y).unwrap()` is the panicking operator; on a panicking operator `.unwrap()` does nothing -/

theorem unwrapPanic_cmul (m a b : Nat) : unwrapPanic (cmul m a b) = pmul m a b := unwrapPanic_ite _ _
theorem unwrapPanic_cadd (m a b : Nat) : unwrapPanic (cadd m a b) = padd m a b := unwrapPanic_ite _ _
theorem unwrapPanic_csub (a b : Nat) : unwrapPanic (csub a b) = psub a b := unwrapPanic_ite _ _
/-- the Trio model has a `pdiv` of its own, the pair's Stable2 model uses the one of `WW/Cw/Arith.lean` -/
theorem unwrapPanic_cdiv (a b : Nat) : unwrapPanic (cdiv a b) = Trio.pdiv a b := unwrapPanic_ite _ _
theorem unwrapPanic_cdiv_arith (a b : Nat) : unwrapPanic (cdiv a b) = pdiv a b := unwrapPanic_ite _ _
theorem unwrapPanic_narrowTo (m a : Nat) :
    unwrapPanic (narrowTo m a) = if a ≤ m then Res.ok a else Res.panic := unwrapPanic_ite _ _
theorem unwrapPanic_narrowTo_128 (a : Nat) : unwrapPanic (narrowTo U128MAX a) = Trio.to128P a :=
  unwrapPanic_ite _ _
theorem unwrapPanic_pmul (m a b : Nat) : unwrapPanic (pmul m a b) = pmul m a b := unwrapPanic_ite _ _
theorem unwrapPanic_padd (m a b : Nat) : unwrapPanic (padd m a b) = padd m a b := unwrapPanic_ite _ _
theorem unwrapPanic_psub (a b : Nat) : unwrapPanic (psub a b) = psub a b := unwrapPanic_ite _ _
theorem unwrapPanic_pdiv (a b : Nat) : unwrapPanic (pdiv a b) = pdiv a b := unwrapPanic_ite _ _

theorem dec256MulC_eq_dmulC (a b : Nat) : dec256MulC a b = dmulC a b := rfl
theorem dec256DivC_eq_ddivC (a b : Nat) : dec256DivC a b = ddivC a b := rfl
theorem narrowTo_128 (a : Nat) : narrowTo U128MAX a = to128 a := rfl
theorem narrowTo_64 (a : Nat) : narrowTo U64MAX a = Trio.to64 a := rfl
theorem optErr_some {α : Type} (a : α) : optErr (some a) = Res.ok a := rfl
theorem optErr_none {α : Type} : optErr (none : Option α) = Res.err := rfl
/-- the translator writes `Decimal::min` as `min`, the slippage model `Nat.min` -/
theorem k_min_eq (a b : Nat) : min a b = Nat.min a b := rfl

/-- `Decimal::percent(100)` is one -/
theorem percent_100 : 100 * 10000000000000000 = E18 := by decide
theorem ppow_10_18 : ppow U128MAX 10 18 = .ok E18 := by
  unfold ppow
  rw [if_pos (by decide)]
  rfl
/-- `N_COINS.checked_add(1)?` with `N_COINS: u8 = 3` -/
theorem cadd_u8_3_1 : cadd U8MAX 3 1 = .ok 4 := by
  unfold cadd
  rw [if_pos (by decide)]
/-- `n_coins.u128() as u64` (the translator renders the cast as `% 2^64`) and
    `n_coins.checked_add(1u128.into()).unwrap()`, for two coins -/
theorem two_as_u64 : 2 % 18446744073709551616 = 2 := by decide
theorem padd_u128_2_1 : padd U128MAX 2 1 = .ok (2 + 1) := by
  unfold padd
  rw [if_pos (by decide)]

theorem mulDec_le (a d : Nat) (h : d ≤ E18) : a * d / E18 ≤ a := mul_div_le_of_le h

theorem fromRatio_le_one (x y : Nat) (h : x ≤ y) : x * E18 / y ≤ E18 := by
  apply Nat.div_le_of_le_mul
  rw [Nat.mul_comm y E18, Nat.mul_comm x E18]
  exact Nat.mul_le_mul_left E18 h

/-- `Decimal256::from_atomics(v, 0).unwrap()` is the panicking multiplication by 10^18 -/
theorem unwrapPanic_fromAtomics_zero (v : Nat) :
    unwrapPanic (dec256FromAtomics v 0) = pmul U256MAX v E18 := by
  unfold dec256FromAtomics dec256WithPrecision
  rw [if_pos (by decide : 0 < 18), show (10 : Nat) ^ (18 - 0) = E18 from by decide, unwrapPanic_cmul]

theorem dec256PowLoop_succ (fuel x y n : Nat) : dec256PowLoop (fuel + 1) x y n =
    if n ≤ 1 then dec256Mul x y
    else if n % 2 = 0 then
      (dec256MulC x x).bind fun x2 => dec256PowLoop fuel x2 y (n / 2)
    else
      (dec256MulC x y).bind fun y2 => (dec256MulC x x).bind fun x2 =>
        dec256PowLoop fuel x2 y2 ((n - 1) / 2) := by
  rw [dec256PowLoop]

/-- `checked_pow(2)`: one checked squaring, then the final unchecked `x * one` -/
theorem dec256PowC_two (x : Nat) :
    dec256PowC x 2 = (dmulC x x >>= fun s => dmulP s E18) := by
  unfold dec256PowC
  rw [if_neg (by decide : ¬ (2 = 0)), dec256PowLoop_succ 1, if_neg (by decide : ¬ (1 + 1 ≤ 1)),
    if_pos (by decide : (1 + 1) % 2 = 0)]
  refine Res.bind_congr fun s => ?_
  rw [dec256PowLoop_succ 0, if_pos (by decide : (1 + 1) / 2 ≤ 1)]
  rfl

/-! ### the termination test of the Newton loops
    (`if y > y_prev { if y - y_prev <= 1 { break } } else if y_prev - y <= 1 { break }`) -/

/-- against the spelling of `WW.computeDLoop` -/
theorem newton_tail_lt {α : Type} (a b : Nat) (done next : Res α) :
    (if a > b then (psub a b >>= fun t => if t ≤ 1 then done else next)
     else (psub b a >>= fun t => if t ≤ 1 then done else next))
      = if b < a then (if a - b ≤ 1 then done else next) else (if b - a ≤ 1 then done else next) := by
  unfold psub
  by_cases h : a > b
  · rw [if_pos h, if_pos h, if_pos (Nat.le_of_lt h), Res.bind_ok_s]
  · rw [if_neg h, if_neg h, if_pos (Nat.le_of_not_lt h), Res.bind_ok_s]

/-- against the Trio model's `close1` -/
theorem newton_tail {α : Type} (a b : Nat) (done next : Res α) :
    (if a > b then (psub a b >>= fun t => if t ≤ 1 then done else next)
     else (psub b a >>= fun t => if t ≤ 1 then done else next))
      = if Trio.close1 a b = true then done else next := by
  rw [newton_tail_lt]
  unfold Trio.close1
  by_cases h : a > b
  · simp only [if_pos h, decide_eq_true_eq]
  · simp only [if_neg h, decide_eq_true_eq]

end WW
