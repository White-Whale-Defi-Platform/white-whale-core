/- The claim loop of the incentive model, iteration by iteration (with the adding step of the rewards query
   beside its paying step), what the claim's messages carry (`msgSum`), and the last-claimed record: who writes
   it and that a second claim in the same epoch is refused (C13 claim clauses). -/
import WW.Proofs.Incentive
namespace WW.Inc
open WW WW.Gen

/-- the emission `claim.rs` computes for flow `f` in epoch `ep` given the emitted-tokens ledger `em`:
    `(funded as of ep − emitted before ep) / (end as of ep − ep)` -/
def emissionWith (f : Flow) (em : List (Nat × Nat)) (ep : Nat) : Nat :=
  (f.amountAt ep - (if em.isEmpty then 0 else aget em (ep - 1))) / (f.endAt ep - ep)

def emissionOf (f : Flow) (ep : Nat) : Nat := emissionWith f f.emitted ep

theorem emissionStep_spec {f : Flow} {em em' : List (Nat × Nat)} {ep x : Nat}
    (h : emissionStep f em ep = .ok (x, em')) : x = emissionWith f em ep := by
  unfold emissionStep at h
  simp only [] at h
  split at h
  · rename_i diff hd
    split at h
    · rename_i emission he
      obtain ⟨_, rfl⟩ := psub_eq_ok.mp hd
      obtain ⟨_, rfl⟩ := cdiv_eq_ok.mp he
      -- recorded or not, the emission is returned as computed
      split at h
      · cases h; rfl
      · split at h
        · cases h; rfl
        · cases h
        · cases h
    · cases h
    · cases h
  · cases h
  · cases h

/-- the loop state of `claim.rs` after `reward` was paid out of the flow -/
def ClaimLoop.pay (st : ClaimLoop) (u reward : Nat) : ClaimLoop :=
  if reward = 0 then st
  else { st with flow := { st.flow with claimed := st.flow.claimed + reward },
                 msgs := st.msgs ++ [.send INC u st.flow.asset reward] }

theorem ClaimLoop.pay_claimed (st : ClaimLoop) (u r : Nat) :
    (st.pay u r).flow.claimed = st.flow.claimed + r := by
  unfold ClaimLoop.pay; split <;> simp [*]

theorem ClaimLoop.pay_msgs (st : ClaimLoop) (u r : Nat) :
    (st.pay u r).msgs = st.msgs ++ if r = 0 then [] else [Msg.send INC u st.flow.asset r] := by
  unfold ClaimLoop.pay; split <;> simp

/-- amounts carried by the transfer messages -/
def msgSum : List Msg → Nat
  | [] => 0
  | .send _ _ _ amt :: t => amt + msgSum t
  | .pull _ _ _ amt :: t => amt + msgSum t

theorem msgSum_append (a b : List Msg) : msgSum (a ++ b) = msgSum a + msgSum b := by
  induction a with
  | nil => exact (Nat.zero_add _).symm
  | cons m t ih =>
    cases m <;>
      (show _ + msgSum (t ++ b) = _ + msgSum t + msgSum b
       rw [ih, Nat.add_assoc])

theorem msgSum_payment (src dst a r : Nat) : msgSum (if r = 0 then [] else [Msg.send src dst a r]) = r := by
  split
  · rename_i h; exact h.symm
  · exact Nat.add_zero r

/-- the paying part of an iteration never stops the loop; it pays the reward computed for the epoch,
    which passed the two sanity checks (nothing is computed while the epoch's global weight is `0`) -/
theorem claimPay_ok {u expAmt : Nat} {st : ClaimLoop} {emission uw g : Nat} {i : Iter ClaimLoop}
    (h : claimPay u expAmt st emission uw g = .ok i) :
    ∃ reward, i = .next (st.pay u reward)
      ∧ (g = 0 ∧ reward = 0
        ∨ g ≠ 0 ∧ rewardOf emission uw g = .ok reward ∧ reward ≤ emission
          ∧ reward + st.flow.claimed ≤ expAmt ∧ reward + st.flow.claimed ≤ U128MAX) := by
  unfold claimPay at h
  split at h
  · rename_i hg
    cases h
    exact ⟨0, rfl, Or.inl ⟨hg, rfl⟩⟩
  rename_i hg
  split at h
  · rename_i reward hr
    split at h
    · rename_i tot ht
      obtain ⟨hle, rfl⟩ := cadd_eq_ok.mp ht
      split at h
      · cases h
      rename_i hchk
      simp only [Bool.or_eq_true, decide_eq_true_eq, not_or, not_lt] at hchk
      refine ⟨reward, ?_, Or.inr ⟨hg, hr, hchk.1, hchk.2, hle⟩⟩
      -- the second addition is the first with the summands exchanged
      rw [cadd_ok (Nat.add_comm _ _ ▸ hle)] at h
      unfold ClaimLoop.pay
      by_cases h0 : reward = 0
      · rw [if_pos h0] at h ⊢; cases h; rfl
      · rw [if_neg h0] at h ⊢; cases h; rfl
    · cases h
    · cases h
  · cases h
  · cases h

/-- the adding part of an iteration of the rewards query never stops the loop and moves the total only -/
theorem rewardsAdd_ok {f : Flow} {expAmt : Nat} {rt : RewLoop} {emission uw g : Nat} {i : Iter RewLoop}
    (h : rewardsAdd f expAmt rt emission uw g = .ok i) : ∃ t, i = .next { rt with total := t } := by
  unfold rewardsAdd at h
  split at h
  · cases h; exact ⟨rt.total, rfl⟩
  · split at h
    · split at h
      · split at h
        · cases h
        · split at h
          · cases h; exact ⟨_, rfl⟩
          · cases h
          · cases h
      · cases h
      · cases h
    · cases h
    · cases h

def iterSt : Iter ClaimLoop → ClaimLoop
  | .next a => a
  | .stop a => a

/-- one iteration of the epoch loop: the counter goes up, the weight cursor and the emitted-tokens
    ledger may move, and some reward — at most the epoch's emission, never lifting `claimed` over
    `expAmt` — is paid -/
theorem claimEpoch_ok {s : St} {u expAmt expEnd ep : Nat} {st : ClaimLoop} {i : Iter ClaimLoop}
    (h : claimEpoch s u expAmt expEnd st ep = .ok i) :
    ∃ em lu ls reward,
      iterSt i = ClaimLoop.pay { st with flow := { st.flow with emitted := em }, lastUpd := lu, lastSeen := ls,
                                         count := st.count + 1 } u reward
      ∧ reward ≤ emissionOf st.flow ep
      ∧ (st.flow.claimed ≤ expAmt → st.flow.claimed + reward ≤ expAmt)
      ∧ (∀ st', i = .next st' → lu = (weightAt s u ep st.lastUpd st.lastSeen).1
          ∧ ls = (weightAt s u ep st.lastUpd st.lastSeen).2.1) := by
  unfold claimEpoch at h
  simp only [] at h
  -- the four ways out that pay nothing, then the paying step
  split at h
  · cases h
    exact ⟨st.flow.emitted, st.lastUpd, st.lastSeen, 0, rfl, Nat.zero_le _, id, fun _ hn => by cases hn⟩
  split at h
  · cases h
    exact ⟨st.flow.emitted, _, _, 0, rfl, Nat.zero_le _, id, fun _ _ => ⟨rfl, rfl⟩⟩
  split at h
  · cases h
    exact ⟨st.flow.emitted, st.lastUpd, st.lastSeen, 0, rfl, Nat.zero_le _, id, fun _ hn => by cases hn⟩
  split at h
  · rename_i emission em hes
    split at h
    · cases h
      exact ⟨em, _, _, 0, rfl, Nat.zero_le _, id, fun _ _ => ⟨rfl, rfl⟩⟩
    · obtain ⟨reward, rfl, hr⟩ := claimPay_ok h
      have hb : reward ≤ emission ∧ (st.flow.claimed ≤ expAmt → st.flow.claimed + reward ≤ expAmt) := by
        rcases hr with ⟨_, rfl⟩ | ⟨_, _, hle, hb, _⟩
        · exact ⟨Nat.zero_le _, id⟩
        · exact ⟨hle, fun _ => Nat.add_comm _ _ ▸ hb⟩
      rw [emissionStep_spec hes] at hb
      exact ⟨em, _, _, reward, rfl, hb.1, hb.2, fun _ _ => ⟨rfl, rfl⟩⟩
  · cases h
  · cases h

theorem claimEpoch_spec {s : St} {u expAmt expEnd ep : Nat} {st st' : ClaimLoop}
    (h : claimEpoch s u expAmt expEnd st ep = .ok (.next st')) :
    st.flow.claimed ≤ st'.flow.claimed
    ∧ st'.flow.claimed - st.flow.claimed ≤ emissionOf st.flow ep
    ∧ (st.flow.claimed ≤ expAmt → st'.flow.claimed ≤ expAmt)
    ∧ st'.flow.asset = st.flow.asset
    ∧ st'.msgs = st.msgs ++ (if st'.flow.claimed = st.flow.claimed then []
        else [Msg.send INC u st.flow.asset (st'.flow.claimed - st.flow.claimed)]) := by
  obtain ⟨em, lu, ls, reward, hi, hle, hb, -⟩ := claimEpoch_ok h
  have hi : st' = _ := hi
  subst hi
  rw [ClaimLoop.pay_claimed, ClaimLoop.pay_msgs, Nat.add_sub_cancel_left]
  refine ⟨Nat.le_add_right _ _, hle, hb, ?_, congrArg _ (if_congr Nat.add_eq_left.symm rfl rfl)⟩
  unfold ClaimLoop.pay; split <;> rfl

/-- `claim` over the list of flows, one flow at a time: a flow that has not started is kept as it is -/
theorem claimFlows_cons_ok {s : St} {u epoch : Nat} {f : Flow} {t fl' : List Flow} {msgs : List Msg}
    (h : claimFlows s u epoch (f :: t) = .ok (fl', msgs)) :
    ∃ f' m t' m', claimFlows s u epoch t = .ok (t', m') ∧ fl' = f' :: t' ∧ msgs = m ++ m'
      ∧ (f.startE ≤ epoch ∧ claimFlow s u epoch f = .ok (f', m) ∨ ¬ f.startE ≤ epoch ∧ f' = f ∧ m = []) := by
  unfold claimFlows at h
  by_cases hav : f.startE ≤ epoch
  · rw [if_pos hav] at h
    cases hcf : claimFlow s u epoch f with
    | err => rw [hcf] at h; cases h
    | panic => rw [hcf] at h; cases h
    | ok r =>
      rw [hcf] at h
      cases hct : claimFlows s u epoch t with
      | err => rw [hct] at h; cases h
      | panic => rw [hct] at h; cases h
      | ok r' => rw [hct] at h; cases h; exact ⟨r.1, r.2, r'.1, r'.2, rfl, rfl, rfl, Or.inl ⟨hav, rfl⟩⟩
  · rw [if_neg hav] at h
    cases hct : claimFlows s u epoch t with
    | err => rw [hct] at h; cases h
    | panic => rw [hct] at h; cases h
    | ok r' => rw [hct] at h; cases h; exact ⟨f, [], r'.1, r'.2, rfl, rfl, rfl, Or.inr ⟨hav, rfl, rfl⟩⟩

/-! ### `LAST_CLAIMED_EPOCH` is only written by the claimer's own successful claim -/

theorem handler_lastClaimed {c : Cfg} {s s' : St} {e : Env} {op : Op} {m : List Msg} (u : Addr)
    (hne : ¬ (op = .claim ∧ e.sender = u)) (h : handler c s e op = .ok (s', m)) :
    alook s'.lastClaimed u = alook s.lastClaimed u := by
  cases op with
  | openPos amt dur recv => obtain ⟨_, rfl, -⟩ := openPosition_ok rfl h; rfl
  | expandPos amt dur recv => obtain ⟨_, _, _, _, rfl, -⟩ := expandPosition_ok rfl h; rfl
  | closePos dur => obtain ⟨_, _, _, rfl, -⟩ := closePosition_ok h; rfl
  | withdraw => obtain ⟨rfl, -⟩ := withdrawOp_ok h; rfl
  | snapshot => rw [(takeSnapshot_ok h).1]
  | openFlow a amt st en => obtain ⟨_, _, _, _, _, rfl, -⟩ := openFlow_ok h; rfl
  | expandFlow id a amt en => obtain ⟨_, _, _, rfl, -⟩ := expandFlow_ok h; rfl
  | closeFlow id => obtain ⟨_, rfl, -⟩ := closeFlow_ok h; rfl
  | helperDeposit a0 a1 dur => cases h
  | helperDepositAs x0 x1 a0 a1 dur => cases h
  | claim =>
    obtain ⟨_, rfl, -⟩ := claimCore_ok (claimExec_ok h).2
    exact alook_aset_other _ _ (fun he => hne ⟨rfl, he.symm⟩)

theorem step_lastClaimed {c : Cfg} {s s' : St} {e : Env} {op : Op} (u : Addr)
    (hne : ¬ (op = .claim ∧ e.sender = u)) (h : step c s e op = .ok s') :
    alook s'.lastClaimed u = alook s.lastClaimed u := by
  obtain ⟨e', op', b, s1, msgs, b1, hc, h1, -, rfl⟩ := step_ok h
  refine handler_lastClaimed (s := { s with bal := b }) (s' := s1) u (fun hn => hne ?_) h1
  cases hc
  · exact hn
  all_goals cases hn.1

theorem step_claim_records {c : Cfg} {s s' : St} {e : Env} (h : step c s e .claim = .ok s') :
    alook s'.lastClaimed e.sender = some e.epoch := by
  obtain ⟨_, _, b, s1, msgs, b1, hc, h1, -, rfl⟩ := step_ok h
  cases hc
  obtain ⟨_, rfl, -⟩ := claimCore_ok (claimExec_ok h1).2
  exact alook_aset_same _ _ _

theorem attachFunds_ne_panic {c : Cfg} {x y : Addr} (l : List (Nat × Nat)) (b : Bal) :
    attachFunds c b x y l ≠ .panic := by
  induction l generalizing b with
  | nil => intro h; cases h
  | cons p t ih =>
    unfold attachFunds
    split
    · split
      · intro h; cases h
      · exact ih _
    · exact ih _

theorem step_claim_err {c : Cfg} {s : St} {e : Env} (h : alook s.lastClaimed e.sender = some e.epoch) :
    step c s e .claim = .err := by
  unfold step
  simp only
  cases hb : attachFunds c s.bal e.sender INC (fundsOf c e.offers) with
  | ok b =>
    rw [Res.bind_ok]
    have : handler c { s with bal := b } e .claim = .err := by
      show claimExec { s with bal := b } e = .err
      unfold claimExec
      split
      · rfl
      · unfold claimCore; rw [if_pos h]
    rw [this]; rfl
  | err => rfl
  | panic => exact absurd hb (attachFunds_ne_panic _ _)

theorem claim_twice_err (c : Cfg) (s : St) (e : Env) (s1 : St) (h1 : step c s e .claim = .ok s1)
    (others : List (Env × Op))
    (hep : ∀ p ∈ others, p.2 = .claim → p.1.sender = e.sender → p.1.epoch = e.epoch)
    (e2 : Env) (hs : e2.sender = e.sender) (he : e2.epoch = e.epoch) :
    step c (reach c s1 others) e2 .claim = .err := by
  -- the record `(e.sender ↦ e.epoch)` survives `others`: the address's own claims of that epoch are
  -- rejected and nothing else writes it
  have key : ∀ (l : List (Env × Op)) (t : St), alook t.lastClaimed e.sender = some e.epoch →
      (∀ p ∈ l, p.2 = .claim → p.1.sender = e.sender → p.1.epoch = e.epoch) →
      alook (reach c t l).lastClaimed e.sender = some e.epoch := by
    intro l
    induction l with
    | nil => intro t ht _; exact ht
    | cons p l ih =>
      intro t ht hl
      obtain ⟨e', op⟩ := p
      refine ih _ ?_ (fun p hp => hl p (List.mem_cons_of_mem _ hp))
      unfold stepOrStay
      split
      · rename_i t' hstep
        by_cases hc : op = .claim ∧ e'.sender = e.sender
        · have hepo := hl (e', op) List.mem_cons_self hc.1 hc.2
          rw [hc.1, step_claim_err (by rw [hc.2, hepo]; exact ht)] at hstep
          cases hstep
        · rw [step_lastClaimed e.sender hc hstep]; exact ht
      · exact ht
  apply step_claim_err
  rw [hs, he]
  exact key others s1 (step_claim_records h1) hep

end WW.Inc
