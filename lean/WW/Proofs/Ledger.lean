/- Token-ledger bookkeeping for the incentive model: what a list of messages / attached funds does to
   the balance of one account in one asset (used by C11 custody and C12 backing). -/
import WW.Proofs.Flows
namespace WW.Inc
open WW WW.Gen

/-- what message `m` brings into the balance of account `X` in asset `a` (a self-transfer brings nothing) -/
def msgIn (X : Addr) (a : Nat) : Msg → Nat
  | .send src dst a' amt => if dst = X ∧ src ≠ X ∧ a' = a then amt else 0
  | .pull src dst a' amt => if dst = X ∧ src ≠ X ∧ a' = a then amt else 0

/-- what message `m` takes out of the balance of account `X` in asset `a` -/
def msgOut (X : Addr) (a : Nat) : Msg → Nat
  | .send src dst a' amt => if src = X ∧ dst ≠ X ∧ a' = a then amt else 0
  | .pull src dst a' amt => if src = X ∧ dst ≠ X ∧ a' = a then amt else 0

def insOf (X : Addr) (a : Nat) : List Msg → Nat
  | [] => 0
  | m :: t => msgIn X a m + insOf X a t

def outsOf (X : Addr) (a : Nat) : List Msg → Nat
  | [] => 0
  | m :: t => msgOut X a m + outsOf X a t

theorem insOf_append (X : Addr) (a : Nat) (l1 l2 : List Msg) :
    insOf X a (l1 ++ l2) = insOf X a l1 + insOf X a l2 := by
  induction l1 with
  | nil => simp [insOf]
  | cons m t ih => simp only [List.cons_append, insOf, ih]; omega

theorem outsOf_append (X : Addr) (a : Nat) (l1 l2 : List Msg) :
    outsOf X a (l1 ++ l2) = outsOf X a l1 + outsOf X a l2 := by
  induction l1 with
  | nil => simp [outsOf]
  | cons m t ih => simp only [List.cons_append, outsOf, ih]; omega

/-- native funds of asset `a` in a funds list -/
def att (c : Cfg) (a : Nat) : List (Nat × Nat) → Nat
  | [] => 0
  | p :: t => (if c.native p.1 = true ∧ p.1 = a then p.2 else 0) + att c a t

theorem moveBal_eff {b : Bal} {src dst : Addr} {a' amt : Nat} (X : Addr) (a : Nat)
    (hle : amt ≤ aget b (src, a')) :
    aget (moveBal b src dst a' amt) (X, a) + (if src = X ∧ dst ≠ X ∧ a' = a then amt else 0)
      = aget b (X, a) + (if dst = X ∧ src ≠ X ∧ a' = a then amt else 0) := by
  by_cases hsd : src = dst
  · subst hsd
    have h1 : ¬ (src = X ∧ src ≠ X ∧ a' = a) := fun h => h.2.1 h.1
    rw [if_neg h1]
    unfold moveBal
    simp only
    by_cases hk : (X, a) = (src, a')
    · rw [hk, aget_aset_same, aget_aset_same]; omega
    · rw [aget_aset_other _ _ hk, aget_aset_other _ _ hk]
  · by_cases hs : (X, a) = (src, a')
    · injection hs with hs1 hs2
      subst hs1 hs2
      rw [moveBal_src hsd]
      have h1 : (X = X ∧ dst ≠ X ∧ a = a) := ⟨rfl, fun h => hsd h.symm, rfl⟩
      have h2 : ¬ (dst = X ∧ X ≠ X ∧ a = a) := fun h => h.2.1 rfl
      rw [if_pos h1, if_neg h2]; omega
    · by_cases hd : (X, a) = (dst, a')
      · injection hd with hd1 hd2
        subst hd1 hd2
        rw [moveBal_dst hsd]
        have h1 : ¬ (src = X ∧ X ≠ X ∧ a = a) := fun h => h.2.1 rfl
        have h2 : (X = X ∧ src ≠ X ∧ a = a) := ⟨rfl, hsd, rfl⟩
        rw [if_neg h1, if_pos h2]; omega
      · rw [moveBal_other hs hd]
        have h1 : ¬ (src = X ∧ dst ≠ X ∧ a' = a) := fun h => hs (by rw [h.1, h.2.2])
        have h2 : ¬ (dst = X ∧ src ≠ X ∧ a' = a) := fun h => hd (by rw [h.1, h.2.2])
        rw [if_neg h1, if_neg h2]

theorem applyMsg_eff {c : Cfg} {b b' : Bal} {al al' : List (Nat × Nat)} {m : Msg} (X : Addr) (a : Nat)
    (h : applyMsg c b al m = .ok (b', al')) :
    aget b' (X, a) + msgOut X a m = aget b (X, a) + msgIn X a m := by
  obtain ⟨src, dst, a', amt, hm, rfl, hle⟩ := applyMsg_ok h
  rcases hm with rfl | rfl <;> exact moveBal_eff X a hle

theorem applyMsgs_eff {c : Cfg} (X : Addr) (a : Nat) :
    ∀ (msgs : List Msg) (b b' : Bal) (al : List (Nat × Nat)), applyMsgs c b al msgs = .ok b' →
      aget b' (X, a) + outsOf X a msgs = aget b (X, a) + insOf X a msgs := by
  intro msgs
  induction msgs with
  | nil =>
    intro b b' al h
    unfold applyMsgs at h
    injection h with h; subst h; rfl
  | cons m t ih =>
    intro b b' al h
    unfold applyMsgs at h
    split at h
    · rename_i b1 al1 hm
      have h1 := applyMsg_eff X a hm
      have h2 := ih b1 b' al1 h
      simp only [outsOf, insOf]
      omega
    · cases h
    · cases h

private theorem ite_and_add {P R : Prop} [Decidable P] [Decidable R] (v t : Nat) :
    (if P ∧ R then v else 0) + (if P then t else 0) = if P then (if R then v else 0) + t else 0 := by
  by_cases hP : P <;> by_cases hR : R <;> simp [hP, hR]

/-- funds attached by `x` to a call of `y`, seen from account `X` in asset `a` -/
theorem attachFunds_eff {c : Cfg} {x y : Addr} (X : Addr) (a : Nat) :
    ∀ (funds : List (Nat × Nat)) (b b' : Bal), attachFunds c b x y funds = .ok b' →
      aget b' (X, a) + (if x = X ∧ y ≠ X then att c a funds else 0)
        = aget b (X, a) + (if y = X ∧ x ≠ X then att c a funds else 0) := by
  intro funds
  induction funds with
  | nil =>
    intro b b' h
    cases h
    simp only [att, ite_self]
  | cons p t ih =>
    intro b b' h
    obtain ⟨a', v⟩ := p
    unfold attachFunds at h
    by_cases hn : c.native a' = true
    · rw [if_pos hn] at h
      by_cases hlt : aget b (x, a') < v
      · rw [if_pos hlt] at h; cases h
      rw [if_neg hlt] at h
      have h2 := moveBal_eff (b := b) (src := x) (dst := y) (a' := a') (amt := v) X a (Nat.not_lt.mp hlt)
      have h1 := ih _ _ h
      have e1 := ite_and_add (P := x = X ∧ y ≠ X) (R := a' = a) v (att c a t)
      have e2 := ite_and_add (P := y = X ∧ x ≠ X) (R := a' = a) v (att c a t)
      simp only [and_assoc] at e1 e2
      simp only [att, hn, true_and]
      omega
    · rw [if_neg hn] at h
      have : att c a ((a', v) :: t) = att c a t := by
        show (if c.native a' = true ∧ a' = a then v else 0) + att c a t = att c a t
        rw [if_neg (fun hh => hn hh.1), Nat.zero_add]
      rw [this]
      exact ih _ _ h

/-! the contract, the helper, the pair and the fee collector are four accounts -/
theorem collector_ne_inc : COLLECTOR ≠ INC := by decide
theorem helper_ne_inc : HELPER ≠ INC := by decide
theorem pair_ne_inc : PAIR ≠ INC := by decide
theorem inc_ne_helper : INC ≠ HELPER := by decide
theorem pair_ne_helper : PAIR ≠ HELPER := by decide
theorem helper_ne_pair : HELPER ≠ PAIR := by decide
theorem collector_ne_helper : COLLECTOR ≠ HELPER := by decide
theorem inc_ne_pair : INC ≠ PAIR := by decide

end WW.Inc
