/-
  For `WW/Props/Kernels/{Slippage,TrioSlippage,Pair}.lean`.  Core Lean only.
-/
import WW.Gen.Kernels
import WW.Proofs.Kernels
import WW.Model.Slippage
namespace WW

/-- the generated `PairType` as the slippage model's `PoolKind` (the amplification is not looked at) -/
def PoolKind.ofGen : Gen.K.PairType → PoolKind
  | .StableSwap _ => .stableSwap
  | .ConstantProduct => .constantProduct

end WW
