/- C13: the share query (`QueryMsg::CurrentEpochRewardsShare`, model `qShare`) reads the same weight as the
   claim loop and the rewards query: its lookup "entry with the largest epoch `≤ E` in the address's filtered
   history map" is `effW`. Needs that the weight history holds at most one entry per (address, epoch) — an
   invariant of every history (`reach_wkeys`, no assumption on epochs). -/
import WW.Proofs.ClaimWeights
import WW.Proofs.HistKeys
namespace WW.Inc
open WW WW.Gen

/-- at most one `ADDRESS_WEIGHT_HISTORY` entry per (address, epoch) -/
def WKeys (wh : List ((Addr × Nat) × Nat)) : Prop := (wh.map (·.1)).Nodup

theorem weff_wkeys {s s' : St} {e : Env} (hk : WKeys s.whist) (h : WEff s s' e) : WKeys s'.whist := by
  unfold WKeys at *
  rcases h with ⟨_, h, _⟩ | ⟨_, _, h, _⟩ | ⟨_, _, _, _, h⟩ | ⟨_, _, _, _, _, h⟩
  · rw [h]; exact hk
  · rw [h]; exact hk
  · rw [h]; exact nodup_keys_aset _ _ hk
  · rw [h]; exact nodup_keys_aset _ _ (nodup_keys_filter _ hk)

theorem step_wkeys {c : Cfg} {s s' : St} {e : Env} {op : Op} (hk : WKeys s.whist)
    (h : step c s e op = .ok s') : WKeys s'.whist :=
  weff_wkeys hk (step_weff h)

theorem reach_wkeys {c : Cfg} : ∀ (ops : List (Env × Op)) (s : St), WKeys s.whist → WKeys (reach c s ops).whist :=
  fun ops _ h => reach_keeps (P := fun s => WKeys s.whist) step_wkeys h ops

theorem init_wkeys (e0 : Nat) (bal : Bal) : WKeys (init e0 bal).whist := by
  unfold WKeys init; simp

theorem mem_mineOf {wh : List ((Addr × Nat) × Nat)} {u : Addr} {k w : Nat} :
    (k, w) ∈ mineOf wh u ↔ ((u, k), w) ∈ wh := by
  simp only [mineOf, List.mem_map, List.mem_filter, decide_eq_true_eq, Prod.mk.injEq]
  constructor
  · rintro ⟨⟨⟨_, _⟩, _⟩, ⟨h, rfl⟩, rfl, rfl⟩
    exact h
  · exact fun h => ⟨((u, k), w), ⟨h, rfl⟩, rfl, rfl⟩

theorem mineOf_keys_nodup {wh : List ((Addr × Nat) × Nat)} (hk : WKeys wh) (u : Addr) :
    (keysOf (mineOf wh u)).Nodup := by
  -- among the entries of one address the epoch determines the key
  have h := List.Nodup.map_on (f := fun k : Addr × Nat => k.2) ?_
    (nodup_keys_filter (fun p : (Addr × Nat) × Nat => decide (p.1.1 = u)) hk)
  · simpa [keysOf, mineOf, List.map_map, Function.comp_def] using h
  · intro x hx y hy hxy
    obtain ⟨p, hp, rfl⟩ := List.mem_map.mp hx
    obtain ⟨q, hq, rfl⟩ := List.mem_map.mp hy
    have hp2 := (List.mem_filter.mp hp).2
    have hq2 := (List.mem_filter.mp hq).2
    simp only [decide_eq_true_eq] at hp2 hq2
    exact Prod.ext (hp2.trans hq2.symm) hxy

theorem mineOf_no_key {wh : List ((Addr × Nat) × Nat)} {u : Addr} {k : Nat} (hw : alook wh (u, k) = none) :
    ∀ p ∈ mineOf wh u, p.1 ≠ k :=
  fun p hp hpk => (alook_eq_none_iff (u, k)).mp hw ((u, p.1), p.2) (mem_mineOf.mp hp) (hpk ▸ rfl)

/-! `seenAt` obeys the three equations that define `effW` (`maxKeyLE_top` / `_succ` / `_zero`) -/

theorem seenAt_top {wh : List ((Addr × Nat) × Nat)} (hk : WKeys wh) {u : Addr} {E w : Nat}
    (hw : alook wh (u, E) = some w) : seenAt wh u E = w := by
  unfold seenAt
  rw [maxKeyLE_top (mineOf_keys_nodup hk u) (mem_mineOf.mpr (alook_some_mem hw))]

theorem seenAt_zero {wh : List ((Addr × Nat) × Nat)} {u : Addr} (hw : alook wh (u, 0) = none) :
    seenAt wh u 0 = 0 := by
  unfold seenAt
  rw [maxKeyLE_zero (mineOf_no_key hw)]

theorem seenAt_succ {wh : List ((Addr × Nat) × Nat)} {u : Addr} {E : Nat} (hw : alook wh (u, E + 1) = none) :
    seenAt wh u (E + 1) = seenAt wh u E := by
  unfold seenAt
  rw [maxKeyLE_succ (mineOf_no_key hw)]

/-- **the share query's lookup is `effW`** -/
theorem seenAt_eq_effW {wh : List ((Addr × Nat) × Nat)} (hk : WKeys wh) (u : Addr) :
    ∀ E, seenAt wh u E = effW wh u E := by
  intro E
  induction E with
  | zero =>
    unfold effW
    cases hw : alook wh (u, 0) with
    | some w => exact seenAt_top hk hw
    | none => exact seenAt_zero hw
  | succ E ih =>
    unfold effW
    cases hw : alook wh (u, E + 1) with
    | some w => exact seenAt_top hk hw
    | none => exact (seenAt_succ hw).trans ih

/-- what a successful share query answers, in any state with distinct history keys: the weight in effect
    (`effW`), the epoch's snapshot (0 if the address has no history and no snapshot exists) and the floor
    share `weight · 10^18 / snapshot` (0 for a zero snapshot) -/
theorem qShare_spec {s : St} (hk : WKeys s.whist) {u : Addr} {E w g sh : Nat}
    (h : qShare s u E = .ok (w, g, sh)) :
    w = effW s.whist u E ∧ g = aget s.snap E ∧ sh = w * E18 / g := by
  unfold qShare at h
  split at h
  · rename_i hearl
    cases h
    rw [effW_none E fun k _ => (earliest_spec s.whist u).1 hearl k]
    exact ⟨rfl, rfl, by simp⟩
  · simp only at h
    rw [seenAt_eq_effW hk u E] at h
    split at h
    · cases h
    · rename_i g' hg'
      have hag : aget s.snap E = g' := by unfold aget; rw [hg']; rfl
      split at h
      · rename_i hz
        cases h
        exact ⟨rfl, hag.symm, by rw [hz]; simp⟩
      · cases hd : dec256FromRatio (effW s.whist u E) g' with
        | ok sh' =>
          rw [hd] at h
          cases h
          exact ⟨rfl, hag.symm, (dec256FromRatio_eq_ok.mp hd).2.2⟩
        | err => rw [hd] at h; cases h
        | panic => rw [hd] at h; cases h

end WW.Inc
