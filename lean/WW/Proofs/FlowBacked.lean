/- C12: the flow invariant `FInv`, what the contract owes in each asset (`owed`: the flows' unclaimed funds,
   plus the staked LP in the LP asset), and what the funds checks and messages of each handler do to the
   contract's side of the ledger. -/
import WW.Proofs.FlowDelta
import WW.Proofs.PosDelta
namespace WW.Inc
open WW WW.Gen

/-- the flow invariant: distinct ids, none above the counter (so the id `flowCounter + 1` of a new flow is
    fresh), claimed within funded, one asset-history entry per epoch -/
structure FInv (s : St) : Prop where
  ids_nodup : (flowIds s.flows).Nodup
  ids_le : ∀ f ∈ s.flows, f.id ≤ s.flowCounter
  claimed_le : ∀ f ∈ s.flows, f.claimed ≤ f.funded
  hist_nodup : ∀ f ∈ s.flows, (keysOf f.hist).Nodup

theorem FInv.frame {s s' : St} (h : FInv s) (h1 : s'.flows = s.flows) (h2 : s'.flowCounter = s.flowCounter) :
    FInv s' := by
  constructor
  · rw [h1]; exact h.ids_nodup
  · rw [h1, h2]; exact h.ids_le
  · rw [h1]; exact h.claimed_le
  · rw [h1]; exact h.hist_nodup

theorem FInv.with_bal {s : St} (h : FInv s) (b : Bal) : FInv { s with bal := b } := h.frame rfl rfl

theorem init_FInv (e0 : Nat) (bal : Bal) : FInv (init e0 bal) := by
  constructor
  · simp [init, flowIds]
  · intro f hf; cases hf
  · intro f hf; cases hf
  · intro f hf; cases hf

theorem forall_mem_insertFlow {P : Flow → Prop} {f : Flow} {l : List Flow} (hf : P f) (hl : ∀ g ∈ l, P g) :
    ∀ g ∈ insertFlow f l, P g := by
  intro g hg
  rcases mem_insertFlow.mp hg with rfl | hg
  · exact hf
  · exact hl g hg

theorem forall_mem_removeFlow {P : Flow → Prop} {l : List Flow} (hl : ∀ g ∈ l, P g) (id : Nat) :
    ∀ g ∈ removeFlow l id, P g :=
  fun g hg => hl g (mem_removeFlow.mp hg).1

theorem FInv.insert {s : St} (hF : FInv s) {f : Flow} (hid : f.id = s.flowCounter + 1)
    (hc : f.claimed ≤ f.funded) (hh : (keysOf f.hist).Nodup) :
    FInv { s with flowCounter := s.flowCounter + 1, flows := insertFlow f s.flows } := by
  refine ⟨nodup_insertFlow hF.ids_nodup ?_, forall_mem_insertFlow (Nat.le_of_eq hid) ?_,
    forall_mem_insertFlow hc hF.claimed_le, forall_mem_insertFlow hh hF.hist_nodup⟩
  · intro hm
    obtain ⟨g, hg, hge⟩ := List.mem_map.mp hm
    have := hF.ids_le g hg
    omega
  · intro g hg
    exact Nat.le_succ_of_le (hF.ids_le g hg)

theorem FInv.remove {s : St} (hF : FInv s) (id : Nat) : FInv { s with flows := removeFlow s.flows id } :=
  ⟨nodup_removeFlow id hF.ids_nodup, forall_mem_removeFlow hF.ids_le id,
    forall_mem_removeFlow hF.claimed_le id, forall_mem_removeFlow hF.hist_nodup id⟩

theorem FInv.replace {s : St} (hF : FInv s) {id : Nat} {f f2 : Flow} (hf : findFlow s.flows id = some f)
    (hid : f2.id = f.id) (hc : f2.claimed ≤ f2.funded) (hh : (keysOf f2.hist).Nodup) :
    FInv { s with flows := insertFlow f2 (removeFlow s.flows id) } := by
  obtain ⟨hfm, hfid⟩ := findFlow_mem hf
  have hR := hF.remove id
  refine ⟨nodup_insertFlow hR.ids_nodup ?_, forall_mem_insertFlow ?_ hR.ids_le,
    forall_mem_insertFlow hc hR.claimed_le, forall_mem_insertFlow hh hR.hist_nodup⟩
  · rw [hid, hfid]; exact not_mem_flowIds_removeFlow _ _
  · rw [hid]; exact hF.ids_le f hfm

/-- what the contract owes in asset `a`: the flows' unclaimed funds, plus everything staked when `a` is
    the LP asset -/
def owed (s : St) (a : Nat) : Nat := ffSum a s.flows + (if a = 0 then staked s else 0)

/-- a handler that touches the flows only: the staked part of what is owed stays -/
theorem owed_of_flows (s : St) (fl : List Flow) (fc a : Nat) :
    owed { s with flows := fl, flowCounter := fc } a = ffSum a fl + (if a = 0 then staked s else 0) := rfl

/-- what a flow just opened adds to what is owed: its amount, in its asset -/
theorem contrib_fresh {f : Flow} {a0 y : Nat} (h3 : f.asset = a0) (h4 : f.amount = y) (h5 : f.claimed = 0)
    (h6 : f.hist = []) (a : Nat) : contrib a f = if a0 = a then y else 0 := by
  unfold contrib; rw [h3, Flow.funded_of_hist_nil h6, h4, h5]; rfl

theorem att_nonnative {c : Cfg} {a : Nat} (h : c.native a = false) (l : List (Nat × Nat)) : att c a l = 0 := by
  induction l with
  | nil => rfl
  | cons p t ih =>
    simp only [att, ih]
    have : ¬ (c.native p.1 = true ∧ p.1 = a) := fun hh => by rw [hh.2, h] at hh; cases hh.1
    rw [if_neg this]

theorem att_single {c : Cfg} {a v : Nat} (h : c.native a = true) (a' : Nat) :
    att c a' [(a, v)] = if a = a' then v else 0 := by
  simp only [att, h, true_and]; omega

theorem mem_le_att {c : Cfg} {l : List (Nat × Nat)} {p : Nat × Nat} (hp : p ∈ l) (hn : c.native p.1 = true) :
    p.2 ≤ att c p.1 l := by
  induction l with
  | nil => cases hp
  | cons q t ih =>
    simp only [att]
    rcases List.mem_cons.mp hp with hp | hp
    · subst hp
      have : (c.native p.1 = true ∧ p.1 = p.1) := ⟨hn, rfl⟩
      rw [if_pos this]; omega
    · have := ih hp; omega

theorem alook_le_att {c : Cfg} {l : List (Nat × Nat)} {k v : Nat} (h : alook l k = some v)
    (hn : c.native k = true) : v ≤ att c k l :=
  mem_le_att (p := (k, v)) (alook_some_mem h) hn

theorem hasFunds_le_att {c : Cfg} {l : List (Nat × Nat)} {a v : Nat} (h : hasFunds l a v = true)
    (hn : c.native a = true) : v ≤ att c a l := by
  unfold hasFunds at h
  obtain ⟨p, hp, hpe⟩ := List.any_eq_true.mp h
  simp only [Bool.and_eq_true, decide_eq_true_eq] at hpe
  have := mem_le_att (c := c) hp (by rw [hpe.1]; exact hn)
  rw [hpe.1, hpe.2] at this
  exact this

theorem io_send_inc {dst : Addr} (hd : dst ≠ INC) (a a' amt : Nat) :
    outsOf INC a [Msg.send INC dst a' amt] = (if a' = a then amt else 0)
    ∧ insOf INC a [Msg.send INC dst a' amt] = 0 := by
  by_cases ha : a' = a <;> simp [outsOf, insOf, msgOut, msgIn, ha, hd]

theorem io_pull_inc {src : Addr} (hs : src ≠ INC) (a a' amt : Nat) :
    outsOf INC a [Msg.pull src INC a' amt] = 0
    ∧ insOf INC a [Msg.pull src INC a' amt] = (if a' = a then amt else 0) := by
  by_cases ha : a' = a <;> simp [outsOf, insOf, msgOut, msgIn, ha, hs]

theorem io_pull_other {src dst : Addr} (hs : src ≠ INC) (hd : dst ≠ INC) (a a' amt : Nat) :
    outsOf INC a [Msg.pull src dst a' amt] = 0 ∧ insOf INC a [Msg.pull src dst a' amt] = 0 := by
  simp [outsOf, insOf, msgOut, msgIn, hs, hd]

theorem io_send_other {src dst : Addr} (hs : src ≠ INC) (hd : dst ≠ INC) (a a' amt : Nat) :
    outsOf INC a [Msg.send src dst a' amt] = 0 ∧ insOf INC a [Msg.send src dst a' amt] = 0 := by
  simp [outsOf, insOf, msgOut, msgIn, hs, hd]

/-- the LP-funds check: nothing leaves the contract, and exactly the stated amount of LP arrives
    (attached for a native LP, pulled from the sender for a cw20 LP) -/
theorem validateFunds_ledger {c : Cfg} {e : Env} {amount : Nat} {msgs : List Msg} (hs : e.sender ≠ INC)
    (h : validateFunds c e amount = .ok msgs) :
    (∀ a, outsOf INC a msgs = 0)
    ∧ att c 0 (fundsOf c e.offers) + insOf INC 0 msgs = amount := by
  obtain ⟨_, hv⟩ := validateFunds_spec h
  rcases hv with ⟨hn, hf, hm⟩ | ⟨hn, _, hm⟩
  · subst hm
    rw [hf, att_single hn]
    exact ⟨fun a => rfl, by simp [insOf]⟩
  · subst hm
    rw [att_nonnative hn]
    refine ⟨fun a => (io_pull_inc hs a 0 amount).1, ?_⟩
    rw [(io_pull_inc hs 0 0 amount).2]; simp

theorem expandFlowFunds_ledger {c : Cfg} {e : Env} {a amount : Nat} {msgs : List Msg} (hs : e.sender ≠ INC)
    (h : expandFlowFunds c e a amount = .ok msgs) :
    (∀ a', outsOf INC a' msgs = 0)
    ∧ att c a (fundsOf c e.offers) + insOf INC a msgs = amount := by
  rcases expandFlowFunds_spec h with ⟨hn, hf, _, hm⟩ | ⟨hn, _, hm⟩
  · subst hm
    rw [hf, att_single hn]
    exact ⟨fun a => rfl, by simp [insOf]⟩
  · subst hm
    rw [att_nonnative hn]
    refine ⟨fun a' => (io_pull_inc hs a' a amount).1, ?_⟩
    rw [(io_pull_inc hs a a amount).2]; simp

/-- `openFlowMsgs` seen from the contract: `p` of the fee asset leaves, the amount of a cw20 flow asset arrives -/
theorem openFlowMsgs_inc {c : Cfg} {e : Env} {a y p : Nat} (hs : e.sender ≠ INC)
    (hp : c.native c.feeAsset = true → c.feeAmt ≤ p) (hp0 : c.native c.feeAsset = false → p = 0) (a' : Nat) :
    outsOf INC a' (openFlowMsgs c e a y p) = (if c.feeAsset = a' then p else 0)
    ∧ insOf INC a' (openFlowMsgs c e a y p) = (if a = a' ∧ c.native a = false then y else 0) := by
  unfold openFlowMsgs
  rw [outsOf_append, insOf_append]
  obtain ⟨c1, c2⟩ := io_send_inc collector_ne_inc a' c.feeAsset c.feeAmt
  obtain ⟨r1, r2⟩ := io_send_inc hs a' c.feeAsset (p - c.feeAmt)
  obtain ⟨q1, q2⟩ := io_pull_other hs collector_ne_inc a' c.feeAsset c.feeAmt
  obtain ⟨p1, p2⟩ := io_pull_inc hs a' a y
  have hasset : outsOf INC a' (if c.native a = true then [] else [Msg.pull e.sender INC a y]) = 0
      ∧ insOf INC a' (if c.native a = true then [] else [Msg.pull e.sender INC a y])
          = (if a = a' ∧ c.native a = false then y else 0) := by
    cases c.native a
    · rw [if_neg Bool.false_ne_true, p1, p2]
      exact ⟨rfl, by simp only [and_true]⟩
    · rw [if_pos rfl, if_neg (fun h => Bool.noConfusion h.2)]
      exact ⟨rfl, rfl⟩
  rw [hasset.1, hasset.2]
  cases hnf : c.native c.feeAsset
  · rw [if_neg Bool.false_ne_true, q1, q2, hp0 hnf, ite_self]; omega
  · have hle := hp hnf
    rw [if_pos rfl, outsOf_append, insOf_append, c1, c2]
    by_cases hlt : c.feeAmt < p
    · rw [if_pos hlt, r1, r2]; split <;> omega
    · rw [if_neg hlt]; simp only [outsOf, insOf]; split <;> omega

/-- `open_flow`: what the new flow is funded with never exceeds what arrived for it net of the fee -/
theorem openFlow_ledger_le {c : Cfg} {e : Env} {a amount x y : Nat} {m0 m1 : List Msg} (hs : e.sender ≠ INC)
    (hfee : openFlowFee c e a amount = .ok (x, m0)) (hasset : openFlowAsset c e a x = .ok (y, m1)) (a' : Nat) :
    (if a = a' then y else 0) + outsOf INC a' (m0 ++ m1)
      ≤ att c a' (fundsOf c e.offers) + insOf INC a' (m0 ++ m1) := by
  obtain ⟨_, hfunds, p, hm, hp, hp0⟩ := openFlow_msgs hfee hasset
  obtain ⟨o, i⟩ := openFlowMsgs_inc hs (fun h => (hp h).1) hp0 (a := a) (y := y) a'
  rw [hm, o, i]
  by_cases hfa : c.feeAsset = a'
  · subst hfa
    rw [if_pos rfl]
    cases hnf : c.native c.feeAsset
    · -- a cw20 fee never passes through the contract, and a flow in the fee asset is pulled
      rw [hp0 hnf]
      by_cases haa : a = c.feeAsset
      · rw [if_pos haa, if_pos ⟨haa, by rw [haa]; exact hnf⟩]; omega
      · rw [if_neg haa]; omega
    · have := alook_le_att (hp hnf).2 hnf
      by_cases haa : a = c.feeAsset
      · rw [if_pos haa] at this ⊢; omega
      · rw [if_neg haa] at this ⊢; omega
  · rw [if_neg hfa]
    by_cases haa : a = a'
    · subst haa
      rw [if_pos rfl]
      cases hna : c.native a
      · rw [if_pos ⟨rfl, rfl⟩]; omega
      · have := hasFunds_le_att (hfunds hna (fun hh => hfa hh.symm)) hna
        omega
    · rw [if_neg haa]; omega

end WW.Inc
