/- The `Res` monad and the number primitives of `WW/Cw/Arith.lean`, characterised once for every proof
   file: `x = .ok r ↔ <guard> ∧ r = <value>` for each primitive, and `Res.bind_eq_ok` to walk through a
   `do` block; the fail-first guard shapes of hand-written handlers; `mul_div_le_of_le` (a share of at most one takes
   at most the whole). Core Lean only, so that the Mathlib-free proof files can import it. -/
import WW.Cw.Arith
namespace WW

namespace Res
variable {α β γ : Type}

theorem bind_eq_ok {x : Res α} {f : α → Res β} {b : β} :
    (x >>= f) = .ok b ↔ ∃ a, x = .ok a ∧ f a = .ok b := by
  cases x <;> simp [Bind.bind, Res.bind]

theorem bind_eq_err {x : Res α} {f : α → Res β} :
    (x >>= f) = .err ↔ x = .err ∨ ∃ a, x = .ok a ∧ f a = .err := by
  cases x <;> simp [Bind.bind, Res.bind]

theorem bind_assoc' (x : Res α) (f : α → Res β) (g : β → Res γ) :
    (x >>= f >>= g) = (x >>= fun a => f a >>= g) := by
  cases x <;> rfl

/-- every primitive that answers `Err` on failure is of this shape -/
theorem ite_err_eq_ok {c : Prop} [Decidable c] {v r : α} :
    (if c then ok v else err) = ok r ↔ c ∧ r = v := by
  split <;> simp_all [eq_comm]

/-- `ite_err_eq_ok` with the equation turned, for characterisations stated as `⟨computed value⟩ = r` -/
theorem ok_else_err_eq_ok {c : Prop} [Decidable c] {v r : α} :
    (if c then ok v else err) = ok r ↔ c ∧ v = r :=
  ite_err_eq_ok.trans (and_congr_right' eq_comm)

/-- an assertion: `if c { Ok(()) } else { Err(..) }` -/
theorem check_eq_ok {c : Prop} [Decidable c] : (if c then ok () else err) = ok () ↔ c := by
  split <;> simp [*]

theorem check_eq_err {c : Prop} [Decidable c] : (if c then ok () else err) = err ↔ ¬c := by
  split <;> simp [*]

/-- every primitive that panics on failure is of this shape -/
theorem ite_panic_eq_ok {c : Prop} [Decidable c] {v r : α} :
    (if c then ok v else panic) = ok r ↔ c ∧ r = v := by
  split <;> simp_all [eq_comm]

/-- a test that fails first, in front of `x`: `if c { return Err(..) } x` -/
theorem err_else_eq_ok {c : Prop} [Decidable c] {x : Res α} {r : α} :
    (if c then err else x) = ok r ↔ ¬c ∧ x = ok r := by
  split <;> simp [*]

theorem panic_else_eq_ok {c : Prop} [Decidable c] {x : Res α} {r : α} :
    (if c then panic else x) = ok r ↔ ¬c ∧ x = ok r := by
  split <;> simp [*]

theorem err_else_ne_panic {c : Prop} [Decidable c] {x : Res α} (h : x ≠ panic) :
    (if c then err else x) ≠ panic := by
  split <;> simp [h]

/-- walks through the guards of a model function whose two arms both go on:
    `simp only [f, ite_eq_ok, reduceCtorEq, …] at h` -/
theorem ite_eq_ok {c : Prop} [Decidable c] {x y : Res α} {r : α} :
    (if c then x else y) = ok r ↔ c ∧ x = ok r ∨ ¬c ∧ y = ok r := by
  split <;> simp [*]

end Res

variable {m a b n d r : Nat}

theorem guardErr_eq_ok {c : Bool} {u : Unit} : guardErr c = .ok u ↔ c = true := by
  cases c <;> simp [guardErr]
theorem guardPanic_eq_ok {c : Bool} {u : Unit} : guardPanic c = .ok u ↔ c = true := by
  cases c <;> simp [guardPanic]

theorem cadd_eq_ok : cadd m a b = .ok r ↔ a + b ≤ m ∧ r = a + b := Res.ite_err_eq_ok
theorem csub_eq_ok : csub a b = .ok r ↔ b ≤ a ∧ r = a - b := Res.ite_err_eq_ok
theorem cmul_eq_ok : cmul m a b = .ok r ↔ a * b ≤ m ∧ r = a * b := Res.ite_err_eq_ok
theorem padd_eq_ok : padd m a b = .ok r ↔ a + b ≤ m ∧ r = a + b := Res.ite_panic_eq_ok
theorem psub_eq_ok : psub a b = .ok r ↔ b ≤ a ∧ r = a - b := Res.ite_panic_eq_ok
theorem pmul_eq_ok : pmul m a b = .ok r ↔ a * b ≤ m ∧ r = a * b := Res.ite_panic_eq_ok
theorem to128_eq_ok : to128 a = .ok r ↔ a ≤ U128MAX ∧ r = a := Res.ite_err_eq_ok
theorem u256MulDec_eq_ok : u256MulDec a d = .ok r ↔ a * d / E18 ≤ U256MAX ∧ r = a * d / E18 :=
  Res.ite_panic_eq_ok
theorem u128MulDec_eq_ok : u128MulDec a d = .ok r ↔ a * d / E18 ≤ U128MAX ∧ r = a * d / E18 :=
  Res.ite_panic_eq_ok
theorem dec256Mul_eq_ok : dec256Mul a b = .ok r ↔ a * b / E18 ≤ U256MAX ∧ r = a * b / E18 :=
  Res.ite_panic_eq_ok

theorem cdiv_eq_ok : cdiv a b = .ok r ↔ b ≠ 0 ∧ r = a / b := by
  unfold cdiv; split <;> simp_all [eq_comm]
theorem pdiv_eq_ok : pdiv a b = .ok r ↔ b ≠ 0 ∧ r = a / b := by
  unfold pdiv; split <;> simp_all [eq_comm]
theorem mulRatioP_eq_ok : mulRatioP m a n d = .ok r ↔ d ≠ 0 ∧ a * n / d ≤ m ∧ r = a * n / d := by
  unfold mulRatioP; split
  · simp_all
  · simpa [*] using Res.ite_panic_eq_ok
theorem mulRatioC_eq_ok : mulRatioC m a n d = .ok r ↔ d ≠ 0 ∧ a * n / d ≤ m ∧ r = a * n / d := by
  unfold mulRatioC; split
  · simp_all
  · simpa [*] using Res.ite_err_eq_ok
theorem dec256FromRatio_eq_ok :
    dec256FromRatio n d = .ok r ↔ d ≠ 0 ∧ n * E18 / d ≤ U256MAX ∧ r = n * E18 / d := mulRatioP_eq_ok
theorem dec128FromRatio_eq_ok :
    dec128FromRatio n d = .ok r ↔ d ≠ 0 ∧ n * E18 / d ≤ U128MAX ∧ r = n * E18 / d := mulRatioP_eq_ok
theorem dec256ToUintPrecision_eq_ok {v p : Nat} :
    dec256ToUintPrecision v p = .ok r ↔ p ≤ 18 ∧ r = v / 10 ^ (18 - p) := by
  unfold dec256ToUintPrecision
  split <;> simp [eq_comm] <;> omega

/-! The unchecked operations panic, they never answer `Err`. -/

theorem padd_ne_err : padd m a b ≠ .err := by unfold padd; split <;> simp
theorem psub_ne_err : psub a b ≠ .err := by unfold psub; split <;> simp
theorem pmul_ne_err : pmul m a b ≠ .err := by unfold pmul; split <;> simp
theorem pdiv_ne_err : pdiv a b ≠ .err := by unfold pdiv; split <;> simp

/-! Forward direction, for rewriting a primitive whose guard is known to hold. -/

theorem cadd_ok (h : a + b ≤ m) : cadd m a b = .ok (a + b) := cadd_eq_ok.mpr ⟨h, rfl⟩
theorem csub_ok (h : b ≤ a) : csub a b = .ok (a - b) := csub_eq_ok.mpr ⟨h, rfl⟩
theorem cmul_ok (h : a * b ≤ m) : cmul m a b = .ok (a * b) := cmul_eq_ok.mpr ⟨h, rfl⟩
theorem cdiv_ok (h : b ≠ 0) : cdiv a b = .ok (a / b) := cdiv_eq_ok.mpr ⟨h, rfl⟩
theorem padd_ok (h : a + b ≤ m) : padd m a b = .ok (a + b) := padd_eq_ok.mpr ⟨h, rfl⟩
theorem psub_ok (h : b ≤ a) : psub a b = .ok (a - b) := psub_eq_ok.mpr ⟨h, rfl⟩
theorem pmul_ok (h : a * b ≤ m) : pmul m a b = .ok (a * b) := pmul_eq_ok.mpr ⟨h, rfl⟩
theorem to128_ok (h : a ≤ U128MAX) : to128 a = .ok a := to128_eq_ok.mpr ⟨h, rfl⟩
theorem to128_err (h : ¬ a ≤ U128MAX) : to128 a = .err := if_neg h
theorem mulRatioP_ok (hd : d ≠ 0) (h : a * n / d ≤ m) : mulRatioP m a n d = .ok (a * n / d) :=
  mulRatioP_eq_ok.mpr ⟨hd, h, rfl⟩
theorem mulRatioC_ok (hd : d ≠ 0) (h : a * n / d ≤ m) : mulRatioC m a n d = .ok (a * n / d) :=
  mulRatioC_eq_ok.mpr ⟨hd, h, rfl⟩
theorem dec256FromRatio_ok (hd : d ≠ 0) (h : n * E18 / d ≤ U256MAX) :
    dec256FromRatio n d = .ok (n * E18 / d) := mulRatioP_ok hd h
theorem u256MulDec_ok (h : a * d / E18 ≤ U256MAX) : u256MulDec a d = .ok (a * d / E18) :=
  u256MulDec_eq_ok.mpr ⟨h, rfl⟩
theorem u128MulDec_ok (h : a * d / E18 ≤ U128MAX) : u128MulDec a d = .ok (a * d / E18) :=
  u128MulDec_eq_ok.mpr ⟨h, rfl⟩
theorem dec256Mul_ok (h : a * b / E18 ≤ U256MAX) : dec256Mul a b = .ok (a * b / E18) :=
  dec256Mul_eq_ok.mpr ⟨h, rfl⟩

/-- `⌊a·s/E⌋ ≤ a` when `s ≤ E` -/
theorem mul_div_le_of_le {s E : Nat} (hs : s ≤ E) : a * s / E ≤ a := by
  rcases Nat.eq_zero_or_pos E with h | h
  · subst h; simp
  · exact Nat.div_le_of_le_mul (Nat.mul_comm E a ▸ Nat.mul_le_mul_left a hs)

end WW
