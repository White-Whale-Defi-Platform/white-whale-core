/-
  For `WW/Props/Kernels/{CpSwap,TrioSwap,Stable2Swap}.lean` and `WW/Proofs/KernelsVault.lean`: conversions between the model's records and the
  generated ones, and `Fee::compute` in closed form.  Core Lean only.
-/
import WW.Gen.Kernels
import WW.Proofs.Kernels
import WW.Model.CpSwap
namespace WW

def SwapComp.toGen (c : SwapComp) : Gen.K.SwapComputation :=
  { return_amount := c.ret, spread_amount := c.spread, swap_fee_amount := c.swapFee,
    protocol_fee_amount := c.protFee, burn_fee_amount := c.burnFee }

def Fees.ofGen (p : Gen.K.PoolFee) : Fees :=
  { prot := p.protocol_fee.share, swap := p.swap_fee.share, burn := p.burn_fee.share }

theorem K_Fee_compute_eq (f : Gen.K.Fee) (a : Nat) : Gen.K.Fee_compute f a = u256MulDec a f.share := rfl

end WW
