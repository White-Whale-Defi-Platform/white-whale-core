/- The whale lair's `calculate_epoch` (used for `first_bonded_epoch_id` in its `Bonded` query) against
   the clock: discharges the hypothesis `bondTime < genesis + fb · duration` of
   `WW.C09.not_before_bonding_time` from the lair's own code. -/
import WW.Model.Lair
import WW.Proofs.Res
namespace WW.Lair
open WW

/-- `calculate_epoch(t) = fb`: 0 before genesis, else one more than the whole epochs elapsed since -/
theorem calcEpoch_ok {cfg : Cfg} {t fb : Nat} (h : calcEpoch cfg t = .ok fb) :
    (t < cfg.genesis ∧ fb = 0) ∨
      (cfg.genesis ≤ t ∧ cfg.epochDur ≠ 0 ∧ fb = (t - cfg.genesis) / cfg.epochDur + 1) := by
  unfold calcEpoch at h
  split at h
  next hlt => exact .inl ⟨hlt, (Res.ok.inj h).symm⟩
  next hge =>
    simp only [Res.bind_eq_ok, cdiv_eq_ok, cadd_eq_ok] at h
    obtain ⟨q, ⟨hd, rfl⟩, -, rfl⟩ := h
    exact .inr ⟨Nat.le_of_not_lt hge, hd, rfl⟩

/-- `calculate_epoch(t) = fb` puts `t` strictly before the start of epoch `fb + 1`, i.e. before
    `genesis + fb · duration` (for a time before genesis it answers 0) -/
theorem calcEpoch_lt {cfg : Cfg} {t fb : Nat} (h : calcEpoch cfg t = .ok fb) :
    t < cfg.genesis + fb * cfg.epochDur := by
  obtain ⟨hlt, rfl⟩ | ⟨hge, hd, rfl⟩ := calcEpoch_ok h
  · omega
  · have := Nat.lt_div_mul_add (a := t - cfg.genesis) (Nat.pos_of_ne_zero hd)
    rw [Nat.add_mul, Nat.one_mul]
    omega

/-- … and not before the start of epoch `fb` itself when `fb ≥ 1` -/
theorem calcEpoch_ge {cfg : Cfg} {t fb : Nat} (h : calcEpoch cfg t = .ok fb) (h1 : 1 ≤ fb) :
    cfg.genesis + (fb - 1) * cfg.epochDur ≤ t := by
  obtain ⟨-, rfl⟩ | ⟨hge, -, rfl⟩ := calcEpoch_ok h
  · omega
  · have := Nat.div_mul_le_self (t - cfg.genesis) cfg.epochDur
    rw [Nat.add_sub_cancel]
    omega

end WW.Lair
