/- C12 (and the `≥` half of C11): every handler, every transaction and every history keeps the flow
   invariant and the backing inequality `owed ≤ balance` in every asset. -/
import WW.Proofs.FlowBacked
namespace WW.Inc
open WW WW.Gen

/-- the result of a handler, for the ledger: balance untouched by the handler itself, flow invariant
    kept, and what is owed afterwards plus what the messages pay out is covered by what was owed before
    plus what was attached plus what the messages pull in -/
structure HandlerOk (c : Cfg) (s s1 : St) (e : Env) (msgs : List Msg) : Prop where
  bal : s1.bal = s.bal
  finv : FInv s1
  le : e.sender ≠ INC →
    ∀ a, owed s1 a + outsOf INC a msgs ≤ owed s a + att c a (fundsOf c e.offers) + insOf INC a msgs

/-- a handler that leaves balance and flows alone: the staked total carries the inequality in the LP
    asset, and in every other asset nothing leaves beyond what came -/
theorem HandlerOk.of_flows_eq {c : Cfg} {s s1 : St} {e : Env} {msgs : List Msg} (hF : FInv s)
    (hfl : s1.flows = s.flows) (hfc : s1.flowCounter = s.flowCounter) (hb : s1.bal = s.bal)
    (hlp : e.sender ≠ INC →
      staked s1 + outsOf INC 0 msgs ≤ staked s + att c 0 (fundsOf c e.offers) + insOf INC 0 msgs)
    (hoth : e.sender ≠ INC → ∀ a, a ≠ 0 → outsOf INC a msgs ≤ att c a (fundsOf c e.offers) + insOf INC a msgs) :
    HandlerOk c s s1 e msgs := by
  refine ⟨hb, hF.frame hfl hfc, fun hs a => ?_⟩
  unfold owed
  rw [hfl]
  by_cases ha : a = 0
  · subst ha
    have := hlp hs
    rw [if_pos rfl, if_pos rfl]; omega
  · have := hoth hs a ha
    rw [if_neg ha, if_neg ha]; omega

/-- no messages, balance and flows left alone, nothing more staked -/
theorem HandlerOk.of_quiet {c : Cfg} {s s1 : St} {e : Env} (hF : FInv s) (hfl : s1.flows = s.flows)
    (hfc : s1.flowCounter = s.flowCounter) (hb : s1.bal = s.bal) (hst : staked s1 ≤ staked s) :
    HandlerOk c s s1 e [] :=
  .of_flows_eq hF hfl hfc hb (fun _ => Nat.le_trans hst (Nat.le_add_right _ _)) (fun _ _ _ => Nat.zero_le _)

/-- a handler that leaves balance and staked total alone: the flows' sums carry the inequality -/
theorem HandlerOk.of_staked_eq {c : Cfg} {s s1 : St} {e : Env} {msgs : List Msg} (hb : s1.bal = s.bal)
    (hst : staked s1 = staked s) (hF1 : FInv s1)
    (hle : e.sender ≠ INC → ∀ a, ffSum a s1.flows + outsOf INC a msgs
      ≤ ffSum a s.flows + att c a (fundsOf c e.offers) + insOf INC a msgs) : HandlerOk c s s1 e msgs := by
  refine ⟨hb, hF1, fun hs a => ?_⟩
  have := hle hs a
  unfold owed
  rw [hst]; omega

/-- `open_position` / `expand_position`: the amount newly staked is what the funds check saw arrive -/
theorem pos_handlerOk {c : Cfg} {s s1 : St} {e : Env} {amount : Nat} {msgs : List Msg} (hF : FInv s)
    (hd : s1.flows = s.flows ∧ s1.flowCounter = s.flowCounter ∧ s1.bal = s.bal
      ∧ staked s1 = staked s + amount ∧ validateFunds c e amount = .ok msgs) : HandlerOk c s s1 e msgs := by
  obtain ⟨d1, d2, d3, d4, d5⟩ := hd
  refine .of_flows_eq hF d1 d2 d3 (fun hs => ?_) (fun hs a _ => ?_)
  · obtain ⟨v1, v2⟩ := validateFunds_ledger hs d5
    rw [v1 0, d4]; omega
  · rw [(validateFunds_ledger hs d5).1 a]; exact Nat.zero_le _

/-- `close_position` moves an amount from the open to the closed positions -/
theorem closePos_handlerOk {c : Cfg} {s s1 : St} {e : Env} {dur : Nat} {msgs : List Msg} (hW : WInv s)
    (hF : FInv s) (h : closePosition s e dur = .ok (s1, msgs)) : HandlerOk c s s1 e msgs := by
  obtain ⟨d1, d2, d3, d4, rfl⟩ := closePosition_delta hW h
  exact .of_quiet hF d1 d2 d3 (Nat.le_of_eq d4)

/-- `withdraw` sends the sender's closed positions, which leave the staked total -/
theorem withdraw_handlerOk {c : Cfg} {s s1 : St} {e : Env} {msgs : List Msg} (hF : FInv s)
    (h : withdrawOp s e = .ok (s1, msgs)) : HandlerOk c s s1 e msgs := by
  obtain ⟨d1, d2, d3, d4, d5⟩ := withdrawOp_delta h
  by_cases h0 : closedSum (closedOf s e.sender) = 0
  · rw [d5, if_pos h0]
    exact .of_quiet hF d1 d2 d3 (by omega)
  · rw [d5, if_neg h0]
    refine .of_flows_eq hF d1 d2 d3 (fun hs => ?_) (fun hs a ha => ?_)
    · rw [(io_send_inc hs 0 0 _).1, if_pos rfl]; omega
    · rw [(io_send_inc hs a 0 _).1, if_neg (Ne.symm ha)]; exact Nat.zero_le _

theorem snapshot_handlerOk {c : Cfg} {s s1 : St} {e : Env} {msgs : List Msg} (hF : FInv s)
    (h : takeSnapshot s e = .ok (s1, msgs)) : HandlerOk c s s1 e msgs := by
  obtain ⟨rfl, rfl, -⟩ := takeSnapshot_ok h
  exact .of_quiet hF rfl rfl rfl (Nat.le_refl _)

/-- flows replaced one for one by flows with the same id and history (the claim loop) -/
theorem FInv.sameCore {s s1 : St} (hF : FInv s) (hc : List.Forall₂ SameCore s1.flows s.flows)
    (hfc : s1.flowCounter = s.flowCounter) (hcl : ∀ f ∈ s1.flows, f.claimed ≤ f.funded) : FInv s1 := by
  exact ⟨(forall2_core_ids hc).symm ▸ hF.ids_nodup,
    hfc ▸ forall2_core_all hc hF.ids_le fun _ _ hgc h => hgc.id.symm ▸ h, hcl,
    forall2_core_all hc hF.hist_nodup fun _ _ hgc h => hgc.hist.symm ▸ h⟩

/-- `claim`: what the messages send is what the flows' unclaimed funds went down by -/
theorem claim_handlerOk {c : Cfg} {s s1 : St} {e : Env} {msgs : List Msg} (hF : FInv s)
    (h : claimExec s e = .ok (s1, msgs)) : HandlerOk c s s1 e msgs := by
  obtain ⟨fl, rfl, hcf, -⟩ := claimCore_ok (claimExec_ok h).2
  obtain ⟨c1, c2, c3, -⟩ := claimFlows_ledger _ _ _ hcf
  obtain ⟨c4, c5⟩ := c2 hF.claimed_le
  refine .of_staked_eq rfl rfl (hF.sameCore c1 rfl c4) fun hs a => ?_
  have h5 := c5 hs a
  have h3 := c3 hs a
  show ffSum a fl + _ ≤ _
  omega

/-- `open_flow`: the new flow's amount is covered by what arrived net of the fee -/
theorem openFlow_handlerOk {c : Cfg} {s s1 : St} {e : Env} {a0 amt : Nat} {st en : Option Nat}
    {msgs : List Msg} (hF : FInv s) (h : openFlow c s e a0 amt st en = .ok (s1, msgs)) :
    HandlerOk c s s1 e msgs := by
  obtain ⟨x, y, m0, m1, f, rfl, hfee, hasset, rfl, f1, -, f3, f4, f5, f6, -⟩ := openFlow_ok h
  refine .of_staked_eq rfl rfl
    (hF.insert f1 (by rw [f5]; exact Nat.zero_le _) (by rw [f6]; exact List.nodup_nil)) fun hs a => ?_
  have hl := openFlow_ledger_le hs hfee hasset a
  show ffSum a (insertFlow f s.flows) + _ ≤ _
  rw [ffSum_insertFlow, contrib_fresh f3 f4 f5 f6 a]
  omega

/-- a flow replaced by one in the same asset whose unclaimed funds grew by at most `amt` -/
theorem contrib_le_add {f f2 : Flow} {amt : Nat} (ha : f2.asset = f.asset)
    (hg : f2.funded - f2.claimed ≤ f.funded - f.claimed + amt) (a : Nat) :
    contrib a f2 ≤ contrib a f + (if f.asset = a then amt else 0) := by
  unfold contrib
  rw [ha]
  split <;> omega

/-- `expand_flow`: the flow's unclaimed funds grow by at most the amount that arrived in its asset -/
theorem expandFlow_handlerOk {c : Cfg} {s s1 : St} {e : Env} {id a0 amt : Nat} {en : Option Nat}
    {msgs : List Msg} (hF : FInv s) (h : expandFlow c s e id a0 amt en = .ok (s1, msgs)) :
    HandlerOk c s s1 e msgs := by
  obtain ⟨f, f2, endE, rfl, hf, rfl, hfunds, hadd⟩ := expandFlow_ok h
  obtain ⟨hfm, -⟩ := findFlow_mem hf
  obtain ⟨x1, x2, -, x4, x5, hgrow, -⟩ :=
    expandFlow_flow (hF.hist_nodup f hfm) (hF.claimed_le f hfm) hadd
  refine .of_staked_eq rfl rfl (hF.replace hf x1 x5 x4) fun hs a => ?_
  obtain ⟨e1, e2⟩ := expandFlowFunds_ledger hs hfunds
  have hrem := ffSum_removeFlow_eq a hF.ids_nodup hf
  have hc := contrib_le_add x2 hgrow a
  show ffSum a (insertFlow f2 (removeFlow s.flows id)) + _ ≤ _
  rw [ffSum_insertFlow, e1 a]
  by_cases ha : f.asset = a
  · subst ha
    rw [if_pos rfl] at hc; omega
  · rw [if_neg ha] at hc; omega

/-- `close_flow`: what goes back to the creator is the removed flow's unclaimed funds -/
theorem closeFlow_handlerOk {c : Cfg} {s s1 : St} {e : Env} {id : Nat} {msgs : List Msg} (hF : FInv s)
    (h : closeFlow s e id = .ok (s1, msgs)) : HandlerOk c s s1 e msgs := by
  obtain ⟨f, rfl, hf, -, rfl⟩ := closeFlow_ok h
  refine .of_staked_eq rfl rfl (hF.remove id) fun hs a => ?_
  have hrem := ffSum_removeFlow_eq a hF.ids_nodup hf
  have hout : outsOf INC a [Msg.send INC f.creator f.asset (f.funded - f.claimed)] ≤ contrib a f := by
    unfold contrib
    simp only [outsOf, msgOut]
    split <;> split <;> omega
  show ffSum a (removeFlow s.flows id) + _ ≤ _
  omega

theorem handler_ok {c : Cfg} {s s1 : St} {e : Env} {op : Op} {msgs : List Msg} (hW : WInv s) (hF : FInv s)
    (h : handler c s e op = .ok (s1, msgs)) : HandlerOk c s s1 e msgs := by
  cases op with
  | openPos amt dur recv => exact pos_handlerOk hF (openPosition_delta h)
  | expandPos amt dur recv => exact pos_handlerOk hF (expandPosition_delta hW h)
  | closePos dur => exact closePos_handlerOk hW hF h
  | withdraw => exact withdraw_handlerOk hF h
  | claim => exact claim_handlerOk hF h
  | snapshot => exact snapshot_handlerOk hF h
  | openFlow a0 amt st en => exact openFlow_handlerOk hF h
  | expandFlow id a0 amt en => exact expandFlow_handlerOk hF h
  | closeFlow id => exact closeFlow_handlerOk hF h
  | helperDeposit a0 a1 dur => cases h
  | helperDepositAs x0 x1 a0 a1 dur => cases h

/-- in every asset the contract holds at least what it owes -/
def Backed (s : St) : Prop := ∀ a, owed s a ≤ balOf s INC a

/-- the ledger side of any handler run inside a transaction: funds attached by `sender ≠ contract`,
    handler, messages -/
theorem run_backed {c : Cfg} {s s1 : St} {e : Env} {msgs : List Msg} {b0 b b1 : Bal}
    {al : List (Nat × Nat)}
    (hB : ∀ a, owed s a ≤ aget b0 (INC, a))
    (hatt : ∀ a, aget b (INC, a) = aget b0 (INC, a) + att c a (fundsOf c e.offers))
    (hok : HandlerOk c { s with bal := b } s1 e msgs) (hs : e.sender ≠ INC)
    (hmsg : applyMsgs c s1.bal al msgs = .ok b1) : ∀ a, owed s1 a ≤ aget b1 (INC, a) := by
  intro a
  have h1 := applyMsgs_eff INC a msgs _ _ _ hmsg
  have h2 := hok.le hs a
  have h3 := hok.bal
  simp only at h3
  rw [h3] at h1
  have h4 : owed ({ s with bal := b } : St) a = owed s a := rfl
  rw [h4] at h2
  have := hB a
  have := hatt a
  omega

/-- nothing the helper and the pair do before the helper's call touches the contract's balances: what the
    call finds there is what was there plus the LP the helper attaches -/
theorem HelperFrame.arrives {c : Cfg} {b0 b : Bal} {e : Env} {a1 lp : Nat} (h : HelperFrame c b0 e a1 lp b)
    (hs : e.sender ≠ INC) (a : Nat) : aget b (INC, a) = aget b0 (INC, a) + att c a (fundsOf c [(0, lp)]) := by
  obtain ⟨b1, b2, b3, b4, b5, lp0, hb1, hb2, hb3, hb4, hb5, -, hb⟩ := h
  have t0 := attachFunds_eff (x := e.sender) (y := HELPER) INC a _ _ _ hb1
  rw [if_neg (fun hh => hs hh.1), if_neg (fun hh => helper_ne_inc hh.1)] at t0
  have t1 := applyMsgs_eff INC a _ _ _ _ hb2
  rw [(io_pull_other hs helper_ne_inc a 3 a1).1, (io_pull_other hs helper_ne_inc a 3 a1).2] at t1
  have t2 := attachFunds_eff (x := HELPER) (y := PAIR) INC a _ _ _ hb3
  rw [if_neg (fun hh => helper_ne_inc hh.1), if_neg (fun hh => pair_ne_inc hh.1)] at t2
  have t3 := applyMsgs_eff INC a _ _ _ _ hb4
  rw [(io_pull_other helper_ne_inc pair_ne_inc a 3 a1).1, (io_pull_other helper_ne_inc pair_ne_inc a 3 a1).2] at t3
  have t4 := applyMsgs_eff INC a _ _ _ _ hb5
  rw [(io_send_other pair_ne_inc helper_ne_inc a 0 lp0).1, (io_send_other pair_ne_inc helper_ne_inc a 0 lp0).2] at t4
  by_cases hn : c.native 0 = true
  · rw [if_pos hn] at hb
    have t5 := attachFunds_eff (x := HELPER) (y := INC) INC a _ _ _ hb
    rw [if_neg (fun hh => helper_ne_inc hh.1), if_pos ⟨rfl, helper_ne_inc⟩] at t5
    have : fundsOf c [(0, lp)] = [(0, lp)] := by simp [fundsOf, hn]
    rw [this]; omega
  · rw [if_neg hn] at hb
    injection hb with hb
    have : fundsOf c [(0, lp)] = [] := by simp [fundsOf, hn]
    rw [this, ← hb]; simp only [att] at t0 ⊢; omega

/-- what a sender other than the contract attached has arrived in full when the handler runs -/
theorem Call.arrives {c : Cfg} {b0 b : Bal} {e e' : Env} {op op' : Op} (h : Call c b0 e op b e' op')
    (hs : e.sender ≠ INC) (a : Nat) : aget b (INC, a) = aget b0 (INC, a) + att c a (fundsOf c e'.offers) := by
  cases h with
  | self _ _ hb =>
    have t := attachFunds_eff (x := e.sender) (y := INC) INC a _ _ _ hb
    rw [if_neg (fun hh => hs hh.1), if_pos ⟨rfl, hs⟩] at t
    omega
  | helperOpen _ _ _ _ _ hb => exact hb.arrives hs a
  | helperExpand _ _ _ _ _ hb => exact hb.arrives hs a

theorem step_backed {c : Cfg} {s s' : St} {e : Env} {op : Op} (hW : WInv s) (hF : FInv s) (hB : Backed s)
    (hs : e.sender ≠ INC) (h : step c s e op = .ok s') : FInv s' ∧ Backed s' := by
  obtain ⟨e', op', b, s1, msgs, b1, hc, h1, hb1, rfl⟩ := step_ok h
  have hok := handler_ok (hW.with_bal b) (hF.with_bal b) h1
  exact ⟨hok.finv.with_bal b1,
    fun a => run_backed (s := s) (b0 := s.bal) (fun a => hB a) (hc.arrives hs) hok (hc.sender hs) hb1 a⟩

/-- the flow invariant alone needs no assumption on the senders -/
theorem step_FInv {c : Cfg} {s s' : St} {e : Env} {op : Op} (hW : WInv s) (hF : FInv s)
    (h : step c s e op = .ok s') : FInv s' := by
  obtain ⟨e', op', b, s1, msgs, b1, -, h1, -, rfl⟩ := step_ok h
  exact (handler_ok (hW.with_bal b) (hF.with_bal b) h1).finv.with_bal b1

theorem reach_FInv {c : Cfg} {s : St} (hW : WInv s) (hF : FInv s) (ops : List (Env × Op)) :
    FInv (reach c s ops) :=
  (reach_keeps (P := fun s => WInv s ∧ FInv s) (fun h hs => ⟨step_WInv h.1 hs, step_FInv h.1 h.2 hs⟩)
    ⟨hW, hF⟩ ops).2

/-- the contract never calls itself (funds attached to a self-call add nothing to its balance) -/
def SendersOk (ops : List (Env × Op)) : Prop := ∀ p ∈ ops, p.1.sender ≠ INC

theorem reach_backed {c : Cfg} {s : St} (hW : WInv s) (hF : FInv s) (hB : Backed s) :
    ∀ (ops : List (Env × Op)), SendersOk ops → FInv (reach c s ops) ∧ Backed (reach c s ops) := by
  intro ops
  induction ops generalizing s with
  | nil => intro _; exact ⟨hF, hB⟩
  | cons p t ih =>
    intro hso
    obtain ⟨e, op⟩ := p
    have hs : e.sender ≠ INC := hso (e, op) List.mem_cons_self
    have hso' : SendersOk t := fun q hq => hso q (List.mem_cons_of_mem _ hq)
    show FInv (reach c (stepOrStay c s e op) t) ∧ Backed (reach c (stepOrStay c s e op) t)
    unfold stepOrStay
    split
    · rename_i s' hstep
      obtain ⟨hF', hB'⟩ := step_backed hW hF hB hs hstep
      exact ih (step_WInv hW hstep) hF' hB' hso'
    · exact ih hW hF hB hso'

theorem init_backed (e0 : Nat) (bal : Bal) : Backed (init e0 bal) := by
  intro a
  have : owed (init e0 bal) a = 0 := by
    unfold owed init staked
    simp [ffSum, sumBy]
  rw [this]; exact Nat.zero_le _

end WW.Inc
