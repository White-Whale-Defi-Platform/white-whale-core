/-
  Lemmas for C19, second part: what ONE transaction does to a registry and to the table of child contracts,
  stated once for the three kinds of registry (`RegChange`, `RegTx`); from it the invariant of every
  reachable state and "distinct entries point to distinct children". Core Lean only.
-/
import WW.Proofs.Factory
namespace WW.Factory
open WW

/-- `r'` / `n'` (entries / number of children after a transaction) relative to `r` / `n` (before):
    nothing changed; or ONE child was instantiated and an entry pointing to it was inserted under a key that
    had NO entry; or — only where the registry has a removal at all (`erasable`) — an entry was erased (its
    child stays in the chain). There is no fourth case: in particular an existing entry is never
    overwritten and a child is never instantiated without becoming the child of a fresh key. -/
inductive RegChange {ε : Type} (erasable : Prop) (childOf : ε → Nat) (r : List (Bytes × ε)) (n : Nat) :
    List (Bytes × ε) → Nat → Prop
  | same : RegChange erasable childOf r n r n
  | insert (k : Bytes) (v : ε) : regLookup k r = none → childOf v = n →
      RegChange erasable childOf r n (regInsert k v r) (n + 1)
  | erase (k : Bytes) : erasable → RegChange erasable childOf r n (regErase k r) n

/-- One transaction as one registry sees it, for any of the three kinds of registry (`reg` and `kids` read the
    entries and the child table off its record): the registry's invariant `I` survives, and entries and
    number of children change in one of `RegChange`'s ways. -/
def RegTx {ρ ε κ : Type} (I : ρ → Prop) (erasable : Prop) (childOf : ε → Nat) (reg : ρ → List (Bytes × ε))
    (kids : ρ → List κ) (r r' : ρ) : Prop :=
  (I r → I r') ∧ RegChange erasable childOf (reg r) (kids r).length (reg r') (kids r').length

theorem RegTx.same {ρ ε κ : Type} {I : ρ → Prop} {er : Prop} {childOf : ε → Nat}
    {reg : ρ → List (Bytes × ε)} {kids : ρ → List κ} {r : ρ} : RegTx I er childOf reg kids r r :=
  ⟨id, .same⟩

abbrev PoolTx (cfg : Cfg) := RegTx (PoolInv cfg) True PoolEntry.child PoolReg.reg PoolReg.kids
abbrev VaultTx (cfg : Cfg) := RegTx (VaultInv cfg) True VaultEntry.child VaultReg.reg VaultReg.kids
abbrev IncTx (cfg : Cfg) := RegTx (IncInv cfg) False id IncReg.reg IncReg.kids

theorem PoolReg.create_tx {cfg : Cfg} {d : Nat → Res Nat} {r r' : PoolReg} {idx : List Nat} {pt : Option Nat}
    {inst : Bool} (h : r.create cfg d idx pt inst = .ok r') : PoolTx cfg r r' := by
  refine ⟨fun hi => hi.create h, ?_⟩
  obtain ⟨-, ds, -, key, -, hnone, -, -, -, -, rfl⟩ := PoolReg.create_eq_ok.1 h
  exact List.length_append ▸ .insert key _ hnone rfl

theorem PoolReg.remove_tx {cfg : Cfg} {r r' : PoolReg} {idx : List Nat} (h : r.remove cfg idx = .ok r') :
    PoolTx cfg r r' := by
  refine ⟨fun hi => hi.remove h, ?_⟩
  obtain ⟨key, -, -, -, rfl⟩ := PoolReg.remove_eq_ok.1 h
  exact .erase key trivial

/-- funding touches nothing of what a registry entry repeats of its child -/
theorem PoolReg.fund_tx {cfg : Cfg} {r r' : PoolReg} {idx : List Nat} (h : r.fund cfg idx = .ok r') :
    PoolTx cfg r r' := by
  obtain ⟨e₀, -, rfl⟩ := PoolReg.fund_eq_ok.1 h
  refine ⟨fun hi => ⟨hi.sorted, hi.keyOk, fun k e he => ?_⟩, ?_⟩
  · obtain ⟨c, hc, hrep⟩ := hi.child k e he
    show ∃ c', (setFunded r.kids e₀.child)[e.child]? = some c' ∧ _
    rw [setFunded_eq_modify, List.getElem?_modify, hc]
    by_cases hn : e₀.child = e.child
    · exact ⟨_, congrArg some (if_pos hn), hrep⟩
    · exact ⟨_, congrArg some (if_neg hn), hrep⟩
  · show RegChange _ _ _ _ r.reg (setFunded r.kids e₀.child).length
    rw [setFunded_eq_modify, List.length_modify]
    exact .same

theorem VaultReg.create_tx {cfg : Cfg} {r r' : VaultReg} {i : Nat} (h : r.create cfg i = .ok r') :
    VaultTx cfg r r' := by
  refine ⟨fun hi => hi.create h, ?_⟩
  obtain ⟨a, -, hnone, -, -, rfl⟩ := VaultReg.create_eq_ok.1 h
  exact List.length_append ▸ .insert a.ref _ hnone rfl

theorem VaultReg.remove_tx {cfg : Cfg} {r r' : VaultReg} {i : Nat} (h : r.remove cfg i = .ok r') :
    VaultTx cfg r r' := by
  refine ⟨fun hi => hi.remove h, ?_⟩
  obtain ⟨a, -, -, -, rfl⟩ := VaultReg.remove_eq_ok.1 h
  exact .erase a.ref trivial

theorem IncReg.create_tx {cfg : Cfg} {r r' : IncReg} {i : Nat} (h : r.create cfg i = .ok r') :
    IncTx cfg r r' := by
  refine ⟨fun hi => hi.create h, ?_⟩
  obtain ⟨a, -, hnone, -, rfl⟩ := IncReg.create_eq_ok.1 h
  exact List.length_append ▸ .insert a.raw _ hnone rfl

/-- a successful transaction is, for each of the four registries, one of that registry's own transactions
    (or nothing), and keeps the route table sorted -/
theorem step_tx {cfg : Cfg} {s s' : St} {op : Op} {out : List Nat} (h : step cfg s op = .ok (s', out)) :
    PoolTx cfg s.pairs s'.pairs ∧ PoolTx cfg s.trios s'.trios ∧ VaultTx cfg s.vaults s'.vaults ∧
    IncTx cfg s.incs s'.incs ∧ (SSorted s.routes → SSorted s'.routes) := by
  cases op
  case swapRoute =>
    simp only [step, Res.bind_eq_ok] at h
    obtain ⟨_, -, _, -, h⟩ := h
    split at h
    · cases h
    · obtain ⟨_, -, h⟩ := Res.bind_eq_ok.1 h
      cases h
      exact ⟨.same, .same, .same, .same, id⟩
  -- every other operation is one call followed by `pure`
  all_goals obtain ⟨p, hp, h⟩ := Res.bind_eq_ok.1 h
  all_goals cases h
  case addDec => exact ⟨.same, .same, .same, .same, id⟩
  case createPair => exact ⟨PoolReg.create_tx hp, .same, .same, .same, id⟩
  case createTrio => exact ⟨.same, PoolReg.create_tx hp, .same, .same, id⟩
  case removePair => exact ⟨PoolReg.remove_tx hp, .same, .same, .same, id⟩
  case removeTrio => exact ⟨.same, PoolReg.remove_tx hp, .same, .same, id⟩
  case fund => exact ⟨PoolReg.fund_tx hp, .same, .same, .same, id⟩
  case createVault => exact ⟨.same, .same, VaultReg.create_tx hp, .same, id⟩
  case removeVault => exact ⟨.same, .same, VaultReg.remove_tx hp, .same, id⟩
  case createInc => exact ⟨.same, .same, .same, IncReg.create_tx hp, id⟩
  case addRoutes =>
    obtain ⟨routes, rfl, hsort, -⟩ := addRoutes_ok hp
    exact ⟨.same, .same, .same, .same, hsort⟩
  case removeRoutes =>
    obtain ⟨routes, rfl, hsort⟩ := removeRoutes_ok hp
    exact ⟨.same, .same, .same, .same, hsort⟩
  case swap => exact ⟨.same, .same, .same, .same, id⟩

/-- … and so is a rejected one, which changes nothing -/
theorem apply_tx (cfg : Cfg) (s : St) (op : Op) :
    PoolTx cfg s.pairs (apply cfg s op).pairs ∧ PoolTx cfg s.trios (apply cfg s op).trios ∧
    VaultTx cfg s.vaults (apply cfg s op).vaults ∧ IncTx cfg s.incs (apply cfg s op).incs ∧
    (SSorted s.routes → SSorted (apply cfg s op).routes) := by
  unfold WW.Factory.apply
  split
  · exact step_tx ‹_›
  · exact ⟨.same, .same, .same, .same, id⟩

theorem apply_eq_of_not_ok {cfg : Cfg} {s : St} {op : Op} (h : ∀ x, step cfg s op ≠ .ok x) :
    apply cfg s op = s := by
  unfold WW.Factory.apply
  split
  · rename_i s' out hs
    exact absurd hs (h (s', out))
  · rfl

/-- the invariant of every reachable state: each registry's own invariant, and a sorted route table -/
structure Inv (cfg : Cfg) (s : St) : Prop where
  pairs : PoolInv cfg s.pairs
  trios : PoolInv cfg s.trios
  vaults : VaultInv cfg s.vaults
  incs : IncInv cfg s.incs
  routes : SSorted s.routes

theorem Inv.apply {cfg : Cfg} {s : St} (op : Op) (hi : Inv cfg s) : Inv cfg (apply cfg s op) :=
  have ⟨hp, ht, hv, hn, hr⟩ := apply_tx cfg s op
  ⟨hp.1 hi.pairs, ht.1 hi.trios, hv.1 hi.vaults, hn.1 hi.incs, hr hi.routes⟩

theorem Inv.reachable (cfg : Cfg) (ops : List Op) : Inv cfg (reach cfg St.init ops) :=
  reach_induction (fun _ op hi => hi.apply op) ops
    ⟨PoolInv.init cfg, PoolInv.init cfg, VaultInv.init cfg, IncInv.init cfg, .nil⟩

/-- an entry present before a transaction is, afterwards, either still there with the same value (the same
    child) or gone — never re-pointed -/
theorem RegChange.lookup_stable {ε : Type} {er : Prop} {childOf : ε → Nat} {r r' : List (Bytes × ε)} {n n' : Nat}
    (hc : RegChange er childOf r n r' n') {k : Bytes} {v : ε} (hl : regLookup k r = some v) :
    regLookup k r' = some v ∨ regLookup k r' = none := by
  cases hc with
  | same => exact .inl hl
  | insert k₀ v₀ hnone _ => exact .inl (regLookup_regInsert_of_none hnone hl)
  | erase k₀ _ =>
    rw [regLookup_regErase]
    split
    · exact .inr rfl
    · exact .inl hl

/-- the number of children grows by one exactly when an entry for a fresh key, pointing to the new child,
    appears; otherwise it stays -/
theorem RegChange.children {ε : Type} {er : Prop} {childOf : ε → Nat} {r r' : List (Bytes × ε)} {n n' : Nat}
    (hc : RegChange er childOf r n r' n') :
    n' = n ∨ (n' = n + 1 ∧ ∃ k v, regLookup k r = none ∧ regLookup k r' = some v ∧ childOf v = n) := by
  cases hc with
  | same => exact .inl rfl
  | insert k v hnone hch => exact .inr ⟨rfl, k, v, hnone, (regLookup_regInsert k k v r).trans (if_pos rfl), hch⟩
  | erase k _ => exact .inl rfl

theorem RegChange.lookup_kept {ε : Type} {childOf : ε → Nat} {r r' : List (Bytes × ε)} {n n' : Nat}
    (hc : RegChange False childOf r n r' n') {k : Bytes} {v : ε} (hl : regLookup k r = some v) :
    regLookup k r' = some v := by
  cases hc with
  | same => exact hl
  | insert k₀ v₀ hnone _ => exact regLookup_regInsert_of_none hnone hl
  | erase _ hf => exact hf.elim

/-- every entry's child exists (`< n`), and two entries with the same child are under the same key -/
def ChildOk {ε : Type} (childOf : ε → Nat) (r : List (Bytes × ε)) (n : Nat) : Prop :=
  (∀ k v, (k, v) ∈ r → childOf v < n) ∧
  (∀ k₁ v₁ k₂ v₂, (k₁, v₁) ∈ r → (k₂, v₂) ∈ r → childOf v₁ = childOf v₂ → k₁ = k₂)

theorem ChildOk.nil {ε : Type} (childOf : ε → Nat) : ChildOk childOf ([] : List (Bytes × ε)) 0 :=
  ⟨nofun, nofun⟩

theorem RegChange.childOk {ε : Type} {er : Prop} {childOf : ε → Nat} {r r' : List (Bytes × ε)} {n n' : Nat}
    (hc : RegChange er childOf r n r' n') (h : ChildOk childOf r n) : ChildOk childOf r' n' := by
  cases hc with
  | same => exact h
  | insert k v _ hch =>
    -- the new entry's child is `n`, every old entry's child is below `n`
    refine ⟨fun k₁ v₁ hm => ?_, fun k₁ v₁ k₂ v₂ h₁ h₂ he => ?_⟩
    · rcases mem_regInsert hm with heq | hm
      · cases heq; exact hch ▸ Nat.lt_succ_self n
      · exact Nat.lt_succ_of_lt (h.1 k₁ v₁ hm)
    · rcases mem_regInsert h₁ with e₁ | h₁ <;> rcases mem_regInsert h₂ with e₂ | h₂
      · cases e₁; cases e₂; rfl
      · cases e₁
        exact absurd (he ▸ hch ▸ h.1 k₂ v₂ h₂) (Nat.lt_irrefl _)
      · cases e₂
        exact absurd (he ▸ hch ▸ h.1 k₁ v₁ h₁) (Nat.lt_irrefl _)
      · exact h.2 k₁ v₁ k₂ v₂ h₁ h₂ he
  | erase k _ =>
    exact ⟨fun k₁ v₁ hm => h.1 k₁ v₁ (mem_regErase hm),
      fun k₁ v₁ k₂ v₂ h₁ h₂ he => h.2 k₁ v₁ k₂ v₂ (mem_regErase h₁) (mem_regErase h₂) he⟩

def ChildrenOk (s : St) : Prop :=
  ChildOk PoolEntry.child s.pairs.reg s.pairs.kids.length ∧
  ChildOk PoolEntry.child s.trios.reg s.trios.kids.length ∧
  ChildOk VaultEntry.child s.vaults.reg s.vaults.kids.length ∧
  ChildOk id s.incs.reg s.incs.kids.length

theorem ChildrenOk.init : ChildrenOk St.init :=
  ⟨ChildOk.nil _, ChildOk.nil _, ChildOk.nil _, ChildOk.nil _⟩

theorem ChildrenOk.reach {cfg : Cfg} {s : St} (ops : List Op) (h : ChildrenOk s) :
    ChildrenOk (reach cfg s ops) :=
  reach_induction (fun s op h =>
    have ⟨c1, c2, c3, c4, _⟩ := apply_tx cfg s op
    ⟨c1.2.childOk h.1, c2.2.childOk h.2.1, c3.2.childOk h.2.2.1, c4.2.childOk h.2.2.2⟩) ops h

end WW.Factory
