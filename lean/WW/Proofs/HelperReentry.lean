/- C11, re-entrant transactions on the frontend helper's path (`WW.Model.HelperReentry`): who the messages of the
   deposit and of every handler move tokens between; the helper's books and the custody invariant through the nested
   operation, through re-entrant transactions and through histories of them; whom the reply credits. -/
import WW.Proofs.HelperKeeps
import WW.Proofs.CustodyHist
namespace WW.Inc
open WW WW.Gen

def Msg.src : Msg → Addr
  | .send s _ _ _ => s
  | .pull s _ _ _ => s
def Msg.dst : Msg → Addr
  | .send _ d _ _ => d
  | .pull _ d _ _ => d

/-- account `X` is neither source nor destination of any of the messages -/
def Avoids (X : Addr) (msgs : List Msg) : Prop := ∀ m ∈ msgs, m.src ≠ X ∧ m.dst ≠ X

theorem Avoids.nil (X : Addr) : Avoids X [] := fun m hm => (by cases hm)

theorem Avoids.append {X : Addr} {l1 l2 : List Msg} (h1 : Avoids X l1) (h2 : Avoids X l2) : Avoids X (l1 ++ l2) :=
  fun m hm => (List.mem_append.mp hm).elim (h1 m) (h2 m)

theorem Avoids.ite {X : Addr} {p : Prop} [Decidable p] {l1 l2 : List Msg} (h1 : Avoids X l1) (h2 : Avoids X l2) :
    Avoids X (if p then l1 else l2) := by
  split
  · exact h1
  · exact h2

theorem Avoids.single_send {X src dst : Addr} (a amt : Nat) (h1 : src ≠ X) (h2 : dst ≠ X) :
    Avoids X [Msg.send src dst a amt] := by
  intro m hm
  cases List.mem_singleton.mp hm
  exact ⟨h1, h2⟩

theorem Avoids.single_pull {X src dst : Addr} (a amt : Nat) (h1 : src ≠ X) (h2 : dst ≠ X) :
    Avoids X [Msg.pull src dst a amt] := by
  intro m hm
  cases List.mem_singleton.mp hm
  exact ⟨h1, h2⟩

theorem Avoids.eff {X : Addr} (a : Nat) : ∀ {msgs : List Msg}, Avoids X msgs → insOf X a msgs = 0 ∧ outsOf X a msgs = 0 := by
  intro msgs
  induction msgs with
  | nil => intro _; exact ⟨rfl, rfl⟩
  | cons m t ih =>
    intro h
    obtain ⟨i1, i2⟩ := ih (fun x hx => h x (List.mem_cons_of_mem _ hx))
    obtain ⟨h1, h2⟩ := h m List.mem_cons_self
    cases m
    all_goals
      simp only [Msg.src, Msg.dst] at h1 h2
      simp [insOf, outsOf, msgIn, msgOut, i1, i2, h1, h2]

theorem Avoids.bal {c : Cfg} {X : Addr} {msgs : List Msg} {b b' : Bal} {al : List (Nat × Nat)} (h : Avoids X msgs)
    (hb : applyMsgs c b al msgs = .ok b') (a : Nat) : aget b' (X, a) = aget b (X, a) := by
  have t := applyMsgs_eff X a _ _ _ _ hb
  rw [(h.eff a).1, (h.eff a).2] at t
  exact t

theorem attachFunds_other {c : Cfg} {b b' : Bal} {x y X : Addr} {funds : List (Nat × Nat)} (hx : x ≠ X) (hy : y ≠ X)
    (h : attachFunds c b x y funds = .ok b') (a : Nat) : aget b' (X, a) = aget b (X, a) := by
  have t := attachFunds_eff (x := x) (y := y) X a _ _ _ h
  rw [if_neg (fun hh => hx hh.1), if_neg (fun hh => hy hh.1)] at t
  exact t

/-- `hdPull_other` … `hdReply_other`: an account that is neither the depositor, nor the helper, nor the pair is
    not touched by the first three messages; the reply moves tokens between the helper and the contract only -/
theorem hdPull_other {c : Cfg} {s s' : St} {e : Env} {a1 : Nat} (h : hdPull c s e a1 = .ok s') (X : Addr)
    (h1 : X ≠ e.sender) (h2 : X ≠ HELPER) (a : Nat) : balOf s' X a = balOf s X a := by
  obtain ⟨b, rfl, -, hb⟩ := hdPull_spec h
  exact (Avoids.single_pull 3 a1 h1.symm h2.symm).bal hb a

theorem hdPair_other {c : Cfg} {s s' : St} {e : Env} {a0 a1 lp : Nat} (h : hdPair c s e a0 a1 = .ok (s', lp)) (X : Addr)
    (h2 : X ≠ HELPER) (h3 : X ≠ PAIR) (a : Nat) : balOf s' X a = balOf s X a := by
  obtain ⟨b1, b, rfl, -, -, hb1, hb⟩ := hdPair_spec h
  exact ((Avoids.single_pull 3 a1 h2.symm h3.symm).bal hb a).trans (attachFunds_other h2.symm h3.symm hb1 a)

theorem hdMint_other {c : Cfg} {s s' : St} {lp : Nat} (h : hdMint c s lp = .ok s') (X : Addr)
    (h2 : X ≠ HELPER) (h3 : X ≠ PAIR) (a : Nat) : balOf s' X a = balOf s X a := by
  obtain ⟨b, rfl, hb⟩ := hdMint_spec h
  exact (Avoids.single_send 0 lp h3.symm h2.symm).bal hb a

theorem hdReply_other {c : Cfg} {s s' : St} {e : Env} {u : Addr} {dur : Nat} (h : hdReply c s e u dur = .ok s') (X : Addr)
    (h1 : X ≠ HELPER) (h2 : X ≠ INC) (a : Nat) : balOf s' X a = balOf s X a := by
  simpa [msgIn, msgOut, h1.symm, h2.symm] using hdReply_ledger h X a

/-- the funds checks of the position and flow handlers pull from the sender to the contract, if at all -/
theorem validateFunds_avoids {c : Cfg} {e : Env} {amount : Nat} {m : List Msg} {X : Addr}
    (h : validateFunds c e amount = .ok m) (hs : e.sender ≠ X) (hi : INC ≠ X) : Avoids X m := by
  obtain ⟨-, ⟨-, -, rfl⟩ | ⟨-, -, rfl⟩⟩ := validateFunds_spec h
  · exact .nil X
  · exact .single_pull _ _ hs hi

theorem expandFlowFunds_avoids {c : Cfg} {e : Env} {a amount : Nat} {m : List Msg} {X : Addr}
    (h : expandFlowFunds c e a amount = .ok m) (hs : e.sender ≠ X) (hi : INC ≠ X) : Avoids X m := by
  obtain ⟨-, -, -, rfl⟩ | ⟨-, -, rfl⟩ := expandFlowFunds_spec h
  · exact .nil X
  · exact .single_pull _ _ hs hi

/-- `open_flow`: fee refund to the sender, fee to the collector, flow asset from the sender to the contract -/
theorem openFlowMsgs_avoids (c : Cfg) (e : Env) (a y p : Nat) {X : Addr} (hs : e.sender ≠ X) (hi : INC ≠ X)
    (hc : COLLECTOR ≠ X) : Avoids X (openFlowMsgs c e a y p) :=
  .append
    (.ite (.append (.ite (.single_send _ _ hi hs) (.nil X)) (.single_send _ _ hi hc)) (.single_pull _ _ hs hc))
    (.ite (.nil X) (.single_pull _ _ hs hi))

/-- **message parties**: a handler's messages move tokens between the contract, the sender, the fee collector
    and flow creators only — an account that is none of these is neither paid nor charged, and is not the creator
    of a flow afterwards either -/
theorem handler_avoids {c : Cfg} {s s' : St} {e : Env} {op : Op} {msgs : List Msg} (hW : WInv s) (hF : FInv s)
    (h : handler c s e op = .ok (s', msgs)) (X : Addr) (hs : e.sender ≠ X) (hi : INC ≠ X) (hc : COLLECTOR ≠ X)
    (hcr : ∀ f ∈ s.flows, f.creator ≠ X) : Avoids X msgs ∧ (∀ f ∈ s'.flows, f.creator ≠ X) := by
  cases op with
  | openPos amt dur recv =>
    obtain ⟨_, rfl, hv, -⟩ := openPosition_ok rfl h
    exact ⟨validateFunds_avoids hv hs hi, hcr⟩
  | expandPos amt dur recv =>
    obtain ⟨_, _, _, _, rfl, hv, -⟩ := expandPosition_ok rfl h
    exact ⟨validateFunds_avoids hv hs hi, hcr⟩
  | closePos dur =>
    obtain ⟨_, _, _, rfl, rfl, -⟩ := closePosition_ok h
    exact ⟨.nil X, hcr⟩
  | withdraw =>
    obtain ⟨rfl, -, rfl⟩ := withdrawOp_ok (s := s) (e := e) h
    exact ⟨.ite (.nil X) (.single_send _ _ hi hs), hcr⟩
  | claim =>
    obtain ⟨fl, rfl, hcf, -⟩ := claimCore_ok (claimExec_ok (s := s) (e := e) h).2
    obtain ⟨c1, -, -, c4⟩ := claimFlows_ledger _ _ _ hcf
    refine ⟨fun m hm => ?_, forall2_core_all c1 hcr fun _ _ hcore h => hcore.creator ▸ h⟩
    obtain ⟨_, _, rfl⟩ := c4 m hm
    exact ⟨hi, hs⟩
  | snapshot =>
    obtain ⟨rfl, rfl, -⟩ := takeSnapshot_ok h
    exact ⟨.nil X, hcr⟩
  | openFlow a0 amt st en =>
    obtain ⟨x, y, m0, m1, f, rfl, hfee, hasset, rfl, -, f2, -⟩ := openFlow_ok h
    obtain ⟨-, -, p, hm, -⟩ := openFlow_msgs hfee hasset
    exact ⟨hm ▸ openFlowMsgs_avoids c e a0 y p hs hi hc, forall_mem_insertFlow (P := (·.creator ≠ X)) (f2 ▸ hs) hcr⟩
  | expandFlow id a0 amt en =>
    obtain ⟨f, f2, endE, rfl, hf, -, hfunds, hadd⟩ := expandFlow_ok h
    obtain ⟨hfm, -⟩ := findFlow_mem hf
    have hf2 := (expandFlow_flow (hF.hist_nodup f hfm) (hF.claimed_le f hfm) hadd).2.2.1
    exact ⟨expandFlowFunds_avoids hfunds hs hi,
      forall_mem_insertFlow (P := (·.creator ≠ X)) (hf2 ▸ hcr f hfm) (forall_mem_removeFlow hcr id)⟩
  | closeFlow id =>
    obtain ⟨f, rfl, hf, -, rfl⟩ := closeFlow_ok (s := s) (e := e) h
    exact ⟨.single_send _ _ hi (hcr f (findFlow_mem hf).1), forall_mem_removeFlow hcr id⟩
  | helperDeposit a0 a1 dur => cases h
  | helperDepositAs x0 x1 a0 a1 dur => cases h

theorem replyPos_delta {c : Cfg} {s s' : St} {e : Env} {amount dur : Nat} {u : Addr} {has : Bool} {msgs : List Msg}
    (hW : WInv s)
    (h : (if has then expandPosition c s e amount dur (some u) else openPosition c s e amount dur (some u)) = .ok (s', msgs)) :
    (s'.flows = s.flows ∧ s'.flowCounter = s.flowCounter ∧ s'.bal = s.bal
      ∧ staked s' = staked s + amount ∧ validateFunds c e amount = .ok msgs) ∧ WInv s' := by
  split at h
  · exact ⟨expandPosition_delta hW h, expandPosition_WInv hW h⟩
  · exact ⟨openPosition_delta h, openPosition_WInv hW h⟩

theorem hdReply_flows {c : Cfg} {s s' : St} {e : Env} {u : Addr} {dur : Nat} (h : hdReply c s e u dur = .ok s') :
    s'.flows = s.flows := by
  obtain ⟨b2, s3, msgs, b3, -, h3, -, rfl⟩ := hdReply_spec h
  exact (replyPos_funds h3).2.1

theorem hdReply_inv {c : Cfg} {s s' : St} {e : Env} {u : Addr} {dur : Nat} (hW : WInv s) (hF : FInv s)
    (h : hdReply c s e u dur = .ok s') : WInv s' ∧ FInv s' := by
  obtain ⟨b2, s3, msgs, b3, -, h3, -, rfl⟩ := hdReply_spec h
  obtain ⟨⟨d1, d2, -⟩, hW3⟩ := replyPos_delta (hW.with_bal b2) h3
  exact ⟨hW3.with_bal b3, ((hF.with_bal b2).frame d1 d2).with_bal b3⟩

theorem hdReply_staked {c : Cfg} {s s' : St} {e : Env} {u : Addr} {dur : Nat} (hW : WInv s)
    (h : hdReply c s e u dur = .ok s') : staked s' = staked s + balOf s HELPER 0 := by
  obtain ⟨b2, s3, msgs, b3, -, h3, -, rfl⟩ := hdReply_spec h
  exact (replyPos_delta (hW.with_bal b2) h3).1.2.2.2.1

/-- the custody invariant through the reply: what leaves the helper for the contract is what is staked -/
theorem hdReply_custody {c : Cfg} {s s' : St} {e : Env} {u : Addr} {dur K : Nat} (hI : CInv s e.epoch K)
    (h : hdReply c s e u dur = .ok s') : CInv s' e.epoch K := by
  have hl := hdReply_ledger h INC 0
  simp [msgIn, msgOut, helper_ne_inc] at hl
  have hfl := hdReply_flows h
  obtain ⟨hW', hF'⟩ := hdReply_inv hI.winv hI.finv h
  refine ⟨hW', hF', ?_, ?_, ?_⟩
  · unfold HistLe; rw [hfl]; exact hI.hist
  · unfold CreatorsOk; rw [hfl]; exact hI.creators
  · have hb := hI.bal
    unfold owed at hb ⊢
    rw [hfl, hdReply_staked hI.winv h, hl]
    simp only [if_true] at hb ⊢
    omega

/-- the part of the helper's books that does not speak of the ledger: the weight and flow invariants, and the
    helper has created no flow -/
structure HBooks (s : St) : Prop where
  winv : WInv s
  finv : FInv s
  creators : ∀ f ∈ s.flows, f.creator ≠ HELPER

theorem HBooks.ledger {s t : St} (h : HBooks s) (hl : LedgerOnly s t) : HBooks t := by
  obtain ⟨b, rfl⟩ := hl
  exact ⟨h.winv.with_bal b, h.finv.with_bal b, h.creators⟩

theorem hdReply_books {c : Cfg} {s s' : St} {e : Env} {u : Addr} {dur : Nat} (hB : HBooks s)
    (h : hdReply c s e u dur = .ok s') : HBooks s' :=
  ⟨(hdReply_inv hB.winv hB.finv h).1, (hdReply_inv hB.winv hB.finv h).2, hdReply_flows h ▸ hB.creators⟩

/-- **the helper's books through one plain transaction** sent by somebody else, in a state where the helper has
    created no flow: its balance of every asset is what it was, or — the LP, after a deposit through it — zero;
    it has still created no flow -/
theorem step_helper_row {c : Cfg} {s s' : St} {e : Env} {op : Op} (hB : HBooks s) (hs : e.sender ≠ HELPER)
    (h : step c s e op = .ok s') :
    HBooks s' ∧ ∀ a, balOf s' HELPER a = balOf s HELPER a ∨ a = 0 ∧ balOf s' HELPER a = 0 := by
  have hW' := step_WInv hB.winv h
  have hF' := step_FInv hB.winv hB.finv h
  obtain ⟨e', op', b, s1, msgs, b1, hc, h1, hb1, hs'⟩ := step_ok h
  cases hc with
  | self _ _ hb =>
    subst s'
    obtain ⟨hav, hcr'⟩ := handler_avoids (hB.winv.with_bal b) (hB.finv.with_bal b) h1 HELPER hs inc_ne_helper
      collector_ne_helper hB.creators
    refine ⟨⟨hW', hF', hcr'⟩, fun a => Or.inl ?_⟩
    show aget b1 (HELPER, a) = aget s.bal (HELPER, a)
    rw [hav.bal hb1 a, (handler_ok (hB.winv.with_bal b) (hB.finv.with_bal b) h1).bal]
    exact attachFunds_other hs inc_ne_helper hb a
  | _ =>
    obtain ⟨k1, k2⟩ := step_helper_keeps_nothing hs h
    obtain ⟨t, hl, -, h4⟩ := step_helperDeposit_reply hs h
    refine ⟨⟨hW', hF', (hdReply_flows h4).trans hl.flows ▸ hB.creators⟩, fun a => ?_⟩
    by_cases ha : a = 0
    · exact Or.inr ⟨ha, ha ▸ k1⟩
    · exact Or.inl (k2 a ha)

theorem fire_cases {c : Cfg} {s s' : St} {e : Env} {hk : Hook} {tmp tmp' : Tmp} {f : Nat}
    (h : fire c s e hk tmp = .ok (s', tmp', f)) :
    (f = 1 ∧ step c s (hk.env e) hk.inner = .ok s' ∧ tmp' = tmpAfter hk tmp) ∨ (f = 2 ∧ s' = s ∧ tmp' = tmp) := by
  unfold fire at h
  split at h
  · cases h; exact Or.inl ⟨rfl, ‹_›, rfl⟩
  · split at h
    · cases h; exact Or.inr ⟨rfl, rfl, rfl⟩
    · cases h
  · cases h

/-- a property of states that the nested operation keeps survives the optional hook at a trigger point -/
theorem hookAt_keeps {c : Cfg} {s s' : St} {e : Env} {hk : Hook} {k f0 f : Nat} {tmp tmp' : Tmp} {P : St → Prop}
    (hP : P s) (hstep : ∀ t, step c s (hk.env e) hk.inner = .ok t → P t)
    (h : (if hk.trig = k then fire c s e hk tmp else pure (s, tmp, f0)) = .ok (s', tmp', f)) : P s' := by
  split at h
  · rcases fire_cases h with ⟨-, hst, -⟩ | ⟨-, rfl, -⟩
    · exact hstep _ hst
    · exact hP
  · cases h; exact hP

/-- the two trigger points of one deposit: at most one nested operation runs, and the flag says whether one did -/
theorem hooks_cases {c : Cfg} {s1 s1' s2 s2' : St} {e : Env} {hk : Hook} {f1 f : Nat} {tmp tmp1 tmp2 : Tmp}
    (h1 : (if hk.trig = 1 then fire c s1 e hk tmp else pure (s1, tmp, 0)) = .ok (s1', tmp1, f1))
    (h2 : (if hk.trig = 2 then fire c s2 e hk tmp1 else pure (s2, tmp1, f1)) = .ok (s2', tmp2, f)) :
    (f = 1 ∧ tmp2 = tmpAfter hk tmp
      ∧ (step c s1 (hk.env e) hk.inner = .ok s1' ∧ s2' = s2 ∨ s1' = s1 ∧ step c s2 (hk.env e) hk.inner = .ok s2'))
    ∨ (f ≠ 1 ∧ tmp2 = tmp ∧ s1' = s1 ∧ s2' = s2) := by
  by_cases t1 : hk.trig = 1
  · rw [if_pos t1] at h1
    rw [if_neg (by omega)] at h2
    cases h2
    rcases fire_cases h1 with ⟨rfl, hst, rfl⟩ | ⟨rfl, rfl, rfl⟩
    · exact Or.inl ⟨rfl, rfl, Or.inl ⟨hst, rfl⟩⟩
    · exact Or.inr ⟨by decide, rfl, rfl, rfl⟩
  · rw [if_neg t1] at h1
    cases h1
    split at h2
    · rcases fire_cases h2 with ⟨rfl, hst, rfl⟩ | ⟨rfl, rfl, rfl⟩
      · exact Or.inl ⟨rfl, rfl, Or.inr ⟨rfl, hst⟩⟩
      · exact Or.inr ⟨by decide, rfl, rfl, rfl⟩
    · cases h2; exact Or.inr ⟨by decide, rfl, rfl, rfl⟩

theorem reenterDeposit_spec {c : Cfg} {s s' : St} {e : Env} {hk : Hook} {a0 a1 dur f : Nat}
    (h : reenterDeposit c s e hk a0 a1 dur = .ok (s', f)) :
    ∃ b s1 s1' tmp1 f1 s2 lp s2' tmp2 s3,
      attachFunds c s.bal e.sender HELPER (fundsOf c e.offers) = .ok b
      ∧ hdPull c { s with bal := b } e a1 = .ok s1
      ∧ (if hk.trig = 1 then fire c s1 e hk (e.sender, dur) else pure (s1, (e.sender, dur), 0)) = .ok (s1', tmp1, f1)
      ∧ hdPair c s1' e a0 a1 = .ok (s2, lp)
      ∧ (if hk.trig = 2 then fire c s2 e hk tmp1 else pure (s2, tmp1, f1)) = .ok (s2', tmp2, f)
      ∧ hdMint c s2' lp = .ok s3
      ∧ hdReply c s3 e tmp2.1 tmp2.2 = .ok s' := by
  simp only [reenterDeposit, Res.bind_eq_ok] at h
  obtain ⟨b, hb, s1, h1, ⟨s1', tmp1, f1⟩, hf1, ⟨s2, lp⟩, h2, ⟨s2', tmp2, f2⟩, hf2, s3, h3, s4, h4, h⟩ := h
  cases h
  exact ⟨b, s1, s1', tmp1, f1, s2, lp, s2', tmp2, s3, hb, h1, hf1, h2, hf2, h3, h4⟩

/-- `HBooks` and the ledger side: the helper holds nothing -/
structure HInv (s : St) : Prop where
  winv : WInv s
  finv : FInv s
  empty : ∀ a, balOf s HELPER a = 0
  creators : ∀ f ∈ s.flows, f.creator ≠ HELPER

theorem HInv.books {s : St} (h : HInv s) : HBooks s := ⟨h.winv, h.finv, h.creators⟩

theorem hookAt_helper {c : Cfg} {s s' : St} {e : Env} {hk : Hook} {k f0 f : Nat} {tmp tmp' : Tmp}
    (hB : HBooks s) (hks : hk.sender ≠ HELPER)
    (h : (if hk.trig = k then fire c s e hk tmp else pure (s, tmp, f0)) = .ok (s', tmp', f)) :
    HBooks s' ∧ ∀ a, balOf s' HELPER a = balOf s HELPER a ∨ a = 0 ∧ balOf s' HELPER a = 0 :=
  hookAt_keeps (P := fun t => HBooks t ∧ ∀ a, balOf t HELPER a = balOf s HELPER a ∨ a = 0 ∧ balOf t HELPER a = 0)
    ⟨hB, fun _ => Or.inl rfl⟩ (fun _ ht => step_helper_row hB hks ht) h

/-- **what the reply of a re-entrant deposit does**, from a state in which the helper holds nothing: whatever the
    hostile token nested into the deposit, the reply runs in a state `t` in which the helper holds exactly the LP
    minted for THIS deposit, `a0 + a1`, and nothing else, and stakes it for the receiver and duration `tmp` found in
    `TEMP_STATE`: the depositor's own, unless a nested deposit went through — then the nested sender's (`tmpAfter`).
    Up to the ledger, `t` is the state before the transaction, or the one the nested operation left. -/
theorem reenterDeposit_reply {c : Cfg} {s s' : St} {e : Env} {hk : Hook} {a0 a1 dur f : Nat} (hI : HInv s)
    (hs : e.sender ≠ HELPER) (hks : hk.sender ≠ HELPER) (h : reenterDeposit c s e hk a0 a1 dur = .ok (s', f)) :
    ∃ (t : St) (tmp : Tmp), hdReply c t e tmp.1 tmp.2 = .ok s' ∧ HBooks t
      ∧ (∀ a, balOf t HELPER a = if a = 0 then a0 + a1 else 0)
      ∧ ((f = 1 ∧ tmp = tmpAfter hk (e.sender, dur)
            ∧ ∃ t0 t1, LedgerOnly s t0 ∧ step c t0 (hk.env e) hk.inner = .ok t1 ∧ LedgerOnly t1 t)
         ∨ (f ≠ 1 ∧ tmp = (e.sender, dur) ∧ LedgerOnly s t)) := by
  obtain ⟨b, s1, s1', tmp1, f1, s2, lp, s2', tmp2, s3, hb, h1, hf1, h2, hf2, h3, h4⟩ := reenterDeposit_spec h
  have l1 : LedgerOnly s s1 := .trans ⟨b, rfl⟩ (hdPull_ledgerOnly h1)
  have l2 := hdPair_ledgerOnly h2
  have l3 := hdMint_ledgerOnly h3
  obtain ⟨hB1, r1⟩ := hookAt_helper (hI.books.ledger l1) hks hf1
  obtain ⟨hB2, r2⟩ := hookAt_helper (hB1.ledger l2) hks hf2
  refine ⟨s3, tmp2, h4, hB2.ledger l3, fun a => ?_, ?_⟩
  · have z := hI.empty a
    have p0 := attach_helper (s := s) hs hb a
    have p1 := hdPull_helper h1 hs a
    have p2 := hdPair_helper h2 a
    have p3 := hdMint_helper h3 a
    have r1 := r1 a
    have r2 := r2 a
    obtain ⟨-, -, -, rfl, -⟩ := hdPair_spec h2
    omega
  · rcases hooks_cases hf1 hf2 with ⟨hf, htmp, ⟨hst, rfl⟩ | ⟨rfl, hst⟩⟩ | ⟨hf, htmp, rfl, rfl⟩
    · exact Or.inl ⟨hf, htmp, s1, s1', l1, hst, l2.trans l3⟩
    · exact Or.inl ⟨hf, htmp, s2, s2', l1.trans l2, hst, l3⟩
    · exact Or.inr ⟨hf, htmp, (l1.trans l2).trans l3⟩

theorem reenterDeposit_HInv {c : Cfg} {s s' : St} {e : Env} {hk : Hook} {a0 a1 dur f : Nat} (hI : HInv s)
    (hs : e.sender ≠ HELPER) (hks : hk.sender ≠ HELPER) (h : reenterDeposit c s e hk a0 a1 dur = .ok (s', f)) :
    HInv s' := by
  obtain ⟨t, tmp, h4, hB3, hrow, -⟩ := reenterDeposit_reply hI hs hks h
  have hB := hdReply_books hB3 h4
  refine ⟨hB.winv, hB.finv, fun a => ?_, hB.creators⟩
  rw [hdReply_helper h4 a, hrow a]
  split <;> rfl

theorem step_HInv {c : Cfg} {s s' : St} {e : Env} {op : Op} (hI : HInv s) (hs : e.sender ≠ HELPER)
    (h : step c s e op = .ok s') : HInv s' := by
  obtain ⟨hB, r⟩ := step_helper_row hI.books hs h
  refine ⟨hB.winv, hB.finv, fun a => ?_, hB.creators⟩
  rcases r a with r | ⟨-, r⟩
  · rw [r]; exact hI.empty a
  · exact r

/-- the senders of a transaction: who sent it and, if the hostile token is armed, its account -/
def txSenders (e : Env) : Tx → List Addr
  | .plain _ => [e.sender]
  | .reenter hk _ => [e.sender, hk.sender]

/-- the operation the sender of a transaction sends -/
def Tx.outer : Tx → Op
  | .plain op => op
  | .reenter _ op => op

theorem stepTx_reenter_other (c : Cfg) (s : St) (e : Env) (hk : Hook) (outer : Op)
    (h : ∀ a0 a1 dur, outer ≠ .helperDeposit a0 a1 dur) :
    stepTx c s e (.reenter hk outer) = stepTx c s e (.plain outer) := by
  cases outer with
  | helperDeposit a0 a1 dur => exact absurd rfl (h a0 a1 dur)
  | openPos _ _ _ | expandPos _ _ _ | closePos _ | withdraw | claim | snapshot | openFlow _ _ _ _
  | expandFlow _ _ _ _ | closeFlow _ | helperDepositAs _ _ _ _ _ => rfl

/-- a transaction is the plain operation of its sender, or a re-entrant helper deposit -/
theorem stepTx_cases {c : Cfg} {s s' : St} {e : Env} {tx : Tx} {f : Nat} (h : stepTx c s e tx = .ok (s', f)) :
    (step c s e tx.outer = .ok s' ∧ f = 0)
    ∨ ∃ hk a0 a1 dur, tx = .reenter hk (.helperDeposit a0 a1 dur) ∧ reenterDeposit c s e hk a0 a1 dur = .ok (s', f) := by
  have plain : ∀ {op}, stepTx c s e (.plain op) = .ok (s', f) → step c s e op = .ok s' ∧ f = 0 := fun h => by
    simp only [stepTx, Res.bind_eq_ok, Res.pure_eq, Res.ok.injEq, Prod.mk.injEq] at h
    obtain ⟨t, ht, rfl, rfl⟩ := h
    exact ⟨ht, rfl⟩
  cases tx with
  | plain op => exact Or.inl (plain h)
  | reenter hk outer =>
    by_cases hd : ∃ a0 a1 dur, outer = .helperDeposit a0 a1 dur
    · obtain ⟨a0, a1, dur, rfl⟩ := hd
      exact Or.inr ⟨hk, a0, a1, dur, rfl, h⟩
    · rw [stepTx_reenter_other c s e hk outer (fun a0 a1 dur he => hd ⟨a0, a1, dur, he⟩)] at h
      exact Or.inl (plain h)

theorem sender_mem_txSenders (e : Env) (tx : Tx) : e.sender ∈ txSenders e tx := by
  cases tx <;> simp [txSenders]

theorem stepTx_HInv {c : Cfg} {s s' : St} {e : Env} {tx : Tx} {f : Nat} (hI : HInv s)
    (hs : ∀ u ∈ txSenders e tx, u ≠ HELPER) (h : stepTx c s e tx = .ok (s', f)) : HInv s' := by
  rcases stepTx_cases h with ⟨hst, -⟩ | ⟨hk, a0, a1, dur, rfl, h⟩
  · exact step_HInv hI (hs _ (sender_mem_txSenders e tx)) hst
  · exact reenterDeposit_HInv hI (hs e.sender (by simp [txSenders])) (hs hk.sender (by simp [txSenders])) h

/-- what every accepted transaction keeps, a transaction that may have been refused keeps -/
theorem stepTxOrStay_keeps {c : Cfg} {s : St} {e : Env} {tx : Tx} {P : St → Prop} (hP : P s)
    (h : ∀ s' f, stepTx c s e tx = .ok (s', f) → P s') : P (stepTxOrStay c s e tx) := by
  unfold stepTxOrStay
  split
  · rename_i r hr
    exact h r.1 r.2 hr
  · exact hP

/-- no sender of any transaction of the history is `X` (used with the helper, which sends no messages but its
    own, and with the contract) -/
def TxSendersAvoid (X : Addr) (txs : List (Env × Tx)) : Prop := ∀ p ∈ txs, ∀ u ∈ txSenders p.1 p.2, u ≠ X

theorem reachTx_HInv {c : Cfg} : ∀ (txs : List (Env × Tx)) (s : St), HInv s → TxSendersAvoid HELPER txs →
    HInv (reachTx c s txs)
  | [], _, hI, _ => hI
  | (e, tx) :: t, _, hI, hs =>
    reachTx_HInv t _ (stepTxOrStay_keeps hI fun _ _ => stepTx_HInv hI (hs (e, tx) List.mem_cons_self))
      (fun q hq => hs q (List.mem_cons_of_mem _ hq))

theorem init_HInv (e0 : Nat) (bal : Bal) (h0 : ∀ a, aget bal (HELPER, a) = 0) : HInv (init e0 bal) :=
  ⟨init_WInv e0 bal, init_FInv e0 bal, h0, fun f hf => (by cases hf)⟩

theorem CInv.ledger {s t : St} {ep K : Nat} (h : CInv s ep K) (hl : LedgerOnly s t)
    (hb : balOf t INC 0 = balOf s INC 0) : CInv t ep K := by
  obtain ⟨b, rfl⟩ := hl
  exact ⟨h.winv.with_bal b, h.finv.with_bal b, h.hist, h.creators, hb.trans h.bal⟩

theorem hookAt_custody {c : Cfg} {s s' : St} {e : Env} {hk : Hook} {k f0 f K : Nat} {tmp tmp' : Tmp}
    (hI : CInv s e.epoch K) (hks : hk.sender ≠ INC) (hkn : (keysOf hk.offers).Nodup)
    (hk0 : strayOf c (hk.env e) hk.inner = 0)
    (h : (if hk.trig = k then fire c s e hk tmp else pure (s, tmp, f0)) = .ok (s', tmp', f)) :
    CInv s' e.epoch K := by
  refine hookAt_keeps (P := fun t => CInv t e.epoch K) hI (fun t ht => ?_) h
  have := step_custody (e := hk.env e) hI hks hkn ht
  rwa [hk0] at this

theorem reenterDeposit_custody {c : Cfg} {s s' : St} {e : Env} {hk : Hook} {a0 a1 dur f K : Nat}
    (hI : CInv s e.epoch K) (hs : e.sender ≠ INC) (hks : hk.sender ≠ INC) (hkn : (keysOf hk.offers).Nodup)
    (hk0 : strayOf c (hk.env e) hk.inner = 0) (h : reenterDeposit c s e hk a0 a1 dur = .ok (s', f)) :
    CInv s' e.epoch K := by
  obtain ⟨b, s1, s1', tmp1, f1, s2, lp, s2', tmp2, s3, hb, h1, hf1, h2, hf2, h3, h4⟩ := reenterDeposit_spec h
  have hI1 := (hI.ledger ⟨b, rfl⟩ (attachFunds_other hs helper_ne_inc hb 0)).ledger (hdPull_ledgerOnly h1)
    (hdPull_other h1 INC hs.symm inc_ne_helper 0)
  have hI2 := (hookAt_custody hI1 hks hkn hk0 hf1).ledger (hdPair_ledgerOnly h2)
    (hdPair_other h2 INC inc_ne_helper inc_ne_pair 0)
  have hI3 := (hookAt_custody hI2 hks hkn hk0 hf2).ledger (hdMint_ledgerOnly h3)
    (hdMint_other h3 INC inc_ne_helper inc_ne_pair 0)
  exact hdReply_custody hI3 h4

/-- LP-denom funds attached to a transaction without being asked for: the plain op's, plus the nested op's -/
def strayTx (c : Cfg) (e : Env) : Tx → Nat
  | .plain op => strayOf c e op
  | .reenter hk outer => strayOf c (hk.env e) hk.inner + strayOf c e outer

/-- what every party of a transaction offers names each asset once -/
def txOffersOk (e : Env) : Tx → Prop
  | .plain _ => (keysOf e.offers).Nodup
  | .reenter hk _ => (keysOf e.offers).Nodup ∧ (keysOf hk.offers).Nodup

theorem strayOf_outer_le (c : Cfg) (e : Env) (tx : Tx) : strayOf c e tx.outer ≤ strayTx c e tx := by
  cases tx <;> simp [Tx.outer, strayTx]

theorem txOffersOk.sender {e : Env} {tx : Tx} (h : txOffersOk e tx) : (keysOf e.offers).Nodup := by
  cases tx
  · exact h
  · exact h.1

theorem stepTx_custody {c : Cfg} {s s' : St} {e : Env} {tx : Tx} {f K : Nat} (hI : CInv s e.epoch K)
    (hs : ∀ u ∈ txSenders e tx, u ≠ INC) (hn : txOffersOk e tx) (h0 : strayTx c e tx = 0)
    (h : stepTx c s e tx = .ok (s', f)) : CInv s' e.epoch K := by
  rcases stepTx_cases h with ⟨hst, -⟩ | ⟨hk, a0, a1, dur, rfl, h⟩
  · have h0' : strayOf c e tx.outer = 0 := Nat.le_zero.mp (h0 ▸ strayOf_outer_le c e tx)
    have := step_custody hI (hs _ (sender_mem_txSenders e tx)) hn.sender hst
    rwa [h0'] at this
  · exact reenterDeposit_custody hI (hs e.sender (by simp [txSenders])) (hs hk.sender (by simp [txSenders])) hn.2
      (Nat.eq_zero_of_add_eq_zero_right h0) h

/-- epochs never go back along a history of transactions -/
def EpochsFromTx : Nat → List (Env × Tx) → Prop
  | _, [] => True
  | ep, p :: t => ep ≤ p.1.epoch ∧ EpochsFromTx p.1.epoch t

theorem reachTx_custody {c : Cfg} :
    ∀ (txs : List (Env × Tx)) (s : St) (ep K : Nat), CInv s ep K → TxSendersAvoid INC txs →
      (∀ p ∈ txs, txOffersOk p.1 p.2) → (∀ p ∈ txs, strayTx c p.1 p.2 = 0) → EpochsFromTx ep txs →
      ∃ ep', CInv (reachTx c s txs) ep' K := by
  intro txs
  induction txs with
  | nil => intro s ep K hI _ _ _ _; exact ⟨ep, hI⟩
  | cons p t ih =>
    intro s ep K hI hso hof hst hep
    obtain ⟨e, tx⟩ := p
    have hI' := hI.mono hep.1
    exact ih _ e.epoch K
      (stepTxOrStay_keeps hI' fun _ _ => stepTx_custody hI' (hso (e, tx) List.mem_cons_self)
        (hof (e, tx) List.mem_cons_self) (hst (e, tx) List.mem_cons_self))
      (fun q hq => hso q (List.mem_cons_of_mem _ hq)) (fun q hq => hof q (List.mem_cons_of_mem _ hq))
      (fun q hq => hst q (List.mem_cons_of_mem _ hq)) hep.2

theorem reenterDeposit_refused {c : Cfg} {s s' : St} {e : Env} {hk : Hook} {a0 a1 dur f : Nat}
    (h : reenterDeposit c s e hk a0 a1 dur = .ok (s', f)) (hf : f ≠ 1) :
    step c s e (.helperDeposit a0 a1 dur) = .ok s' := by
  obtain ⟨b, s1, s1', tmp1, f1, s2, lp, s2', tmp2, s3, hb, h1, hf1, h2, hf2, h3, h4⟩ := reenterDeposit_spec h
  rcases hooks_cases hf1 hf2 with ⟨hf', -⟩ | ⟨-, rfl, rfl, rfl⟩
  · exact absurd hf' hf
  · exact step_helperDeposit_iff.mpr ⟨b, hb, s1', h1, s2', lp, h2, s3, h3, h4⟩

/-- amount of the open position with unbonding duration `d` (the first one; durations are unique), `0` if none -/
def amtAt : List OpenPos → Nat → Nat
  | [], _ => 0
  | p :: t, d => if p.dur = d then p.amt else amtAt t d

theorem amtAt_map_other (ps : List OpenPos) {d d' : Nat} (n : Nat) (hd : d ≠ d') :
    amtAt (ps.map (fun q => if q.dur = d then { q with amt := n } else q)) d' = amtAt ps d' := by
  induction ps with
  | nil => rfl
  | cons q t ih =>
    by_cases hq : q.dur = d
    · simp [amtAt, hq, hd, ih]
    · simp [amtAt, hq, ih]

/-- a new position of a duration `d` not yet there adds its amount at `d` -/
theorem amtAt_append_new {ps : List OpenPos} {d : Nat} (amt d' : Nat)
    (h : ps.any (fun p => decide (p.dur = d)) = false) :
    amtAt (ps ++ [{ dur := d, amt := amt }]) d' = amtAt ps d' + if d' = d then amt else 0 := by
  induction ps with
  | nil => simp [amtAt, eq_comm]
  | cons q t ih =>
    simp only [List.any_cons, Bool.or_eq_false_iff, decide_eq_false_iff_not] at h
    simp only [List.cons_append, amtAt, ih h.2]
    by_cases hq : q.dur = d'
    · rw [if_pos hq, if_pos hq, if_neg (fun hd => h.1 (hq.trans hd)), Nat.add_zero]
    · rw [if_neg hq, if_neg hq]

/-- raising the position of duration `d` (`p`, the first one) by `n` adds `n` at `d` -/
theorem amtAt_map_add {ps : List OpenPos} {d : Nat} {p : OpenPos} (n d' : Nat)
    (h : ps.find? (fun p => decide (p.dur = d)) = some p) :
    amtAt (ps.map (fun q => if q.dur = d then { q with amt := p.amt + n } else q)) d'
      = amtAt ps d' + if d' = d then n else 0 := by
  induction ps with
  | nil => cases h
  | cons q t ih =>
    simp only [List.map_cons, amtAt]
    by_cases hq : q.dur = d
    · rw [List.find?_cons_of_pos (by simpa using hq)] at h
      cases h
      rw [if_pos hq]
      by_cases hd : d' = d
      · rw [if_pos (hq.trans hd.symm), if_pos (hq.trans hd.symm), if_pos hd]
      · rw [if_neg (fun hh => hd (hh.symm.trans hq)), if_neg (fun hh => hd (hh.symm.trans hq)), if_neg hd,
          amtAt_map_other t _ (Ne.symm hd), Nat.add_zero]
    · rw [List.find?_cons_of_neg (by simpa using hq)] at h
      rw [if_neg hq, ih h]
      by_cases hq' : q.dur = d'
      · rw [if_pos hq', if_pos hq', if_neg (fun hd => hq (hq'.trans hd)), Nat.add_zero]
      · rw [if_neg hq', if_neg hq']

/-- opening or expanding a position for `u`: `u`'s position of that duration grows by the amount, nothing else of
    anybody's positions moves -/
theorem replyPos_position {c : Cfg} {s s' : St} {e : Env} {amount dur : Nat} {u : Addr} {msgs : List Msg}
    (h : (if (openOf s u).any (fun p => p.dur = dur) then expandPosition c s e amount dur (some u)
          else openPosition c s e amount dur (some u)) = .ok (s', msgs)) :
    (∀ d, amtAt (openOf s' u) d = amtAt (openOf s u) d + if d = dur then amount else 0)
    ∧ (∀ v, v ≠ u → openOf s' v = openOf s v) ∧ s'.closedPos = s.closedPos := by
  split at h
  · obtain ⟨ps, p, _, _, rfl, -, hps, hp, -⟩ := expandPosition_ok (r := u) rfl h
    obtain ⟨hu, hv⟩ := openOf_aset (s := s) (s' := setPos s _ u _ _ _) rfl
    refine ⟨fun d => ?_, hv, rfl⟩
    rw [hu, openOf_of_alook hps]
    exact amtAt_map_add amount d hp
  · rename_i hany
    obtain ⟨_, rfl, -⟩ := openPosition_ok (r := u) rfl h
    obtain ⟨hu, hv⟩ := openOf_aset (s := s) (s' := setPos s _ u _ _ _) rfl
    refine ⟨fun d => ?_, hv, rfl⟩
    rw [hu]
    exact amtAt_append_new amount d (Bool.eq_false_iff.mpr hany)

/-- **the reply credits the receiver it finds in `TEMP_STATE`**: that address's position of that duration grows
    by exactly the helper's LP balance; no other position of anybody moves, no closed position moves -/
theorem hdReply_position {c : Cfg} {s s' : St} {e : Env} {u : Addr} {dur : Nat} (h : hdReply c s e u dur = .ok s') :
    amtAt (openOf s' u) dur = amtAt (openOf s u) dur + balOf s HELPER 0
    ∧ (∀ d, d ≠ dur → amtAt (openOf s' u) d = amtAt (openOf s u) d)
    ∧ (∀ v, v ≠ u → openOf s' v = openOf s v)
    ∧ s'.closedPos = s.closedPos := by
  obtain ⟨b2, s3, msgs, b3, -, h3, -, rfl⟩ := hdReply_spec h
  obtain ⟨hd, hv, hcl⟩ := replyPos_position (s := { s with bal := b2 }) h3
  exact ⟨(hd dur).trans (by rw [if_pos rfl]; rfl), fun d hne => (hd d).trans (by rw [if_neg hne]; rfl), hv, hcl⟩

end WW.Inc
