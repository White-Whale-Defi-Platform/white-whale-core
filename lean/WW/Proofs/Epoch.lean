/- Lemmas for C20 (epoch clocks): when a creation succeeds and what it does, what the other operations leave
   alone, and the inductions over histories. Property theorems are in `WW/Props/C20.lean`. -/
import WW.Model.Epoch
import WW.Proofs.Res
namespace WW.Epoch
open WW

/-- the first two checks of both creation rules: `now - start` does not underflow and is a full duration -/
theorem due_iff {start dur now : Nat} : (¬ now < start ∧ ¬ now - start < dur) ↔ start + dur ≤ now := by
  omega

theorem pairwise_cons_cons {α : Type} {R : α → α → Prop} {a b : α} {l : List α}
    (h : List.Pairwise R (b :: l)) (hab : R a b) (trans : ∀ {a b c}, R a b → R b c → R a c) :
    List.Pairwise R (a :: b :: l) :=
  List.pairwise_cons.2
    ⟨fun _ hc => (List.mem_cons.1 hc).elim (· ▸ hab) fun hc => trans hab (List.rel_of_pairwise_cons h hc), h⟩

theorem Mgr.instantiate_eq_ok {now sender : Nat} {e0 : Ep} {c : Cfg} {s : Mgr} :
    Mgr.instantiate now sender e0 c = .ok s ↔
      now ≤ e0.start ∧ c.genesis = e0.start ∧ s = ⟨sender, c, e0, []⟩ := by
  simp only [Mgr.instantiate, Res.err_else_eq_ok, Res.ok.injEq, Nat.not_lt, ne_eq, Decidable.not_not, eq_comm (b := s)]

theorem Mgr.createEpoch_eq_ok {s : Mgr} {now : Nat} {r : Mgr × List (Nat × Ep)} :
    s.createEpoch now = .ok r ↔
      s.cur.start + s.cfg.duration ≤ now ∧ s.cur.id + 1 ≤ U64MAX ∧ s.cur.start + s.cfg.duration ≤ U64MAX ∧
      r = ({ s with cur := ⟨s.cur.id + 1, s.cur.start + s.cfg.duration⟩ },
           s.hooks.map fun h => (h, ⟨s.cur.id + 1, s.cur.start + s.cfg.duration⟩)) := by
  simp only [Mgr.createEpoch, Res.err_else_eq_ok, Res.panic_else_eq_ok, Res.ok.injEq]
  rw [← and_assoc, due_iff, Nat.not_lt, Nat.not_lt, eq_comm]

/-- too early: a panic in `minus_nanos` before the current start, `CurrentEpochNotExpired` from there on -/
theorem Mgr.createEpoch_of_early {s : Mgr} {now : Nat} (h : now < s.cur.start + s.cfg.duration) :
    s.createEpoch now = if now < s.cur.start then .panic else .err := by
  unfold Mgr.createEpoch
  by_cases hb : now < s.cur.start
  · rw [if_pos hb, if_pos hb]
  · rw [if_neg hb, if_neg hb, if_pos (Nat.sub_lt_left_of_lt_add (Nat.le_of_not_lt hb) h)]

theorem Mgr.addHook_eq_ok {s s' : Mgr} {sender h : Nat} :
    s.addHook sender h = .ok s' ↔ sender = s.owner ∧ h ∉ s.hooks ∧ s' = { s with hooks := s.hooks ++ [h] } := by
  simp only [Mgr.addHook, Res.err_else_eq_ok, Res.ok.injEq, ne_eq, Decidable.not_not, List.contains_iff_mem,
    eq_comm (b := s')]

theorem Mgr.removeHook_eq_ok {s s' : Mgr} {sender h : Nat} :
    s.removeHook sender h = .ok s' ↔
      sender = s.owner ∧ h ∈ s.hooks ∧ s' = { s with hooks := s.hooks.erase h } := by
  simp only [Mgr.removeHook, Res.err_else_eq_ok, Res.ite_err_eq_ok, ne_eq, Decidable.not_not, List.contains_iff_mem]

theorem Mgr.updateConfig_eq_ok {s s' : Mgr} {sender : Nat} {c : Cfg} :
    s.updateConfig sender c = .ok s' ↔ sender = s.owner ∧ s' = { s with cfg := c } := by
  simp only [Mgr.updateConfig, Res.err_else_eq_ok, Res.ok.injEq, ne_eq, Decidable.not_not, eq_comm (b := s')]

/-- the possible shapes of a successful manager transaction: the owner's three operations neither move the
    clock nor send anything -/
theorem Mgr.step_cases {s s' : Mgr} {now sender : Nat} {op : MOp} {ms : List (Nat × Ep)}
    (e : s.step now sender op = .ok (s', ms)) :
    (op = .create ∧ s.createEpoch now = .ok (s', ms)) ∨
    (op ≠ .create ∧ ms = [] ∧ s'.cur = s.cur ∧
      ((∃ h, op = .addHook h ∧ h ∉ s.hooks ∧ s'.hooks = s.hooks ++ [h] ∧ s'.cfg = s.cfg) ∨
       (∃ h, op = .removeHook h ∧ h ∈ s.hooks ∧ s'.hooks = s.hooks.erase h ∧ s'.cfg = s.cfg) ∨
       (∃ c, op = .updateConfig c ∧ s'.hooks = s.hooks ∧ s'.cfg = c))) := by
  cases op with
  | create => exact .inl ⟨rfl, e⟩
  | addHook h =>
    simp only [Mgr.step, Res.bind_eq_ok, Mgr.addHook_eq_ok, Res.ok.injEq, Prod.mk.injEq] at e
    obtain ⟨_, ⟨-, hh, rfl⟩, rfl, rfl⟩ := e
    exact .inr ⟨nofun, rfl, rfl, .inl ⟨h, rfl, hh, rfl, rfl⟩⟩
  | removeHook h =>
    simp only [Mgr.step, Res.bind_eq_ok, Mgr.removeHook_eq_ok, Res.ok.injEq, Prod.mk.injEq] at e
    obtain ⟨_, ⟨-, hh, rfl⟩, rfl, rfl⟩ := e
    exact .inr ⟨nofun, rfl, rfl, .inr (.inl ⟨h, rfl, hh, rfl, rfl⟩)⟩
  | updateConfig c =>
    simp only [Mgr.step, Res.bind_eq_ok, Mgr.updateConfig_eq_ok, Res.ok.injEq, Prod.mk.injEq] at e
    obtain ⟨_, ⟨-, rfl⟩, rfl, rfl⟩ := e
    exact .inr ⟨nofun, rfl, rfl, .inr (.inr ⟨c, rfl, rfl, rfl⟩)⟩

/-- all `update_config` operations of a history configure a positive duration -/
def PosDurOps (ops : List (Nat × Nat × MOp)) : Prop :=
  ∀ x ∈ ops, ∀ c, x.2.2 = MOp.updateConfig c → 0 < c.duration

/-- one step of a history: a creation succeeds, the clock moves on by one epoch of the configured duration
    and that epoch is listed; or the clock stands still (and only `update_config` changes the configuration) -/
theorem Mgr.next_cases (s : Mgr) (x : Nat × Nat × MOp) (xs : List (Nat × Nat × MOp)) :
    ((s.next x).cur = ⟨s.cur.id + 1, s.cur.start + s.cfg.duration⟩ ∧ (s.next x).cfg = s.cfg ∧
        s.cur.start + s.cfg.duration ≤ U64MAX ∧
        s.created (x :: xs) = (s.next x).cur :: (s.next x).created xs) ∨
    ((s.next x).cur = s.cur ∧ s.created (x :: xs) = (s.next x).created xs ∧
        ((s.next x).cfg = s.cfg ∨ ∃ c, x.2.2 = .updateConfig c ∧ (s.next x).cfg = c)) := by
  obtain ⟨now, sender, op⟩ := x
  cases hs : s.step now sender op with
  | ok r =>
    obtain ⟨s', ms⟩ := r
    have hn : s.next (now, sender, op) = s' := by simp only [Mgr.next, hs]
    rw [hn]
    rcases Mgr.step_cases hs with ⟨rfl, hc⟩ | ⟨hop, -, hcur, hrest⟩
    · obtain ⟨-, -, hb, hr⟩ := Mgr.createEpoch_eq_ok.1 hc
      cases hr
      exact .inl ⟨rfl, rfl, hb, by simp only [Mgr.created, hs]⟩
    · refine .inr ⟨hcur, ?_, ?_⟩
      · cases op with
        | create => exact absurd rfl hop
        | _ => simp only [Mgr.created, hn]
      · rcases hrest with ⟨_, -, -, -, hcfg⟩ | ⟨_, -, -, -, hcfg⟩ | ⟨c, hc, -, hcfg⟩
        · exact .inl hcfg
        · exact .inl hcfg
        · exact .inr ⟨c, hc, hcfg⟩
  | _ =>
    have hn : s.next (now, sender, op) = s := by simp only [Mgr.next, hs]
    rw [hn]
    exact .inr ⟨rfl, by cases op <;> simp only [Mgr.created, hs, hn], .inl rfl⟩

theorem Mgr.next_posDur {s : Mgr} {x : Nat × Nat × MOp} (hd : 0 < s.cfg.duration)
    (hx : ∀ c, x.2.2 = .updateConfig c → 0 < c.duration) : 0 < (s.next x).cfg.duration := by
  rcases Mgr.next_cases s x [] with ⟨-, hcfg, -⟩ | ⟨-, -, hcfg | ⟨c, hc, hcfg⟩⟩
  · rwa [hcfg]
  · rwa [hcfg]
  · rw [hcfg]; exact hx c hc

/-- the history contains no configuration update -/
def NoCfgOps : List (Nat × Nat × MOp) → Prop
  | [] => True
  | x :: xs => (∀ c, x.2.2 ≠ .updateConfig c) ∧ NoCfgOps xs

/-- a history without configuration update keeps the configuration and ends some `k` epochs later, each one
    duration long (and, once an epoch was created, with a start time that fits `u64`) -/
theorem Mgr.reach_of_noCfg (s : Mgr) (ops : List (Nat × Nat × MOp)) (hn : NoCfgOps ops) :
    ∃ k, (s.reach ops).cfg = s.cfg ∧ (s.reach ops).cur = ⟨s.cur.id + k, s.cur.start + s.cfg.duration * k⟩ ∧
      (0 < k → s.cur.start + s.cfg.duration * k ≤ U64MAX) := by
  induction ops generalizing s with
  | nil => exact ⟨0, rfl, rfl, nofun⟩
  | cons x xs ih =>
    obtain ⟨k, hcfg, hcur, hb⟩ := ih (s.next x) hn.2
    rw [Mgr.reach, hcfg, hcur]
    rcases Mgr.next_cases s x xs with ⟨hc, hd, hb', -⟩ | ⟨hc, -, hd | ⟨c, hx, -⟩⟩
    · rw [hc, hd] at hb ⊢
      dsimp only at hb ⊢
      refine ⟨k + 1, rfl, ?_, fun _ => ?_⟩ <;> rw [Nat.mul_succ]
      · congr 1 <;> omega
      · rcases Nat.eq_zero_or_pos k with rfl | hk
        · omega
        · exact Nat.le_trans (by omega) (hb hk)
    · rw [hc, hd] at hb ⊢
      exact ⟨k, rfl, rfl, hb⟩
    · exact absurd hx (hn.1 c)

/-- `Epoch{id}` computes the start of an epoch `k` ids back as `k` current durations before the current
    start: right whenever that is how the clock got here -/
theorem Mgr.queryEpoch_earlier {t : Mgr} {e : Ep} {k : Nat}
    (hcur : t.cur = ⟨e.id + k, e.start + t.cfg.duration * k⟩)
    (hb : 0 < k → e.start + t.cfg.duration * k ≤ U64MAX) : t.queryEpoch e.id = .ok e := by
  unfold Mgr.queryEpoch
  rw [hcur]
  rcases Nat.eq_zero_or_pos k with rfl | hk
  · exact if_pos rfl
  · have := hb hk
    rw [if_neg (by show e.id + k ≠ e.id; omega)]
    show (if U64MAX < t.cfg.duration * (e.id + k - e.id) then _ else _) = _
    rw [Nat.add_sub_cancel_left, if_neg (by omega), if_neg (by show ¬ e.start + _ < _; omega)]
    exact congrArg (fun n => Res.ok (Ep.mk e.id n)) (Nat.add_sub_cancel ..)

theorem Mgr.next_hooks_nodup {s : Mgr} (x : Nat × Nat × MOp) (h : s.hooks.Nodup) : (s.next x).hooks.Nodup := by
  obtain ⟨now, sender, op⟩ := x
  unfold Mgr.next
  split
  · rename_i s' ms hs
    rcases Mgr.step_cases hs with ⟨-, hc⟩ | ⟨-, -, -, hrest⟩
    · obtain ⟨-, -, -, hr⟩ := Mgr.createEpoch_eq_ok.1 hc
      cases hr; exact h
    · rcases hrest with ⟨k, -, hk, hh, -⟩ | ⟨k, -, -, hh, -⟩ | ⟨c, -, hh, -⟩ <;> rw [hh]
      · exact List.nodup_append.2 ⟨h, List.pairwise_singleton _ k, fun a ha b hb hab =>
          hk (by rwa [← List.mem_singleton.1 hb, ← hab])⟩
      · exact h.sublist List.erase_sublist
      · exact h
  · exact h

theorem Mgr.reach_hooks_nodup (s : Mgr) (ops : List (Nat × Nat × MOp)) (h : s.hooks.Nodup) :
    (s.reach ops).hooks.Nodup := by
  induction ops generalizing s with
  | nil => exact h
  | cons x xs ih => exact ih (s.next x) (Mgr.next_hooks_nodup x h)

theorem validEpochConfig_iff (c : Cfg) : validEpochConfig c = true ↔ Gen.DISTRIBUTOR_DAY_IN_NANOSECONDS ≤ c.duration := by
  simp [validEpochConfig]

theorem Dist.isFirst_iff (s : Dist) : s.isFirst = true ↔ s.cur.id = 0 ∧ s.cur.start = 0 := by
  simp [Dist.isFirst]

/-- the epoch a successful `create_new_epoch` stores: the first one starts at genesis, every later one a
    duration after its predecessor -/
def Dist.nextEp (s : Dist) : Ep :=
  ⟨s.cur.id + 1, if s.isFirst then s.cfg.genesis else s.cur.start + s.cfg.duration⟩

theorem Dist.createNewEpoch_eq_ok {s s' : Dist} {now : Nat} :
    s.createNewEpoch now = .ok s' ↔
      s.cur.start + s.cfg.duration ≤ now ∧
      (if s.isFirst then s.cfg.genesis ≤ now else s.cur.start + s.cfg.duration ≤ U64MAX) ∧
      s.cur.id + 1 ≤ U64MAX ∧ s' = { s with cur := s.nextEp } := by
  unfold Dist.createNewEpoch Dist.nextEp
  rw [Res.panic_else_eq_ok, Res.err_else_eq_ok, ← and_assoc, due_iff]
  cases s.isFirst
  · rw [if_neg Bool.false_ne_true, if_neg Bool.false_ne_true, if_neg Bool.false_ne_true,
      Res.panic_else_eq_ok, Res.err_else_eq_ok, Res.ok.injEq, Nat.not_lt, Nat.not_lt, eq_comm]
  · rw [if_pos rfl, if_pos rfl, if_pos rfl, Res.err_else_eq_ok, Res.err_else_eq_ok, Res.ok.injEq,
      Nat.not_lt, Nat.not_lt, eq_comm]

/-- too early, or the first epoch before genesis -/
theorem Dist.createNewEpoch_of_early {s : Dist} {now : Nat}
    (h : now < s.cur.start + s.cfg.duration ∨ (s.isFirst = true ∧ now < s.cfg.genesis)) :
    s.createNewEpoch now = if now < s.cur.start then .panic else .err := by
  unfold Dist.createNewEpoch
  by_cases hb : now < s.cur.start
  · rw [if_pos hb, if_pos hb]
  · rw [if_neg hb, if_neg hb]
    rcases h with h | ⟨hf, hg⟩
    · rw [if_pos (Nat.sub_lt_left_of_lt_add (Nat.le_of_not_lt hb) h)]
    · rw [if_pos hf, if_pos hg, ite_self]

theorem Dist.updateConfig_eq_ok {s s' : Dist} {sender : Nat} {c : Cfg} :
    s.updateConfig sender c = .ok s' ↔
      sender = s.owner ∧ Gen.DISTRIBUTOR_DAY_IN_NANOSECONDS ≤ c.duration ∧ s' = { s with cfg := c } := by
  simp only [Dist.updateConfig, Res.err_else_eq_ok, Res.ite_err_eq_ok, validEpochConfig_iff, ne_eq, Decidable.not_not]

/-- the distributor's stored duration is at least one day (established by `instantiate`, kept by
    `update_config`) -/
def Dist.Valid (s : Dist) : Prop := Gen.DISTRIBUTOR_DAY_IN_NANOSECONDS ≤ s.cfg.duration

theorem Dist.instantiate_eq_ok {sender : Nat} {c : Cfg} {s : Dist} :
    Dist.instantiate sender c = .ok s ↔
      Gen.DISTRIBUTOR_DAY_IN_NANOSECONDS ≤ c.duration ∧ s = ⟨sender, c, ⟨0, 0⟩⟩ := by
  simp only [Dist.instantiate, Res.ite_err_eq_ok, validEpochConfig_iff]

/-- one step of a history: a creation succeeds and its epoch is listed, or the clock stands still (and the
    configuration is kept or replaced by a valid one) -/
theorem Dist.next_cases (s : Dist) (x : Nat × Nat × DOp) (xs : List (Nat × Nat × DOp)) :
    ((s.next x).cur = s.nextEp ∧ (s.next x).cfg = s.cfg ∧
        s.created (x :: xs) = (s.next x).cur :: (s.next x).created xs) ∨
    ((s.next x).cur = s.cur ∧ s.created (x :: xs) = (s.next x).created xs ∧
        ((s.next x).cfg = s.cfg ∨ (s.next x).Valid)) := by
  obtain ⟨now, sender, op⟩ := x
  cases hs : s.step now sender op with
  | ok s' =>
    have hn : s.next (now, sender, op) = s' := by simp only [Dist.next, hs]
    rw [hn]
    cases op with
    | create =>
      obtain ⟨-, -, -, rfl⟩ := Dist.createNewEpoch_eq_ok.1 hs
      exact .inl ⟨rfl, rfl, by simp only [Dist.created, hs]⟩
    | updateConfig c =>
      obtain ⟨-, hv, rfl⟩ := Dist.updateConfig_eq_ok.1 hs
      exact .inr ⟨rfl, by simp only [Dist.created, hn], .inr hv⟩
  | _ =>
    have hn : s.next (now, sender, op) = s := by simp only [Dist.next, hs]
    rw [hn]
    exact .inr ⟨rfl, by cases op <;> simp only [Dist.created, hs, hn], .inl rfl⟩

theorem Dist.next_valid {s : Dist} (x : Nat × Nat × DOp) (h : s.Valid) : (s.next x).Valid := by
  rcases Dist.next_cases s x [] with ⟨-, hcfg, -⟩ | ⟨-, -, hcfg | hv⟩
  · unfold Dist.Valid; rwa [hcfg]
  · unfold Dist.Valid; rwa [hcfg]
  · exact hv

theorem Dist.reach_valid (s : Dist) (ops : List (Nat × Nat × DOp)) (h : s.Valid) : (s.reach ops).Valid := by
  induction ops generalizing s with
  | nil => exact h
  | cons x xs ih => exact ih (s.next x) (Dist.next_valid x h)

/-- from any valid state: the start times of the current epoch, if there is one, and of the epochs created
    from here on strictly increase -/
theorem Dist.created_starts_lt_cur (s : Dist) (ops : List (Nat × Nat × DOp)) (hv : s.Valid) :
    List.Pairwise (fun a b : Ep => a.start < b.start)
      ((if s.isFirst then [] else [s.cur]) ++ s.created ops) := by
  induction ops generalizing s with
  | nil => cases s.isFirst <;> simp [Dist.created]
  | cons x xs ih =>
    have ih' := ih (s.next x) (Dist.next_valid x hv)
    rcases Dist.next_cases s x xs with ⟨hcur, -, hcr⟩ | ⟨hcur, hcr, -⟩
    · have hf : (s.next x).isFirst = false := by simp [Dist.isFirst, hcur, Dist.nextEp]
      simp only [hf, Bool.false_eq_true, if_false, List.singleton_append] at ih'
      rw [hcr]
      cases hs : s.isFirst
      · refine pairwise_cons_cons ih' ?_ Nat.lt_trans
        rw [hcur, Dist.nextEp, hs]
        -- `by decide`: the value of the generated `DISTRIBUTOR_DAY_IN_NANOSECONDS` enters here
        exact Nat.lt_add_of_pos_right (Nat.lt_of_lt_of_le (by decide) hv)
      · exact ih'
    · rw [hcr]
      rwa [Dist.isFirst, hcur] at ih'

theorem Dist.created_starts_lt (s : Dist) (ops : List (Nat × Nat × DOp)) (hv : s.Valid) :
    List.Pairwise (fun a b : Ep => a.start < b.start) (s.created ops) :=
  (Dist.created_starts_lt_cur s ops hv).sublist (List.sublist_append_right _ _)

theorem deliver_cons (recs : List Recorder) (m : Nat × Ep) (ms : List (Nat × Ep)) :
    deliver recs (m :: ms) = deliver (deliver1 recs m) ms := rfl

theorem deliver_length (recs : List Recorder) (ms : List (Nat × Ep)) : (deliver recs ms).length = recs.length := by
  induction ms generalizing recs with
  | nil => rfl
  | cons m ms ih => rw [deliver_cons, ih, deliver1, List.length_mapIdx]

theorem deliver1_get (recs : List Recorder) (m : Nat × Ep) (i : Nat) :
    (deliver1 recs m)[i]? =
      (recs[i]?).map (fun r => if i = m.1 then ({ count := r.count + 1, last := m.2 } : Recorder) else r) := by
  rw [deliver1, List.getElem?_mapIdx]

theorem deliver_count (recs : List Recorder) (ms : List (Nat × Ep)) (i : Nat) :
    ((deliver recs ms)[i]?).map (·.count) = (recs[i]?).map (fun r => r.count + (ms.map Prod.fst).count i) := by
  induction ms generalizing recs with
  | nil => rfl
  | cons m ms ih =>
    rw [deliver_cons, ih, deliver1_get, Option.map_map]
    congr 1; funext r
    show (if i = m.1 then (⟨r.count + 1, m.2⟩ : Recorder) else r).count + _ = _
    by_cases h : i = m.1
    · rw [if_pos h, List.map_cons, h, List.count_cons_self]
      show r.count + 1 + _ = _
      omega
    · rw [if_neg h, List.map_cons, List.count_cons_of_ne (Ne.symm h)]

/-- after delivering messages that all carry epoch `e`, a recorder that was addressed remembers `e` as the last
    epoch it was told, any other recorder keeps what it had -/
theorem deliver_last (e : Ep) (ms : List (Nat × Ep)) (hms : ∀ m ∈ ms, m.2 = e) (recs : List Recorder) (i : Nat) :
    ((deliver recs ms)[i]?).map (·.last) =
      (recs[i]?).map (fun r => if i ∈ ms.map Prod.fst then e else r.last) := by
  induction ms generalizing recs with
  | nil => rfl
  | cons m ms ih =>
    rw [deliver_cons, ih (fun x hx => hms x (List.mem_cons_of_mem _ hx)), deliver1_get, Option.map_map]
    congr 1; funext r
    show (if i ∈ ms.map Prod.fst then e else (if i = m.1 then (⟨r.count + 1, m.2⟩ : Recorder) else r).last) = _
    by_cases h1 : i = m.1
    · simp only [List.map_cons, List.mem_cons, h1, true_or, if_true, ite_self, hms m List.mem_cons_self]
    · simp only [List.map_cons, List.mem_cons, h1, false_or, if_false]

end WW.Epoch
