/- The pair (C01, pair part of C07): for ANY pair type a successful operation is a flow of each asset between
   users, pair, collector and burn (`step_flow`), which gives the fee ledgers and conservation; solvency,
   locked liquidity and LP value for the constant-product pair; histories by `reach_ind`. -/
import WW.Model.Pair
import WW.Proofs.CpSwap
namespace WW.Pair
open WW

/- Plain-`Nat` cores of the arguments below; the operation lemmas instantiate them at the reserves
   (`p`, `P`, `op`, `ap`), the LP supply (`S`, `T`) and the amounts moved. -/

/-- the LP-value comparison (`ValueLe`) is transitive through a state with positive supply -/
theorem value_trans {K K' K'' S S' S'' : Nat} (h1 : K * S' ^ 2 ≤ K' * S ^ 2)
    (h2 : K' * S'' ^ 2 ≤ K'' * S' ^ 2) (hS : 0 < S') : K * S'' ^ 2 ≤ K'' * S ^ 2 := by
  apply Nat.le_of_mul_le_mul_right _ (Nat.pow_pos hS : 0 < S' ^ 2)
  calc K * S'' ^ 2 * S' ^ 2 = K * S' ^ 2 * S'' ^ 2 := Nat.mul_right_comm ..
    _ ≤ K' * S ^ 2 * S'' ^ 2 := Nat.mul_le_mul_right _ h1
    _ = K' * S'' ^ 2 * S ^ 2 := Nat.mul_right_comm ..
    _ ≤ K'' * S' ^ 2 * S ^ 2 := Nat.mul_le_mul_right _ h2
    _ = K'' * S ^ 2 * S' ^ 2 := Nat.mul_right_comm ..

/-- the value comparison from one inequality per asset -/
theorem value_of_sides {p0 p1 q0 q1 S T : Nat} (h0 : p0 * T ≤ q0 * S) (h1 : p1 * T ≤ q1 * S) :
    p0 * p1 * T ^ 2 ≤ q0 * q1 * S ^ 2 := by
  rw [sq, sq, Nat.mul_mul_mul_comm, Nat.mul_mul_mul_comm q0]
  exact Nat.mul_le_mul h0 h1

/-- one asset across a deposit `d` that mints `sh ≤ d·S/p` shares -/
theorem deposit_side {p d S sh : Nat} (h : sh * p ≤ d * S) : p * (S + sh) ≤ (p + d) * S := by
  rw [Nat.mul_add, Nat.add_mul, Nat.mul_comm p sh]
  exact Nat.add_le_add_left h _

/-- one asset across a withdrawal of `amt` shares that refunds `x ≤ p·amt/S` (truncated subtraction
    makes it hold for `amt > S` as well) -/
theorem withdraw_side' {p x S amt : Nat} (h : x * S ≤ p * amt) : p * (S - amt) ≤ (p - x) * S := by
  rw [Nat.mul_sub, Nat.sub_mul]
  exact Nat.sub_le_sub_left h _

theorem withdraw_side {p x S amt : Nat} (h : x * S ≤ p * amt) (ha : amt ≤ S) :
    p * (S - amt) ≤ (p - x) * S := withdraw_side' h

/-- `r·T ≤ d·a` with `a ≤ T` gives `r ≤ d`: a pro-rata refund `r` of `a` out of `T` shares is at most
    the reserve `d` it is taken from. (In deposit-then-withdraw, `dw`, `d` is the first deposit.) -/
theorem dw_first {r d amt T : Nat} (h : r * T ≤ d * amt) (ha : amt ≤ T) (hT : 0 < T) : r ≤ d :=
  Nat.le_of_mul_le_mul_right (Nat.le_trans h (Nat.mul_le_mul_left _ ha)) hT

/-- the product of the reserves across a swap that takes at most the gross output `g ≤ ap·off/(op+off)`
    from the ask pool -/
theorem swap_k {op ap off g t : Nat} (hg : g * (op + off) ≤ ap * off) (ht : t ≤ g) :
    op * ap ≤ (op + off) * (ap - t) := by
  have h : (op + off) * t ≤ ap * off :=
    Nat.le_trans (Nat.mul_le_mul_left _ ht) (Nat.mul_comm g _ ▸ hg)
  calc op * ap = (op + off) * ap - ap * off := by rw [Nat.add_mul, Nat.mul_comm off ap, Nat.add_sub_cancel]
    _ ≤ (op + off) * ap - (op + off) * t := Nat.sub_le_sub_left h _
    _ = (op + off) * (ap - t) := (Nat.mul_sub ..).symm

/-- the two nested floors of `withdraw_liquidity` (share ratio, then refund) stay below the pro-rata amount -/
theorem refund_le_pro_rata {p amt S E : Nat} (hS : S ≠ 0) (hE : 0 < E) :
    p * (amt * E / S) / E * S ≤ p * amt := by
  rw [Nat.mul_comm p, Nat.mul_comm p]
  exact floor2_mul_le amt S p hE

/-- deposit-then-withdraw after a LATER deposit `d` that minted `sh ≤ d·S/P`: refunding `amt ≤ sh` shares
    pays at most `d` -/
theorem dw_later {r P d S sh amt : Nat} (h : r * (S + sh) ≤ (P + d) * amt) (ha : amt ≤ sh)
    (hm : sh * P ≤ d * S) (hpos : 0 < S + sh) : r ≤ d := by
  apply Nat.le_of_mul_le_mul_right _ hpos
  calc r * (S + sh) ≤ (P + d) * amt := h
    _ ≤ (P + d) * sh := Nat.mul_le_mul_left _ ha
    _ = sh * P + d * sh := by rw [Nat.add_mul, Nat.mul_comm P]
    _ ≤ d * S + d * sh := Nat.add_le_add_right hm _
    _ = d * (S + sh) := (Nat.mul_add ..).symm

/-- the later-deposit share `min(d0·S/p0, d1·S/p1)` is at most pro rata on both assets -/
theorem min_floor_le {sh d0 d1 S p0 p1 : Nat} (h : sh = min (d0 * S / p0) (d1 * S / p1)) :
    sh * p0 ≤ d0 * S ∧ sh * p1 ≤ d1 * S :=
  h ▸ ⟨Nat.le_trans (Nat.mul_le_mul_right _ (Nat.min_le_left ..)) (Nat.div_mul_le_self ..),
       Nat.le_trans (Nat.mul_le_mul_right _ (Nat.min_le_right ..)) (Nat.div_mul_le_self ..)⟩

def sumF (f : User → Nat) (l : List User) : Nat := (l.map f).sum

/-- the entry `St.user` answers with for an index beyond the list -/
def dflt : User := { a := 0, b := 0, lp := 0 }

theorem sumF_set (f : User → Nat) (l : List User) (u : Nat) (x d : User) (hu : u < l.length) :
    sumF f (l.set u x) + f (l.getD u d) = sumF f l + f x :=
  sum_map_set f l u x d hu

theorem getD_set_self (l : List User) (u : Nat) (x d : User) (hu : u < l.length) :
    (l.set u x).getD u d = x := by
  simp [List.getD, hu]

theorem getD_set_ne (l : List User) (u v : Nat) (x d : User) (h : v ≠ u) :
    (l.set u x).getD v d = l.getD v d := by
  simp [List.getD, List.getElem?_set_ne (Ne.symm h)]

theorem sumF_set_diff (f : User → Nat) {l : List User} {u : Nat} (hu : u < l.length) {x : User}
    {dx dy : Nat} (hx : f x + dx = f (l.getD u dflt) + dy) : sumF f (l.set u x) + dx = sumF f l + dy := by
  have := sumF_set f l u x dflt hu
  omega

/-- two successive updates, the second of which edits the entry it finds (`St.setUser` twice) -/
theorem sumF_set2_diff {l : List User} {u t : Nat} (hu : u < l.length) (ht : t < l.length) (x : User)
    (g : User → User) (f : User → Nat) {dx dy : Nat} (hx : f x + dx = f (l.getD u dflt))
    (hg : ∀ r, f (g r) = f r + dy) :
    sumF f ((l.set u x).set t (g ((l.set u x).getD t dflt))) + dx = sumF f l + dy := by
  have h1 := sumF_set_diff f hu (dy := 0) hx
  have h2 := sumF_set_diff f (l := l.set u x) (u := t) (by simpa using ht) (dx := 0) (hg _)
  omega

def User.le (x y : User) : Prop := x.a ≤ y.a ∧ x.b ≤ y.b ∧ x.lp ≤ y.lp

theorem User.le_refl (x : User) : User.le x x := ⟨Nat.le_refl _, Nat.le_refl _, Nat.le_refl _⟩

/-- a successful `swapCore`: both pools could be computed (`o` is the offer side with the offer already on
    its balance), `c` is the curve's computation on them, and `a'` is what the ask side `a` became -/
structure SwapFx (cv : Curve) (f : Fees) (dir : Bool) (o a a' : Side) (amt : Nat) (c : SwapComp) : Prop where
  offerOk : o.pend + amt ≤ o.bal
  askOk : a.pend ≤ a.bal
  comp : cv.swap f dir (o.bal - o.pend - amt) (a.bal - a.pend) amt = .ok c
  paid : c.ret + c.burnFee ≤ a.bal
  bal : a'.bal = a.bal - c.ret - c.burnFee
  pend : a'.pend = a.pend + c.protFee
  allTime : a'.allTime = a.allTime + c.protFee
  burned : a'.burned = a.burned + c.burnFee
  chg : a'.chg = a.chg + c.protFee
  brn : a'.brn = a.brn + c.burnFee
  tot : a'.tot = a.tot - c.burnFee
  col : a'.col = a.col
  colB : a'.colB = a.colB
  sent : a'.sent = a.sent
  native : a'.native = a.native

theorem swapCore_ok {cv : Curve} {f : Fees} {dir : Bool} {o a a' : Side} {amt : Nat} {ms : Option Nat}
    {c : SwapComp} (h : swapCore cv f dir o a amt ms = .ok (a', c)) : SwapFx cv f dir o a a' amt c := by
  simp only [swapCore, Res.bind_eq_ok, csub_eq_ok, padd_eq_ok, Res.pure_eq, Res.ok.injEq,
    Prod.mk.injEq] at h
  obtain ⟨_, ⟨l1, rfl⟩, _, ⟨l2, rfl⟩, _, ⟨l3, rfl⟩, c, e4, _, -, _, -, _, -, _, -, _, ⟨-, rfl⟩, _, ⟨-, rfl⟩,
    _, ⟨-, rfl⟩, _, ⟨l12, rfl⟩, _, ⟨l13, rfl⟩, rfl, rfl⟩ := h
  exact ⟨by omega, l3, e4, by omega, rfl, rfl, rfl, rfl, rfl, rfl, rfl, rfl, rfl, rfl, rfl⟩

theorem swap_ok {cv : Curve} {s s' : St} {u dir off rcv : Nat} {ms : Option Nat}
    (h : swap cv s u dir off ms rcv = .ok s') :
    s'.sup = s.sup ∧ s'.lpPair = s.lpPair ∧ sumF (·.lp) s'.users = sumF (·.lp) s.users ∧
    (∃ x y, s'.users = (s.users.set u x).set rcv y ∧ User.le ((s.users.set u x).getD rcv dflt) y) ∧
    ((dir = 0 ∧ ∃ c, SwapFx cv s.fees false { s.x0 with bal := s.x0.bal + off } s.x1 s'.x1 off c ∧
        s'.x0 = { s.x0 with bal := s.x0.bal + off } ∧
        sumF (·.a) s'.users + off = sumF (·.a) s.users ∧
        sumF (·.b) s'.users = sumF (·.b) s.users + c.ret) ∨
     (dir ≠ 0 ∧ ∃ c, SwapFx cv s.fees true { s.x1 with bal := s.x1.bal + off } s.x0 s'.x0 off c ∧
        s'.x1 = { s.x1 with bal := s.x1.bal + off } ∧
        sumF (·.b) s'.users + off = sumF (·.b) s.users ∧
        sumF (·.a) s'.users = sumF (·.a) s.users + c.ret)) := by
  simp only [swap, Res.bind_eq_ok, Res.ite_eq_ok, guardErr_eq_ok, decide_eq_true_eq, Prod.exists,
    Res.pure_eq, Res.ok.injEq] at h
  obtain ⟨_, ⟨hu, hto, -⟩, ⟨hd, _, -, _, ha, a', c, e, rfl⟩ | ⟨hd, _, -, _, ha, a', c, e, rfl⟩⟩ := h
  · have key := sumF_set2_diff hu hto { s.user u with a := (s.user u).a - off } fun r => { r with b := r.b + c.ret }
    exact ⟨rfl, rfl, key (·.lp) (dx := 0) (dy := 0) rfl fun _ => rfl,
      ⟨_, _, rfl, Nat.le_refl _, Nat.le_add_right _ _, Nat.le_refl _⟩, .inl ⟨hd, c, swapCore_ok e, rfl,
        key (·.a) (dy := 0) (Nat.sub_add_cancel ha) fun _ => rfl, key (·.b) (dx := 0) rfl fun _ => rfl⟩⟩
  · have key := sumF_set2_diff hu hto { s.user u with b := (s.user u).b - off } fun r => { r with a := r.a + c.ret }
    exact ⟨rfl, rfl, key (·.lp) (dx := 0) (dy := 0) rfl fun _ => rfl,
      ⟨_, _, rfl, Nat.le_add_right _ _, Nat.le_refl _, Nat.le_refl _⟩, .inr ⟨hd, c, swapCore_ok e, rfl,
        key (·.b) (dy := 0) (Nat.sub_add_cancel ha) fun _ => rfl, key (·.a) (dx := 0) rfl fun _ => rfl⟩⟩

theorem provideBad_not_ok {s s' : St} {u d0 d1 k : Nat} (h : provideBad s u d0 d1 k = .ok s') : False := by
  simp [provideBad, Res.bind_eq_ok, Res.ite_eq_ok] at h

theorem swapBad_ok {cv : Curve} {s s' : St} {u dir off sent : Nat}
    (h : swapBad cv s u dir off sent = .ok s') : swap cv s u dir off none u = .ok s' := by
  simp only [swapBad, Res.bind_eq_ok] at h
  obtain ⟨_, -, _, -, _, -, h⟩ := h
  exact h

/-- constant-product LP amounts: first deposit `⌊√(d0·d1)⌋ − 1000` (and 1000 locked in the pair),
    later deposits `min(d0·S/p0, d1·S/p1)` -/
theorem provideShares_ok {sup p0 p1 d0 d1 share lock : Nat} {tol : Option Nat}
    (h : provideShares sup p0 p1 d0 d1 tol = .ok (share, lock)) :
    (sup = 0 ∧ lock = Gen.MINIMUM_LIQUIDITY_AMOUNT ∧ share ≠ 0 ∧
        share + Gen.MINIMUM_LIQUIDITY_AMOUNT = isqrt (d0 * d1)) ∨
    (sup ≠ 0 ∧ lock = 0 ∧ p0 ≠ 0 ∧ p1 ≠ 0 ∧ share = min (d0 * sup / p0) (d1 * sup / p1)) := by
  simp only [provideShares, Res.ite_eq_ok, Res.bind_eq_ok, cmul_eq_ok, csub_eq_ok, guardErr_eq_ok,
    mulRatioP_eq_ok, decide_eq_true_eq, Res.pure_eq, Res.ok.injEq, Prod.mk.injEq] at h
  obtain ⟨h0, _, ⟨-, rfl⟩, _, ⟨l, hs⟩, _, hne, rfl, rfl⟩ | ⟨h0, _, ⟨n0, -, rfl⟩, _, ⟨n1, -, rfl⟩, _, -, rfl, rfl⟩ := h
  · exact .inl ⟨h0, rfl, hne, by omega⟩
  · exact .inr ⟨h0, rfl, n0, n1, rfl⟩

theorem provideShares_first {sup p0 p1 d0 d1 share lock : Nat} {tol : Option Nat}
    (h : provideShares sup p0 p1 d0 d1 tol = .ok (share, lock)) (hS : sup = 0) :
    lock = Gen.MINIMUM_LIQUIDITY_AMOUNT ∧ share ≠ 0 ∧ share + Gen.MINIMUM_LIQUIDITY_AMOUNT = isqrt (d0 * d1) := by
  rcases provideShares_ok h with ⟨-, h⟩ | ⟨hn, -⟩
  · exact h
  · exact absurd hS hn

theorem provideShares_le {sup p0 p1 d0 d1 share lock : Nat} {tol : Option Nat}
    (h : provideShares sup p0 p1 d0 d1 tol = .ok (share, lock)) (hS : sup ≠ 0) :
    lock = 0 ∧ share * p0 ≤ d0 * sup ∧ share * p1 ≤ d1 * sup := by
  rcases provideShares_ok h with ⟨h0, -⟩ | ⟨-, hk, -, -, hsh⟩
  · exact absurd h0 hS
  · exact ⟨hk, min_floor_le hsh⟩

theorem guardPanic_eq_ok {c : Bool} {u : Unit} (h : guardPanic c = .ok u) : c = true :=
  WW.guardPanic_eq_ok.mp h

theorem provide_ok {cv : Curve} {s s' : St} {u rcv d0 d1 : Nat} {tol : Option Nat}
    (h : provide cv s u rcv d0 d1 tol = .ok s') :
    ∃ share lock, s.x0.pend ≤ s.x0.bal ∧ s.x1.pend ≤ s.x1.bal ∧
      cv.shares s.sup (s.x0.bal - s.x0.pend) (s.x1.bal - s.x1.pend) d0 d1 tol = .ok (share, lock) ∧
      u < s.users.length ∧ rcv < s.users.length ∧ d0 ≤ (s.user u).a ∧ d1 ≤ (s.user u).b ∧
      s'.x0 = { s.x0 with bal := s.x0.bal + d0 } ∧ s'.x1 = { s.x1 with bal := s.x1.bal + d1 } ∧
      s'.sup = s.sup + lock + share ∧ s'.lpPair = s.lpPair + lock ∧ s'.fees = s.fees ∧
      s'.users = (s.users.set u { s.user u with a := (s.user u).a - d0, b := (s.user u).b - d1 }).set rcv
        { ((s.users.set u { s.user u with a := (s.user u).a - d0, b := (s.user u).b - d1 }).getD rcv dflt) with
          lp := ((s.users.set u { s.user u with a := (s.user u).a - d0, b := (s.user u).b - d1 }).getD rcv dflt).lp + share } ∧
      s'.users.length = s.users.length ∧
      sumF (·.a) s'.users + d0 = sumF (·.a) s.users ∧ sumF (·.b) s'.users + d1 = sumF (·.b) s.users ∧
      sumF (·.lp) s'.users = sumF (·.lp) s.users + share := by
  simp only [provide, Res.bind_eq_ok, guardErr_eq_ok, csub_eq_ok, decide_eq_true_eq, Prod.exists,
    Res.pure_eq, Res.ok.injEq] at h
  obtain ⟨_, ⟨hu, hr⟩, _, -, _, -, _, ⟨l0, rfl⟩, _, ⟨l1, rfl⟩, share, lock, es, _, ⟨ha, hb⟩, _, -, rfl⟩ := h
  have key := sumF_set2_diff hu hr { s.user u with a := (s.user u).a - d0, b := (s.user u).b - d1 }
    fun r => { r with lp := r.lp + share }
  exact ⟨share, lock, l0, l1, es, hu, hr, ha, hb, rfl, rfl, rfl, rfl, rfl, rfl, by simp [St.setUser],
    key (·.a) (dy := 0) (Nat.sub_add_cancel ha) fun _ => rfl,
    key (·.b) (dy := 0) (Nat.sub_add_cancel hb) fun _ => rfl, key (·.lp) (dx := 0) rfl fun _ => rfl⟩

theorem refunds_ok {s : St} {amt r0 r1 : Nat} (h : refunds s amt = .ok (r0, r1)) :
    s.sup ≠ 0 ∧ s.x0.pend ≤ s.x0.bal ∧ s.x1.pend ≤ s.x1.bal ∧
    r0 = (s.x0.bal - s.x0.pend) * (amt * E18 / s.sup) / E18 ∧
    r1 = (s.x1.bal - s.x1.pend) * (amt * E18 / s.sup) / E18 := by
  simp only [refunds, dec128FromRatio, Res.bind_eq_ok, mulRatioP_eq_ok, csub_eq_ok, u128MulDec_eq_ok,
    Res.pure_eq, Res.ok.injEq, Prod.mk.injEq] at h
  obtain ⟨_, ⟨hs, -, rfl⟩, _, ⟨l0, rfl⟩, _, ⟨-, rfl⟩, _, ⟨l1, rfl⟩, _, ⟨-, rfl⟩, rfl, rfl⟩ := h
  exact ⟨hs, l0, l1, rfl, rfl⟩

/-- **a withdrawal pays at most the pro-rata share** of each reported reserve -/
theorem refunds_le {s : St} {amt r0 r1 : Nat} (h : refunds s amt = .ok (r0, r1)) :
    s.sup ≠ 0 ∧ r0 * s.sup ≤ s.x0.res * amt ∧ r1 * s.sup ≤ s.x1.res * amt := by
  obtain ⟨hS, -, -, rfl, rfl⟩ := refunds_ok h
  exact ⟨hS, refund_le_pro_rata hS E18_pos, refund_le_pro_rata hS E18_pos⟩

theorem withdraw_ok {s s' : St} {u amt : Nat} (h : withdraw s u amt = .ok s') :
    ∃ r0 r1, refunds s amt = .ok (r0, r1) ∧ u < s.users.length ∧ amt ≤ (s.user u).lp ∧
      r0 ≤ s.x0.bal ∧ r1 ≤ s.x1.bal ∧
      s'.x0 = { s.x0 with bal := s.x0.bal - r0 } ∧ s'.x1 = { s.x1 with bal := s.x1.bal - r1 } ∧
      s'.sup = s.sup - amt ∧ s'.lpPair = s.lpPair ∧ s'.fees = s.fees ∧
      s'.users = s.users.set u { a := (s.user u).a + r0, b := (s.user u).b + r1, lp := (s.user u).lp - amt } ∧
      s'.users.length = s.users.length ∧
      sumF (·.a) s'.users = sumF (·.a) s.users + r0 ∧ sumF (·.b) s'.users = sumF (·.b) s.users + r1 ∧
      sumF (·.lp) s'.users + amt = sumF (·.lp) s.users := by
  simp only [withdraw, Res.bind_eq_ok, guardErr_eq_ok, decide_eq_true_eq, Prod.exists, Res.pure_eq,
    Res.ok.injEq] at h
  obtain ⟨_, hu, _, ha, r0, r1, er, _, -, _, ⟨h0, h1⟩, rfl⟩ := h
  have key := fun f dx dy => sumF_set_diff f hu (dx := dx) (dy := dy)
    (x := { a := (s.user u).a + r0, b := (s.user u).b + r1, lp := (s.user u).lp - amt })
  exact ⟨r0, r1, er, hu, ha, h0, h1, rfl, rfl, rfl, rfl, rfl, rfl, by simp [St.setUser],
    key (·.a) 0 r0 rfl, key (·.b) 0 r1 rfl, key (·.lp) amt 0 (Nat.sub_add_cancel ha)⟩

def collectable (x : Side) : Bool := decide (Gen.PAIR_MINIMUM_COLLECTABLE_BALANCE < x.pend)

/-- what a collection above the threshold does to one side: the pending entry leaves the pair and
    lands with the configured collector (`useB` selects which of the two collector accounts) -/
structure CollectFx (useB : Bool) (x x' : Side) : Prop where
  above : Gen.PAIR_MINIMUM_COLLECTABLE_BALANCE < x.pend
  le : x.pend ≤ x.bal
  bal : x'.bal = x.bal - x.pend
  pend : x'.pend = 0
  col : x'.col = (if useB then x.col else x.col + x.pend)
  colB : x'.colB = (if useB then x.colB + x.pend else x.colB)
  sent : x'.sent = x.sent + x.pend
  native : x'.native = x.native
  allTime : x'.allTime = x.allTime
  burned : x'.burned = x.burned
  chg : x'.chg = x.chg
  brn : x'.brn = x.brn
  tot : x'.tot = x.tot

theorem collectSide_ok {useB : Bool} {x x' : Side} (h : collectSide useB x = .ok x') :
    CollectFx useB x x' ∨ (x.pend ≤ Gen.PAIR_MINIMUM_COLLECTABLE_BALANCE ∧ x' = x) := by
  simp only [collectSide, Res.ite_eq_ok, Res.bind_eq_ok, csub_eq_ok, Res.pure_eq, Res.ok.injEq,
    Bool.not_eq_true] at h
  obtain ⟨hc, _, ⟨l, rfl⟩, ⟨rfl, rfl⟩ | ⟨rfl, rfl⟩⟩ | ⟨hc, rfl⟩ := h
  · exact .inl ⟨hc, l, rfl, rfl, rfl, rfl, rfl, rfl, rfl, rfl, rfl, rfl, rfl⟩
  · exact .inl ⟨hc, l, rfl, rfl, rfl, rfl, rfl, rfl, rfl, rfl, rfl, rfl, rfl⟩
  · exact .inr ⟨Nat.le_of_not_lt hc, rfl⟩

/-- one side of a collection: exactly the pending entry moves (iff above the threshold), to the
    CONFIGURED collector (the other collector account gets nothing); the reported reserve, the
    counters and the circulating amount are untouched -/
theorem collectSide_exact {useB : Bool} {x x' : Side} (h : collectSide useB x = .ok x') :
    x'.col = x.col + (if collectable x && !useB then x.pend else 0) ∧
    x'.colB = x.colB + (if collectable x && useB then x.pend else 0) ∧
    x'.pend = (if collectable x then 0 else x.pend) ∧
    x.bal - x'.bal = (if collectable x then x.pend else 0) ∧ x'.bal ≤ x.bal ∧
    x'.res = x.res ∧ x'.allTime = x.allTime ∧ x'.burned = x.burned ∧ x'.chg = x.chg ∧ x'.brn = x.brn ∧
    x'.tot = x.tot ∧ x'.sent = x.sent + (if collectable x then x.pend else 0) := by
  rcases collectSide_ok h with fx | ⟨hc, rfl⟩
  · have hcl : collectable x = true := decide_eq_true fx.above
    have := fx.le; have := fx.bal; have := fx.pend
    simp only [hcl, if_true, Bool.true_and, Side.res]
    refine ⟨?_, ?_, fx.pend, by omega, by omega, by omega, fx.allTime, fx.burned, fx.chg, fx.brn, fx.tot, fx.sent⟩
    · rw [fx.col]; cases useB <;> rfl
    · rw [fx.colB]; cases useB <;> rfl
  · have hcl : collectable x' = false := decide_eq_false (Nat.not_lt.mpr hc)
    simp [hcl]

theorem collect_ok {s s' : St} (h : collect s = .ok s') :
    ∃ y0 y1, collectSide s.useB s.x0 = .ok y0 ∧ collectSide s.useB s.x1 = .ok y1 ∧
      s' = { s with x0 := y0, x1 := y1 } := by
  simp only [collect, Res.bind_eq_ok, Res.pure_eq, Res.ok.injEq] at h
  obtain ⟨y0, e0, y1, e1, rfl⟩ := h
  exact ⟨y0, y1, e0, e1, rfl⟩

theorem setFees_ok {s s' : St} {o : Bool} {f : Fees} (h : setFees s o f = .ok s') :
    o = true ∧ f.valid = true ∧ s' = { s with fees := f } := by
  simp only [setFees, Res.bind_eq_ok, guardErr_eq_ok, Res.pure_eq, Res.ok.injEq] at h
  obtain ⟨_, ho, _, hf, rfl⟩ := h
  exact ⟨ho, hf, rfl⟩

theorem setCollector_ok {s s' : St} {o b : Bool} (h : setCollector s o b = .ok s') :
    o = true ∧ s' = { s with useB := b } := by
  simp only [setCollector, Res.bind_eq_ok, guardErr_eq_ok, Res.pure_eq, Res.ok.injEq] at h
  obtain ⟨_, ho, rfl⟩ := h
  exact ⟨ho, rfl⟩

/-- a plain transfer moves `d0` of asset 0, `d1` of asset 1 and `dl` LP tokens from user `u` to the pair
    (one of the three is the amount, the others are zero) -/
theorem donate_ok {s s' : St} {u which amt : Nat} (h : donate s u which amt = .ok s') :
    ∃ d0 d1 dl usr, u < s.users.length ∧
      usr.a + d0 = (s.user u).a ∧ usr.b + d1 = (s.user u).b ∧ usr.lp + dl = (s.user u).lp ∧
      s' = { s with x0 := { s.x0 with bal := s.x0.bal + d0 }, x1 := { s.x1 with bal := s.x1.bal + d1 },
                    lpPair := s.lpPair + dl, users := s.users.set u usr } := by
  simp only [donate, Res.bind_eq_ok, Res.ite_eq_ok, guardErr_eq_ok, decide_eq_true_eq, Res.pure_eq,
    Res.ok.injEq, reduceCtorEq, and_false, or_false] at h
  obtain ⟨_, hu, ⟨-, _, -, _, ha, rfl⟩ | ⟨-, ⟨-, _, -, _, ha, rfl⟩ | ⟨-, -, _, ha, rfl⟩⟩⟩ := h
  · exact ⟨amt, 0, 0, { s.user u with a := (s.user u).a - amt }, hu, Nat.sub_add_cancel ha, rfl, rfl, rfl⟩
  · exact ⟨0, amt, 0, { s.user u with b := (s.user u).b - amt }, hu, rfl, Nat.sub_add_cancel ha, rfl, rfl⟩
  · exact ⟨0, 0, amt, { s.user u with lp := (s.user u).lp - amt }, hu, rfl, rfl, Nat.sub_add_cancel ha, rfl⟩

/-- fee ledgers of one side against the ghost sums; `K` = initial circulating amount, `C` = what the
    collector held initially -/
structure SideLedger (K C : Nat) (x : Side) : Prop where
  ledger : x.pend + x.sent = x.chg
  allTime : x.allTime = x.chg
  burned : x.burned = x.brn
  col : x.col + x.colB = C + x.sent
  supply : x.tot + x.brn = K

/-- closed world: every unit of each asset is on the pair, with the collector or with a user -/
structure Cons (s : St) : Prop where
  c0 : s.x0.tot = s.x0.bal + s.x0.col + s.x0.colB + sumF (·.a) s.users
  c1 : s.x1.tot = s.x1.bal + s.x1.col + s.x1.colB + sumF (·.b) s.users

structure LInv (K0 C0 K1 C1 : Nat) (s : St) : Prop where
  l0 : SideLedger K0 C0 s.x0
  l1 : SideLedger K1 C1 s.x1
  cons : Cons s

/-- what one successful operation does to the ledgers of one side -/
structure SideDelta (x x' : Side) (pf bf sent : Nat) : Prop where
  chg : x'.chg = x.chg + pf
  allTime : x'.allTime = x.allTime + pf
  brn : x'.brn = x.brn + bf
  burned : x'.burned = x.burned + bf
  snt : x'.sent = x.sent + sent
  col : x'.col + x'.colB = x.col + x.colB + sent
  pend : x'.pend + sent = x.pend + pf

/-- one side across a successful operation: the ledgers move as `SideDelta` says, `inn` arrives on
    the balance from users and `pay` is paid out to them; the burn fee and the collected amount leave
    the balance as well, and the burn fee leaves circulation -/
structure SideFlow (x x' : Side) (pf bf sent inn pay : Nat) : Prop where
  delta : SideDelta x x' pf bf sent
  bal : x'.bal + pay + bf + sent = x.bal + inn
  tot : x'.tot = x.tot - bf

theorem SideFlow.of_bal (x : Side) {b inn pay : Nat} (h : b + pay = x.bal + inn) :
    SideFlow x { x with bal := b } 0 0 0 inn pay :=
  ⟨⟨rfl, rfl, rfl, rfl, rfl, rfl, rfl⟩, h, rfl⟩

theorem SwapFx.flow {cv : Curve} {f : Fees} {dir : Bool} {o a a' : Side} {amt : Nat} {c : SwapComp}
    (fx : SwapFx cv f dir o a a' amt c) : SideFlow a a' c.protFee c.burnFee 0 0 c.ret := by
  refine ⟨⟨fx.chg, fx.allTime, fx.brn, fx.burned, fx.sent, by rw [fx.col, fx.colB]; rfl, fx.pend⟩, ?_, fx.tot⟩
  have := fx.paid; have := fx.bal
  omega

theorem collectSide_flow {useB : Bool} {x x' : Side} (h : collectSide useB x = .ok x') :
    SideFlow x x' 0 0 (if collectable x then x.pend else 0) 0 0 := by
  rcases collectSide_ok h with fx | ⟨hc, rfl⟩
  · rw [collectable, decide_eq_true fx.above, if_pos rfl]
    refine ⟨⟨fx.chg, fx.allTime, fx.brn, fx.burned, fx.sent, ?_, by rw [fx.pend, Nat.zero_add, Nat.add_zero]⟩,
      by rw [fx.bal]; exact Nat.sub_add_cancel fx.le, fx.tot⟩
    rw [fx.col, fx.colB]
    cases useB
    · exact Nat.add_right_comm ..
    · exact (Nat.add_assoc ..).symm
  · rw [collectable, decide_eq_false (Nat.not_lt.mpr hc), if_neg Bool.false_ne_true]
    exact .of_bal x' rfl

theorem SideLedger.of_flow {K C : Nat} {x x' : Side} {pf bf st inn pay : Nat} (h : SideLedger K C x)
    (fl : SideFlow x x' pf bf st inn pay) (hb : bf ≤ x.tot) : SideLedger K C x' := by
  obtain ⟨⟨c, a, n, b, s, cl, p⟩, -, t⟩ := fl
  obtain ⟨l, ha, hbn, hc, hs⟩ := h
  -- each equation by rewriting with the deltas (`omega` is slow to check over these thirteen hypotheses)
  exact ⟨by rw [c, s, ← l, ← Nat.add_assoc, Nat.add_right_comm, p, Nat.add_right_comm],
    by rw [a, c, ha], by rw [b, n, hbn], by rw [cl, s, hc, Nat.add_assoc],
    by rw [t, n, ← Nat.add_assoc, Nat.add_right_comm, Nat.sub_add_cancel hb, hs]⟩

/-- a flow keeps the closed world when the users' holdings `U` move the opposite way; the burn fee is
    covered by the circulating amount -/
theorem SideFlow.cons {x x' : Side} {pf bf st inn pay U U' : Nat} (fl : SideFlow x x' pf bf st inn pay)
    (hu : U' + inn = U + pay) (hc : x.tot = x.bal + x.col + x.colB + U) :
    x'.tot = x'.bal + x'.col + x'.colB + U' ∧ bf ≤ x.tot := by
  obtain ⟨⟨-, -, -, -, -, cl, -⟩, b, t⟩ := fl
  omega

/-- **what one successful operation does to the two assets**: each side is a `SideFlow`, whatever
    arrives on a balance comes from the users and whatever is paid out goes to them; only a swap charges
    fees (`pf`, `bf`: the computation's protocol / burn fee, on the ASK side), only a collection pays the
    collector (`st`) -/
def Flow (s s' : St) (op : Op) : Prop :=
  ∃ pf0 bf0 st0 in0 pay0 pf1 bf1 st1 in1 pay1,
    SideFlow s.x0 s'.x0 pf0 bf0 st0 in0 pay0 ∧ SideFlow s.x1 s'.x1 pf1 bf1 st1 in1 pay1 ∧
    sumF (·.a) s'.users + in0 = sumF (·.a) s.users + pay0 ∧
    sumF (·.b) s'.users + in1 = sumF (·.b) s.users + pay1 ∧
    ((pf0 ≠ 0 ∨ bf0 ≠ 0 ∨ pf1 ≠ 0 ∨ bf1 ≠ 0) →
      (∃ u dir off ms rcv, op = .swap u dir off ms rcv) ∨ (∃ u dir off sent, op = .swapBad u dir off sent)) ∧
    ((st0 ≠ 0 ∨ st1 ≠ 0) → op = .collect)

theorem Flow.of_bal {s s' : St} {op : Op} {b0 b1 : Nat} (in0 pay0 in1 pay1 : Nat)
    (e0 : s'.x0 = { s.x0 with bal := b0 }) (e1 : s'.x1 = { s.x1 with bal := b1 })
    (h0 : b0 + pay0 = s.x0.bal + in0) (h1 : b1 + pay1 = s.x1.bal + in1)
    (hA : sumF (·.a) s'.users + in0 = sumF (·.a) s.users + pay0)
    (hB : sumF (·.b) s'.users + in1 = sumF (·.b) s.users + pay1) : Flow s s' op :=
  ⟨0, 0, 0, in0, pay0, 0, 0, 0, in1, pay1, e0 ▸ .of_bal _ h0, e1 ▸ .of_bal _ h1, hA, hB, by simp, by simp⟩

theorem swap_flow {cv : Curve} {s s' : St} {u dir off rcv : Nat} {ms : Option Nat} {op : Op}
    (hop : (∃ u dir off ms rcv, op = .swap u dir off ms rcv) ∨ (∃ u dir off sent, op = .swapBad u dir off sent))
    (h : swap cv s u dir off ms rcv = .ok s') : Flow s s' op := by
  obtain ⟨-, -, -, -, ⟨-, c, fx, e0, hA, hB⟩ | ⟨-, c, fx, e1, hB, hA⟩⟩ := swap_ok h
  · exact ⟨0, 0, 0, off, 0, c.protFee, c.burnFee, 0, 0, c.ret, e0 ▸ .of_bal _ rfl, fx.flow, hA, hB,
      fun _ => hop, by simp⟩
  · exact ⟨c.protFee, c.burnFee, 0, 0, c.ret, 0, 0, 0, off, 0, fx.flow, e1 ▸ .of_bal _ rfl, hA, hB,
      fun _ => hop, by simp⟩

theorem step_flow {cv : Curve} {s s' : St} {op : Op} (h : step cv s op = .ok s') : Flow s s' op := by
  cases op with
  | provide u rcv d0 d1 tol =>
    obtain ⟨_, _, -, -, -, -, -, -, -, e0, e1, -, -, -, -, -, hA, hB, -⟩ := provide_ok h
    exact .of_bal d0 0 d1 0 e0 e1 rfl rfl hA hB
  | swap u dir off ms rcv => exact swap_flow (.inl ⟨u, dir, off, ms, rcv, rfl⟩) h
  | swapBad u dir off sent => exact swap_flow (.inr ⟨u, dir, off, sent, rfl⟩) (swapBad_ok h)
  | withdraw u amt =>
    obtain ⟨r0, r1, -, -, -, h0, h1, e0, e1, -, -, -, -, -, hA, hB, -⟩ := withdraw_ok h
    exact .of_bal 0 r0 0 r1 e0 e1 (Nat.sub_add_cancel h0) (Nat.sub_add_cancel h1) hA hB
  | collect =>
    obtain ⟨y0, y1, h0, h1, rfl⟩ := collect_ok h
    exact ⟨0, 0, _, 0, 0, 0, 0, _, 0, 0, collectSide_flow h0, collectSide_flow h1, rfl, rfl, by simp,
      fun _ => rfl⟩
  | setFees o f =>
    obtain ⟨-, -, rfl⟩ := setFees_ok h
    exact .of_bal 0 0 0 0 rfl rfl rfl rfl rfl rfl
  | setCollector o b =>
    obtain ⟨-, rfl⟩ := setCollector_ok h
    exact .of_bal 0 0 0 0 rfl rfl rfl rfl rfl rfl
  | foreign k u a => cases h
  | provideBad u d0 d1 k => exact (provideBad_not_ok h).elim
  | donate u which amt =>
    obtain ⟨d0, d1, dl, usr, hu, ha, hb, -, rfl⟩ := donate_ok h
    exact .of_bal d0 0 d1 0 rfl rfl rfl rfl (sumF_set_diff (·.a) hu ha) (sumF_set_diff (·.b) hu hb)

/-- **only swaps charge fees, only collections pay the collector**: every successful operation of any
    pair type changes the ledgers of each side by `(pf, bf, sent)` where `pf`, `bf` are non-zero only
    for a swap (then they are the computation's protocol / burn fee on the ASK side) and `sent` is
    non-zero only for a collection -/
theorem step_deltas {cv : Curve} {s s' : St} {op : Op} (h : step cv s op = .ok s') :
    ∃ pf0 bf0 st0 pf1 bf1 st1, SideDelta s.x0 s'.x0 pf0 bf0 st0 ∧ SideDelta s.x1 s'.x1 pf1 bf1 st1 ∧
      ((pf0 ≠ 0 ∨ bf0 ≠ 0 ∨ pf1 ≠ 0 ∨ bf1 ≠ 0) →
        (∃ u dir off ms rcv, op = .swap u dir off ms rcv) ∨ (∃ u dir off sent, op = .swapBad u dir off sent)) ∧
      ((st0 ≠ 0 ∨ st1 ≠ 0) → op = .collect) := by
  obtain ⟨pf0, bf0, st0, _, _, pf1, bf1, st1, _, _, f0, f1, -, -, hc, hs⟩ := step_flow h
  exact ⟨pf0, bf0, st0, pf1, bf1, st1, f0.delta, f1.delta, hc, hs⟩

/-- the ledger invariant and the closed-world conservation are preserved by every successful
    operation of ANY pair type -/
theorem step_linv {cv : Curve} {K0 C0 K1 C1 : Nat} {s s' : St} {op : Op} (hL : LInv K0 C0 K1 C1 s)
    (h : step cv s op = .ok s') : LInv K0 C0 K1 C1 s' := by
  obtain ⟨_, _, _, _, _, _, _, _, _, _, f0, f1, hA, hB, -, -⟩ := step_flow h
  obtain ⟨c0, b0⟩ := f0.cons hA hL.cons.c0
  obtain ⟨c1, b1⟩ := f1.cons hB hL.cons.c1
  exact ⟨hL.l0.of_flow f0 b0, hL.l1.of_flow f1 b1, ⟨c0, c1⟩⟩

/-- LP-value comparison: `√(r0·r1)/S` at `s` is at most that at `s'`, cross-multiplied and squared -/
def ValueLe (s s' : St) : Prop :=
  s.x0.res * s.x1.res * s'.sup ^ 2 ≤ s'.x0.res * s'.x1.res * s.sup ^ 2

structure Inv (s : St) : Prop where
  solv0 : s.x0.pend ≤ s.x0.bal
  solv1 : s.x1.pend ≤ s.x1.bal
  lpSum : s.sup = s.lpPair + sumF (·.lp) s.users
  locked : s.sup = 0 ∨ Gen.MINIMUM_LIQUIDITY_AMOUNT ≤ s.lpPair

theorem Side.res_bal (x : Side) (b : Nat) : ({ x with bal := b } : Side).res = b - x.pend := rfl

theorem Side.res_add (x : Side) (d : Nat) (h : x.pend ≤ x.bal) :
    ({ x with bal := x.bal + d } : Side).res = x.res + d := Nat.sub_add_comm h

theorem Side.res_sub (x : Side) (r : Nat) : ({ x with bal := x.bal - r } : Side).res = x.res - r :=
  Nat.sub_right_comm ..

/-- a constant-product swap on the two sides, `x` the offer side before the offer arrived -/
structure CpFx (f : Fees) (x a a' : Side) (off : Nat) (c : SwapComp) : Prop where
  /-- it is priced on the reported reserves -/
  priced : cpSwap x.res a.res off f = .ok c
  /-- what leaves the ask reserve: proceeds, protocol fee (to the ledger) and burn fee -/
  paid : a'.res + c.ret + c.protFee + c.burnFee = a.res
  solvent : a'.pend ≤ a'.bal
  /-- the product of the reserves does not fall -/
  kLe : x.res * a.res ≤ ({ x with bal := x.bal + off } : Side).res * a'.res

theorem SwapFx.cp {f : Fees} {dir : Bool} {x a a' : Side} {off : Nat} {c : SwapComp}
    (fx : SwapFx cpCurve f dir { x with bal := x.bal + off } a a' off c) : CpFx f x a a' off c := by
  have hx : x.pend ≤ x.bal := Nat.le_of_add_le_add_right (b := off) fx.offerOk
  have hc : cpSwap (x.bal + off - x.pend - off) (a.bal - a.pend) off f = .ok c := fx.comp
  rw [Nat.sub_right_comm, Nat.add_sub_cancel] at hc
  obtain ⟨-, -, -, -, hsum, -⟩ := cpSwap_ok hc
  -- what leaves the ask reserve is at most the gross output, which is at most the reserve
  have ht : c.ret + c.protFee + c.burnFee ≤ cpGross (x.bal - x.pend) (a.bal - a.pend) off :=
    hsum ▸ by omega
  obtain ⟨hr, hs, he⟩ := res_after_pay rfl fx.askOk (Nat.le_trans ht (cpGross_le_ask ..))
  rw [← fx.bal, ← fx.pend] at hr hs he
  refine ⟨hc, he, hs, ?_⟩
  rw [Side.res_add x off hx]
  simp only [Side.res]
  exact hr ▸ swap_k (Nat.div_mul_le_self ..) ht

/-- a collection leaves the reported reserve alone -/
theorem collectSide_res {useB : Bool} {x x' : Side} (h : collectSide useB x = .ok x') : x'.res = x.res := by
  obtain ⟨-, -, -, -, -, hr, -⟩ := collectSide_exact h
  exact hr

theorem collectSide_solv {useB : Bool} {x x' : Side} (h : collectSide useB x = .ok x')
    (hs : x.pend ≤ x.bal) : x'.pend ≤ x'.bal := by
  rcases collectSide_ok h with fx | ⟨-, rfl⟩
  · exact fx.pend ▸ Nat.zero_le _
  · exact hs

/-- `Inv` sees the users only through their LP total: an operation that leaves the supply, the pair's own
    LP and that total alone keeps it as soon as both sides stay solvent -/
theorem Inv.frame {s s' : St} (hI : Inv s) (h0 : s'.x0.pend ≤ s'.x0.bal) (h1 : s'.x1.pend ≤ s'.x1.bal)
    (eS : s'.sup = s.sup) (eP : s'.lpPair = s.lpPair) (eL : sumF (·.lp) s'.users = sumF (·.lp) s.users) :
    Inv s' ∧ s.lpPair ≤ s'.lpPair :=
  ⟨⟨h0, h1, by rw [eS, eP, eL]; exact hI.lpSum, by rw [eS, eP]; exact hI.locked⟩, eP.ge⟩

theorem swap_inv {s s' : St} {u dir off rcv : Nat} {ms : Option Nat} (hI : Inv s)
    (h : swap cpCurve s u dir off ms rcv = .ok s') : Inv s' ∧ s.lpPair ≤ s'.lpPair := by
  obtain ⟨eS, eP, eL, -, ⟨-, c, fx, e0, -, -⟩ | ⟨-, c, fx, e1, -, -⟩⟩ := swap_ok h
  · exact hI.frame (e0 ▸ Nat.le_add_right_of_le hI.solv0) fx.cp.solvent eS eP eL
  · exact hI.frame fx.cp.solvent (e1 ▸ Nat.le_add_right_of_le hI.solv1) eS eP eL

/-- **one step keeps the pool solvent and the LP bookkeeping exact, and never lets the pair's own LP
    tokens out** (constant-product pair) -/
theorem step_inv {s s' : St} {op : Op} (hI : Inv s) (h : step cpCurve s op = .ok s') :
    Inv s' ∧ s.lpPair ≤ s'.lpPair := by
  have ⟨s0, s1, hs, hl⟩ := hI
  cases op with
  | provide u rcv d0 d1 tol =>
    obtain ⟨share, lock, -, -, es, -, -, -, -, e0, e1, eS, eP, -, -, -, -, -, eL⟩ := provide_ok h
    refine ⟨⟨?_, ?_, by omega, .inr ?_⟩, eP ▸ Nat.le_add_right _ _⟩
    · rw [e0]; exact Nat.le_add_right_of_le s0
    · rw [e1]; exact Nat.le_add_right_of_le s1
    · rw [eP]
      rcases hl with h0 | h0
      · exact Nat.le_add_left_of_le (provideShares_first es h0).1.ge
      · exact Nat.le_add_right_of_le h0
  | swap u dir off ms rcv => exact swap_inv hI h
  | swapBad u dir off sent => exact swap_inv hI (swapBad_ok h)
  | withdraw u amt =>
    obtain ⟨r0, r1, er, hu, ha, -, -, e0, e1, eS, eP, -, -, -, -, -, eL⟩ := withdraw_ok h
    obtain ⟨hS, p0, p1⟩ := refunds_le er
    -- the user's LP is part of the supply (replace its entry by `dflt` and compare the sums)
    have hlp := sumF_set_diff (·.lp) hu (x := dflt) (dy := 0) (Nat.zero_add (s.user u).lp)
    have hamt : amt ≤ s.sup := by omega
    -- each refund is at most the reported reserve
    have b0 := dw_first p0 hamt (Nat.pos_of_ne_zero hS)
    have b1 := dw_first p1 hamt (Nat.pos_of_ne_zero hS)
    refine ⟨⟨?_, ?_, ?_, .inr (eP ▸ hl.resolve_left hS)⟩, eP.ge⟩
    · rw [e0]; exact Nat.le_sub_of_add_le' (Nat.add_le_of_le_sub s0 b0)
    · rw [e1]; exact Nat.le_sub_of_add_le' (Nat.add_le_of_le_sub s1 b1)
    · rw [eS, eP, hs, ← eL, ← Nat.add_assoc, Nat.add_sub_cancel]
  | collect =>
    obtain ⟨y0, y1, h0, h1, rfl⟩ := collect_ok h
    exact hI.frame (collectSide_solv h0 s0) (collectSide_solv h1 s1) rfl rfl rfl
  | setFees o f =>
    obtain ⟨-, -, rfl⟩ := setFees_ok h
    exact hI.frame s0 s1 rfl rfl rfl
  | setCollector o b =>
    obtain ⟨-, rfl⟩ := setCollector_ok h
    exact hI.frame s0 s1 rfl rfl rfl
  | foreign k u a => cases h
  | provideBad u d0 d1 k => exact (provideBad_not_ok h).elim
  | donate u which amt =>
    obtain ⟨d0, d1, dl, usr, hu, -, -, hp, rfl⟩ := donate_ok h
    have hL := sumF_set_diff (·.lp) hu (dy := 0) hp
    refine ⟨⟨Nat.le_add_right_of_le s0, Nat.le_add_right_of_le s1, ?_, ?_⟩, Nat.le_add_right _ _⟩ <;>
      dsimp only at hL ⊢ <;> omega

theorem ValueLe.refl (s : St) : ValueLe s s := Nat.le_refl _

theorem ValueLe.of_res {s s' : St} (h0 : s.x0.res ≤ s'.x0.res) (h1 : s.x1.res ≤ s'.x1.res)
    (hs : s'.sup = s.sup) : ValueLe s s' := by
  unfold ValueLe
  rw [hs]
  exact Nat.mul_le_mul_right _ (Nat.mul_le_mul h0 h1)

theorem swap_value {s s' : St} {u dir off rcv : Nat} {ms : Option Nat}
    (h : swap cpCurve s u dir off ms rcv = .ok s') : ValueLe s s' := by
  obtain ⟨eS, -, -, -, hcase⟩ := swap_ok h
  unfold ValueLe
  rw [eS]
  apply Nat.mul_le_mul_right
  rcases hcase with ⟨-, c, fx, e0, -, -⟩ | ⟨-, c, fx, e1, -, -⟩
  · rw [e0]
    exact fx.cp.kLe
  · rw [e1, Nat.mul_comm, Nat.mul_comm s'.x0.res]
    exact fx.cp.kLe

/-- **the value backing one LP token never falls** across a successful operation of the
    constant-product pair (`√(r0·r1)/S`, cross-multiplied and squared; `S ≠ 0` before the operation) -/
theorem step_value {s s' : St} {op : Op} (h : step cpCurve s op = .ok s') (hS : s.sup ≠ 0) :
    ValueLe s s' := by
  cases op with
  | provide u rcv d0 d1 tol =>
    obtain ⟨share, lock, l0, l1, es, -, -, -, -, e0, e1, eS, -⟩ := provide_ok h
    obtain ⟨rfl, m0, m1⟩ := provideShares_le es hS
    unfold ValueLe
    rw [e0, e1, eS, Side.res_add _ d0 l0, Side.res_add _ d1 l1]
    exact value_of_sides (deposit_side m0) (deposit_side m1)
  | swap u dir off ms rcv => exact swap_value h
  | swapBad u dir off sent => exact swap_value (swapBad_ok h)
  | withdraw u amt =>
    obtain ⟨r0, r1, er, -, -, -, -, e0, e1, eS, -⟩ := withdraw_ok h
    obtain ⟨-, p0, p1⟩ := refunds_le er
    unfold ValueLe
    rw [e0, e1, eS, Side.res_sub _ r0, Side.res_sub _ r1]
    exact value_of_sides (withdraw_side' p0) (withdraw_side' p1)
  | collect =>
    obtain ⟨y0, y1, h0, h1, rfl⟩ := collect_ok h
    exact .of_res (collectSide_res h0).ge (collectSide_res h1).ge rfl
  | setFees o f =>
    obtain ⟨-, -, rfl⟩ := setFees_ok h
    exact .refl _
  | setCollector o b =>
    obtain ⟨-, rfl⟩ := setCollector_ok h
    exact .refl _
  | foreign k u a => cases h
  | provideBad u d0 d1 k => exact (provideBad_not_ok h).elim
  | donate u which amt =>
    obtain ⟨d0, d1, dl, usr, -, -, -, -, rfl⟩ := donate_ok h
    exact .of_res (Nat.sub_le_sub_right (Nat.le_add_right ..) _) (Nat.sub_le_sub_right (Nat.le_add_right ..) _) rfl


/-- what every successful operation preserves holds along every history (a failed one changes nothing) -/
theorem reach_ind {cv : Curve} {P : St → Prop} (hstep : ∀ {s s' op}, P s → step cv s op = .ok s' → P s')
    {s : St} (h : P s) (ops : List Op) : P (reach cv s ops) := by
  induction ops generalizing s with
  | nil => exact h
  | cons op ops ih =>
    simp only [reach]
    cases e : step cv s op with
    | ok s1 => exact ih (hstep h e)
    | err => exact ih h
    | panic => exact ih h

theorem reach_inv (s : St) (hI : Inv s) (ops : List Op) :
    Inv (reach cpCurve s ops) ∧ s.lpPair ≤ (reach cpCurve s ops).lpPair :=
  reach_ind (P := fun t => Inv t ∧ s.lpPair ≤ t.lpPair)
    (fun ⟨hI, hl⟩ e => ⟨(step_inv hI e).1, Nat.le_trans hl (step_inv hI e).2⟩) ⟨hI, Nat.le_refl _⟩ ops

/-- supply stays positive once it is (the pair's own locked tokens are part of it) -/
theorem step_sup_ne_zero {s s' : St} {op : Op} (hI : Inv s) (h : step cpCurve s op = .ok s')
    (hS : s.sup ≠ 0) : s'.sup ≠ 0 := by
  obtain ⟨hI', hl⟩ := step_inv hI h
  have := hI'.lpSum
  have := hI.locked.resolve_left hS
  have : 0 < Gen.MINIMUM_LIQUIDITY_AMOUNT := by decide
  omega

theorem reach_value (s : St) (hI : Inv s) (hS : s.sup ≠ 0) (ops : List Op) :
    ValueLe s (reach cpCurve s ops) :=
  (reach_ind (P := fun t => Inv t ∧ t.sup ≠ 0 ∧ ValueLe s t)
    (fun ⟨hI, hS, v⟩ e => ⟨(step_inv hI e).1, step_sup_ne_zero hI e hS,
      value_trans v (step_value e hS) (Nat.pos_of_ne_zero hS)⟩) ⟨hI, hS, .refl s⟩ ops).2.2

theorem reach_linv {cv : Curve} {K0 C0 K1 C1 : Nat} (s : St) (hL : LInv K0 C0 K1 C1 s) (ops : List Op) :
    LInv K0 C0 K1 C1 (reach cv s ops) :=
  reach_ind (fun hL e => step_linv hL e) hL ops

theorem init_inv (n0 n1 : Bool) (f : Fees) (us : List User) (h : ∀ u ∈ us, u.lp = 0) :
    Inv (init n0 n1 f us) := by
  refine ⟨Nat.le_refl _, Nat.le_refl _, ?_, Or.inl rfl⟩
  exact ((Nat.zero_add _).trans (List.sum_eq_zero (l := us.map (·.lp)) (by simpa using h))).symm

theorem init_linv (n0 n1 : Bool) (f : Fees) (us : List User) :
    LInv (sumF (·.a) us) 0 (sumF (·.b) us) 0 (init n0 n1 f us) :=
  ⟨⟨rfl, rfl, rfl, rfl, rfl⟩, ⟨rfl, rfl, rfl, rfl, rfl⟩, ⟨(Nat.zero_add _).symm, (Nat.zero_add _).symm⟩⟩

/-- withdrawing at most the `sh` shares just minted for a deposit `d` refunds at most `d`, whether the
    deposit was the first (`S = 0`, nothing in the pool) or a later one (minted pro rata) -/
theorem refund_le_deposit {r P d S lock sh amt : Nat} (h : r * (S + lock + sh) ≤ (P + d) * amt)
    (ha : amt ≤ sh) (hpos : S + lock + sh ≠ 0) (hfirst : S = 0 → P = 0)
    (hlater : S ≠ 0 → lock = 0 ∧ sh * P ≤ d * S) : r ≤ d := by
  by_cases h0 : S = 0
  · rw [hfirst h0, Nat.zero_add] at h
    exact dw_first h (by omega) (Nat.pos_of_ne_zero hpos)
  · obtain ⟨rfl, hm⟩ := hlater h0
    exact dw_later h ha hm (Nat.pos_of_ne_zero hpos)

/-- **depositing and immediately withdrawing (any part of) the minted shares never pays out more than
    was deposited**, provided an empty pool holds nothing (a plain transfer into a pool without
    supply is a gift to the first depositor) -/
theorem deposit_then_withdraw_le {s s1 s2 : St} {u d0 d1 amt : Nat} {tol : Option Nat}
    (hp : provide cpCurve s u u d0 d1 tol = .ok s1)
    (hamt : amt + (s.user u).lp ≤ (s1.user u).lp)
    (hw : withdraw s1 u amt = .ok s2)
    (hempty : s.sup = 0 → s.x0.bal = s.x0.pend ∧ s.x1.bal = s.x1.pend) :
    (s2.user u).a ≤ (s.user u).a ∧ (s2.user u).b ≤ (s.user u).b := by
  obtain ⟨share, lock, l0, l1, es, hu, -, hd0, hd1, e0, e1, eS, -, -, eU, -, -, -, -⟩ := provide_ok hp
  obtain ⟨r0, r1, er, hu1, -, -, -, -, -, -, -, -, eU2, -⟩ := withdraw_ok hw
  obtain ⟨hS1, p0, p1⟩ := refunds_le er
  -- the user's record after the deposit, and after the withdrawal
  have hu1' : s1.user u = { a := (s.user u).a - d0, b := (s.user u).b - d1, lp := (s.user u).lp + share } := by
    simp only [St.user, eU]
    rw [getD_set_self _ _ _ _ (by simpa using hu), getD_set_self _ _ _ _ hu]
  have hu2 : s2.user u = { a := (s1.user u).a + r0, b := (s1.user u).b + r1, lp := (s1.user u).lp - amt } := by
    simp only [St.user, eU2]
    exact getD_set_self _ _ _ _ hu1
  have hshare : amt ≤ share := by rw [hu1'] at hamt; dsimp only at hamt; omega
  -- the refunds are at most the deposits
  rw [e0, eS, Side.res_add _ _ l0] at p0
  rw [e1, eS, Side.res_add _ _ l1] at p1
  rw [eS] at hS1
  have hlater := provideShares_le es
  have k0 : r0 ≤ d0 := refund_le_deposit p0 hshare hS1
    (fun h0 => Nat.sub_eq_zero_of_le (hempty h0).1.le) fun hn => ⟨(hlater hn).1, (hlater hn).2.1⟩
  have k1 : r1 ≤ d1 := refund_le_deposit p1 hshare hS1
    (fun h0 => Nat.sub_eq_zero_of_le (hempty h0).2.le) fun hn => ⟨(hlater hn).1, (hlater hn).2.2⟩
  rw [hu2, hu1']
  dsimp only
  omega

/-- the user index whose funds an operation may take (the sender of the message) -/
def Op.actor : Op → Option Nat
  | .provide u _ _ _ _ => some u
  | .swap u _ _ _ _ => some u
  | .withdraw u _ => some u
  | .donate u _ _ => some u
  | .swapBad u _ _ _ => some u
  | .foreign _ u _ => some u
  | .provideBad u _ _ _ => some u
  | .collect => none
  | .setFees _ _ => none
  | .setCollector _ _ => none

theorem others_le_set (l : List User) {u v : Nat} (x : User) (hv : v ≠ u) :
    User.le (l.getD v dflt) ((l.set u x).getD v dflt) := by
  rw [getD_set_ne l u v x dflt hv]
  exact User.le_refl _

/-- after `set u x` then `set r y` where `y` only adds to what was there, every user other than `u`
    holds at least what it held -/
theorem others_le_set2 (l : List User) (u r v : Nat) (x y : User) (hv : v ≠ u)
    (hy : User.le ((l.set u x).getD r dflt) y) :
    User.le (l.getD v dflt) (((l.set u x).set r y).getD v dflt) := by
  by_cases hr : v = r
  · subst hr
    by_cases hlen : v < (l.set u x).length
    · rw [getD_set_self _ _ _ _ hlen]
      rw [getD_set_ne l u v x dflt hv] at hy
      exact hy
    · have hlen' : ¬ v < l.length := by simpa using hlen
      have e1 : l.getD v dflt = dflt := by simp [List.getD, hlen']
      rw [e1]
      exact ⟨Nat.zero_le _, Nat.zero_le _, Nat.zero_le _⟩
  · rw [getD_set_ne _ r v y dflt hr, getD_set_ne l u v x dflt hv]
    exact User.le_refl _

theorem swap_others {cv : Curve} {s s' : St} {u dir off rcv v : Nat} {ms : Option Nat}
    (h : swap cv s u dir off ms rcv = .ok s') (hv : v ≠ u) : User.le (s.user v) (s'.user v) := by
  obtain ⟨-, -, -, ⟨x, y, eU, hy⟩, -⟩ := swap_ok h
  simp only [St.user, eU]
  exact others_le_set2 _ _ _ _ _ _ hv hy

/-- **nobody else's funds move**: a successful operation of ANY pair type never lowers the asset or LP
    balances of a user other than the sender of the message (receivers only gain) -/
theorem others_never_lose {cv : Curve} {s s' : St} {op : Op} (h : step cv s op = .ok s') (v : Nat)
    (hv : op.actor ≠ some v) : User.le (s.user v) (s'.user v) := by
  cases op with
  | provide u rcv d0 d1 tol =>
    obtain ⟨share, lock, -, -, -, -, -, -, -, -, -, -, -, -, eU, -⟩ := provide_ok h
    simp only [St.user, eU]
    exact others_le_set2 _ _ _ _ _ _ (fun e => hv (e ▸ rfl))
      ⟨Nat.le_refl _, Nat.le_refl _, Nat.le_add_right _ _⟩
  | swap u dir off ms rcv => exact swap_others h fun e => hv (e ▸ rfl)
  | swapBad u dir off sent => exact swap_others (swapBad_ok h) fun e => hv (e ▸ rfl)
  | withdraw u amt =>
    obtain ⟨r0, r1, -, -, -, -, -, -, -, -, -, -, eU, -⟩ := withdraw_ok h
    simp only [St.user, eU]
    exact others_le_set _ _ fun e => hv (e ▸ rfl)
  | collect =>
    obtain ⟨y0, y1, -, -, rfl⟩ := collect_ok h
    exact User.le_refl _
  | setFees o f =>
    obtain ⟨-, -, rfl⟩ := setFees_ok h
    exact User.le_refl _
  | setCollector o b =>
    obtain ⟨-, rfl⟩ := setCollector_ok h
    exact User.le_refl _
  | foreign k u a => cases h
  | provideBad u d0 d1 k => exact (provideBad_not_ok h).elim
  | donate u which amt =>
    obtain ⟨d0, d1, dl, usr, -, -, -, -, rfl⟩ := donate_ok h
    exact others_le_set _ _ fun e => hv (e ▸ rfl)

end WW.Pair
