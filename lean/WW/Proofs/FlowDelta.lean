/- What one `expand_flow` does to the asset history and funded amount of the flow it works on, and what `open_flow`
   checks and emits, in closed form (C11, C12). -/
import WW.Proofs.HistKeys
import WW.Proofs.Res
namespace WW.Inc
open WW WW.Gen

/-! a flow's asset history: the funded amount is the last entry's; what a reset and what one `expand_flow` write -/

theorem Flow.funded_eq (f : Flow) :
    f.funded = (match maxKey f.hist with | some (_, v) => v.1 | none => f.amount) := by
  unfold Flow.funded Flow.expanded Flow.lastHist
  cases maxKey f.hist <;> rfl

theorem Flow.funded_of_hist_nil {f : Flow} (h : f.hist = []) : f.funded = f.amount := by
  rw [Flow.funded_eq, h]; rfl

theorem resetFlow_spec (f : Flow) (epoch : Nat) (hn : (keysOf f.hist).Nodup) :
    (resetFlow f epoch).id = f.id ∧ (resetFlow f epoch).asset = f.asset
    ∧ (resetFlow f epoch).creator = f.creator
    ∧ (keysOf (resetFlow f epoch).hist).Nodup
    ∧ (∀ k, (∀ q ∈ f.hist, q.1 ≤ k) → ∀ q ∈ (resetFlow f epoch).hist, q.1 ≤ k)
    ∧ (f.claimed ≤ f.funded →
        (resetFlow f epoch).claimed ≤ (resetFlow f epoch).funded
        ∧ (resetFlow f epoch).funded - (resetFlow f epoch).claimed = f.funded - f.claimed) := by
  unfold resetFlow
  split
  · refine ⟨rfl, rfl, rfl, by simp [keysOf], fun k _ q hq => (by cases hq), ?_⟩
    intro _
    have hb : (match f.lastHist with | some (_, (fa, _)) => fa | none => f.amount) = f.funded := by
      unfold Flow.funded Flow.expanded
      cases f.lastHist <;> rfl
    rw [Flow.funded_eq]
    simp only [maxKey, List.foldl_nil]
    exact ⟨Nat.zero_le _, congrArg (· - f.claimed) hb⟩
  · exact ⟨rfl, rfl, rfl, hn, fun k h => h, fun h => ⟨h, rfl⟩⟩

theorem Flow.amountAt_of_all_le {f : Flow} {e : Nat} (h : ∀ q ∈ f.hist, q.1 ≤ e) : f.amountAt e = f.funded := by
  unfold Flow.amountAt
  rw [maxKeyLE_of_all_le h, Flow.funded_eq]
  cases maxKey f.hist <;> rfl

/-- `expand_flow` writes at `epoch + 1`, on top of the amount that holds there: the entry's own, or else the one
    carried over from `epoch` -/
theorem addHist_ok {f1 f2 : Flow} {epoch amount endE : Nat} (hn : (keysOf f1.hist).Nodup)
    (h : addHist f1 epoch amount endE = .ok f2) :
    f2 = { f1 with hist := aset f1.hist (epoch + 1) (f1.amountAt (epoch + 1) + amount, endE) } := by
  unfold addHist at h
  split at h
  · rename_i hl
    simp only [Res.bind_eq_ok, cadd_eq_ok, Res.pure_eq, Res.ok.injEq] at h
    obtain ⟨_, ⟨_, rfl⟩, rfl⟩ := h
    unfold Flow.amountAt
    rw [maxKeyLE_top hn (alook_some_mem hl)]
  · rename_i hl
    simp only [Res.bind_eq_ok, cadd_eq_ok, Res.pure_eq, Res.ok.injEq] at h
    obtain ⟨_, ⟨_, rfl⟩, rfl⟩ := h
    unfold Flow.amountAt
    rw [maxKeyLE_succ ((alook_eq_none_iff _).mp hl)]

theorem addHist_spec {f1 f2 : Flow} {epoch amount endE : Nat} (hn : (keysOf f1.hist).Nodup)
    (h : addHist f1 epoch amount endE = .ok f2) :
    f2.id = f1.id ∧ f2.asset = f1.asset ∧ f2.creator = f1.creator ∧ f2.claimed = f1.claimed
    ∧ (keysOf f2.hist).Nodup
    ∧ (f2.funded = f1.funded ∨ f2.funded = f1.funded + amount)
    ∧ ((∀ q ∈ f1.hist, q.1 ≤ epoch + 1) →
        f2.funded = f1.funded + amount ∧ ∀ q ∈ f2.hist, q.1 ≤ epoch + 1) := by
  obtain rfl := addHist_ok hn h
  have hfun : (∀ q ∈ f1.hist, q.1 ≤ epoch + 1) → Flow.funded
      { f1 with hist := aset f1.hist (epoch + 1) (f1.amountAt (epoch + 1) + amount, endE) }
        = f1.funded + amount := fun hall => by
    rw [Flow.funded_eq]
    simp only [maxKey_aset_top _ hn hall]
    rw [Flow.amountAt_of_all_le hall]
  refine ⟨rfl, rfl, rfl, rfl, nodup_keys_aset _ _ hn, ?_,
    fun hall => ⟨hfun hall, aset_keys_le (Nat.le_refl _) hall⟩⟩
  -- a key beyond `epoch + 1` stays the last one; without one the new entry is the last
  by_cases hgt : ∃ q ∈ f1.hist, epoch + 1 < q.1
  · obtain ⟨q, hq, hk⟩ := hgt
    left
    rw [Flow.funded_eq, Flow.funded_eq]
    simp only [maxKey_aset_of_lt _ hn hq hk]
  · exact Or.inr (hfun fun q hq => Nat.le_of_not_lt fun hlt => hgt ⟨q, hq, hlt⟩)

/-- the fee part of an accepted `open_flow`. Under a native fee, `p` is what was attached in the fee denom for
    the fee: everything attached there, less the flow amount when the flow is opened in that denom (then the
    funds must be exactly flow + fee, so `p` is the fee and nothing is refunded). -/
theorem openFlowFee_spec {c : Cfg} {e : Env} {a amount x : Nat} {m0 : List Msg}
    (h : openFlowFee c e a amount = .ok (x, m0)) :
    (c.native c.feeAsset = true ∧ x = (if a = c.feeAsset then amount - c.feeAmt else amount)
      ∧ ∃ p, c.feeAmt ≤ p
        ∧ alook (fundsOf c e.offers) c.feeAsset = some (p + if a = c.feeAsset then x else 0)
        ∧ m0 = (if c.feeAmt < p then [Msg.send INC e.sender c.feeAsset (p - c.feeAmt)] else [])
                ++ [Msg.send INC COLLECTOR c.feeAsset c.feeAmt])
    ∨ (c.native c.feeAsset = false ∧ x = amount ∧ m0 = [Msg.pull e.sender COLLECTOR c.feeAsset c.feeAmt]) := by
  unfold openFlowFee at h
  cases hnf : c.native c.feeAsset
  · right
    simp only [hnf, Bool.false_eq_true, if_false] at h
    refine ⟨rfl, ?_⟩
    -- whichever allowance test applies, it hands on the same result
    split at h
    · split at h
      · exact Prod.mk.inj (Res.ite_err_eq_ok.mp h).2
      · cases h
      · cases h
    · exact Prod.mk.inj (Res.ite_err_eq_ok.mp h).2
  · left
    simp only [hnf, if_true] at h
    refine ⟨rfl, ?_⟩
    cases hp : alook (fundsOf c e.offers) c.feeAsset with
    | none => rw [hp] at h; cases h
    | some paid =>
      rw [hp] at h
      by_cases hs : a = c.feeAsset
      · subst hs
        simp only [hnf, decide_true, Bool.and_self, Bool.true_and, if_true, Bool.not_true, Bool.and_false,
          Bool.false_eq_true, if_false, List.nil_append, Res.err_else_eq_ok] at h ⊢
        obtain ⟨_, _, h⟩ := h
        split at h
        · rename_i t ht
          -- the attached amount must be exactly flow amount + fee
          obtain ⟨_, rfl⟩ := cadd_eq_ok.mp ht
          obtain ⟨hpaid, h⟩ := Res.ite_err_eq_ok.mp h
          cases h
          exact ⟨rfl, c.feeAmt, Nat.le_refl _, by rw [hpaid, Nat.add_comm],
            by rw [if_neg (Nat.lt_irrefl _), List.nil_append]⟩
        · cases h
        · cases h
      · simp only [hs, decide_false, Bool.and_false, Bool.false_and, Bool.false_eq_true, if_false, Bool.not_false,
          Bool.and_true, decide_eq_true_eq, Nat.add_zero, Res.err_else_eq_ok] at h ⊢
        obtain ⟨hle, h⟩ := h
        cases h
        exact ⟨rfl, paid, Nat.le_of_not_lt hle, rfl, rfl⟩

theorem openFlowAsset_spec {c : Cfg} {e : Env} {a x y : Nat} {m1 : List Msg}
    (h : openFlowAsset c e a x = .ok (y, m1)) :
    (c.native a = true ∧ y = x ∧ m1 = []
      ∧ (¬ (c.native c.feeAsset = true ∧ c.feeAsset = a) → hasFunds (fundsOf c e.offers) a x = true))
    ∨ (c.native a = false ∧ m1 = [Msg.pull e.sender INC a y]
      ∧ y = (if c.native c.feeAsset = false ∧ c.feeAsset = a then x - c.feeAmt else x)) := by
  unfold openFlowAsset at h
  cases hna : c.native a
  · right
    simp only [hna, Bool.false_eq_true, if_false] at h
    refine ⟨rfl, ?_⟩
    cases hnf : c.native c.feeAsset
    · simp only [hnf, Bool.not_false, if_true, true_and] at h ⊢
      by_cases hfa : c.feeAsset = a
      · -- the flow asset is the cw20 fee asset: the fee comes off the flow amount
        simp only [hfa, ne_eq, not_true_eq_false, if_false, if_true] at h ⊢
        split at h
        · cases (Res.ite_err_eq_ok.mp h).2; exact ⟨rfl, rfl⟩
        · cases h
        · cases h
      · simp only [ne_eq, hfa, not_false_eq_true, if_true, if_false] at h ⊢
        cases (Res.ite_err_eq_ok.mp h).2; exact ⟨rfl, rfl⟩
    · simp only [hnf, Bool.not_true, Bool.false_eq_true, if_false] at h ⊢
      cases (Res.ite_err_eq_ok.mp h).2; exact ⟨rfl, rfl⟩
  · left
    simp only [hna, if_true] at h
    refine ⟨rfl, ?_⟩
    split at h
    · obtain ⟨hf, h⟩ := Res.ite_err_eq_ok.mp h
      cases h; exact ⟨rfl, rfl, fun _ => hf⟩
    · -- the flow is opened in the native fee denom: the fee part has checked the funds
      rename_i hc
      cases h
      exact ⟨rfl, rfl, fun hcon => absurd (by simpa using hc) hcon⟩

/-- the messages of an accepted `open_flow` of `y` of asset `a`. `p` is what the contract hands on in a native
    fee denom: the fee to the collector and everything beyond it back to the sender; a cw20 fee is pulled from
    the sender straight to the collector. A cw20 flow asset is pulled from the sender. -/
def openFlowMsgs (c : Cfg) (e : Env) (a y p : Nat) : List Msg :=
  (if c.native c.feeAsset = true
   then (if c.feeAmt < p then [Msg.send INC e.sender c.feeAsset (p - c.feeAmt)] else [])
          ++ [Msg.send INC COLLECTOR c.feeAsset c.feeAmt]
   else [Msg.pull e.sender COLLECTOR c.feeAsset c.feeAmt])
  ++ (if c.native a = true then [] else [Msg.pull e.sender INC a y])

/-- an accepted `open_flow` in closed form: the flow's amount, the messages, and what the funds checks saw
    attached. In a native fee denom that is `p`, plus the flow amount when the flow is opened in that denom. -/
theorem openFlow_msgs {c : Cfg} {e : Env} {a amount x y : Nat} {m0 m1 : List Msg}
    (hfee : openFlowFee c e a amount = .ok (x, m0)) (hasset : openFlowAsset c e a x = .ok (y, m1)) :
    y = (if c.feeAsset = a then amount - c.feeAmt else amount)
    ∧ (c.native a = true → a ≠ c.feeAsset → hasFunds (fundsOf c e.offers) a y = true)
    ∧ ∃ p, m0 ++ m1 = openFlowMsgs c e a y p
        ∧ (c.native c.feeAsset = true → c.feeAmt ≤ p
            ∧ alook (fundsOf c e.offers) c.feeAsset = some (p + if a = c.feeAsset then y else 0))
        ∧ (c.native c.feeAsset = false → p = 0) := by
  unfold openFlowMsgs
  rcases openFlowFee_spec hfee with ⟨hnf, hx, p, hle, hp, rfl⟩ | ⟨hnf, rfl, rfl⟩
  · -- native fee: the asset part leaves the amount as it is
    have hnf' : ¬ c.native c.feeAsset = false := by simp [hnf]
    rcases openFlowAsset_spec hasset with ⟨hna, rfl, rfl, hfunds⟩ | ⟨hna, rfl, hy⟩
    · exact ⟨hx.trans (if_congr eq_comm rfl rfl), fun _ hne => hfunds fun hh => hne hh.2.symm, p,
        by rw [if_pos hnf, if_pos hna], fun _ => ⟨hle, hp⟩, fun hh => absurd hh hnf'⟩
    · rw [if_neg fun hh => hnf' hh.1] at hy
      subst hy
      exact ⟨hx.trans (if_congr eq_comm rfl rfl), fun hh => (by rw [hna] at hh; cases hh), p,
        by rw [if_pos hnf, if_neg (Bool.eq_false_iff.mp hna)], fun _ => ⟨hle, hp⟩, fun hh => absurd hh hnf'⟩
  · rcases openFlowAsset_spec hasset with ⟨hna, rfl, rfl, hfunds⟩ | ⟨hna, rfl, rfl⟩
    · have hne : ¬ c.feeAsset = a := fun hh => by rw [hh, hna] at hnf; cases hnf
      exact ⟨by rw [if_neg hne], fun _ _ => hfunds fun hh => (by rw [hnf] at hh; cases hh.1), 0,
        by simp [hnf, hna], fun hh => (by rw [hnf] at hh; cases hh), fun _ => rfl⟩
    · exact ⟨by simp [hnf], fun hh => (by rw [hna] at hh; cases hh), 0, by simp [hnf, hna],
        fun hh => (by rw [hnf] at hh; cases hh), fun _ => rfl⟩

/-- claimed `cl` and funded `fu` of a flow through a reset (to `cl1`, `fu1`), which keeps the unclaimed funds,
    and a history update (to `cl2`, `fu2`), which adds the amount to the funded amount or leaves it -/
theorem unclaimed_step {cl fu cl1 fu1 cl2 fu2 amt : Nat} (hcl : cl2 = cl1) (hle : cl1 ≤ fu1)
    (hkeep : fu1 - cl1 = fu - cl) (hadd : fu2 = fu1 ∨ fu2 = fu1 + amt) :
    cl2 ≤ fu2 ∧ fu2 - cl2 ≤ fu - cl + amt ∧ (fu2 = fu1 + amt → fu2 - cl2 = fu - cl + amt) := by
  subst hcl
  rcases hadd with rfl | rfl <;> omega

/-- what one `expand_flow` does to the flow it works on (reset included): identity, asset and creator stay,
    claimed stays within funded, the unclaimed funds grow by at most the amount — by exactly the amount when
    no asset-history entry lies beyond the next epoch -/
theorem expandFlow_flow {f f2 : Flow} {epoch amount endE : Nat} (hn : (keysOf f.hist).Nodup)
    (hc : f.claimed ≤ f.funded) (h : addHist (resetFlow f epoch) epoch amount endE = .ok f2) :
    f2.id = f.id ∧ f2.asset = f.asset ∧ f2.creator = f.creator ∧ (keysOf f2.hist).Nodup
    ∧ f2.claimed ≤ f2.funded ∧ f2.funded - f2.claimed ≤ f.funded - f.claimed + amount
    ∧ ((∀ q ∈ f.hist, q.1 ≤ epoch + 1) →
        f2.funded - f2.claimed = f.funded - f.claimed + amount ∧ ∀ q ∈ f2.hist, q.1 ≤ epoch + 1) := by
  obtain ⟨r1, r2, r3, r4, r5, r6⟩ := resetFlow_spec f epoch hn
  obtain ⟨a1, a2, a3, a4, a5, a6, a7⟩ := addHist_spec r4 h
  obtain ⟨r7, r8⟩ := r6 hc
  obtain ⟨k1, k2, k3⟩ := unclaimed_step a4 r7 r8 a6
  refine ⟨a1.trans r1, a2.trans r2, a3.trans r3, a5, k1, k2, fun hh => ?_⟩
  obtain ⟨a8, a9⟩ := a7 (r5 _ hh)
  exact ⟨k3 a8, a9⟩

end WW.Inc
