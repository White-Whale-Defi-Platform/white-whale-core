/- The claim loop as a ledger operation: a claim only raises `claimed_amount` (never above the funded
   amount), touches nothing else of a flow, and its transfer messages add up to exactly the raise (C11, C12). -/
import WW.Proofs.FlowSums
import WW.Proofs.Ledger
import WW.Proofs.Claim
namespace WW.Inc
open WW WW.Gen

/-- everything of a flow except `claimed` and the emitted-tokens ledger -/
structure SameCore (f g : Flow) : Prop where
  id : f.id = g.id
  creator : f.creator = g.creator
  asset : f.asset = g.asset
  amount : f.amount = g.amount
  startE : f.startE = g.startE
  endE : f.endE = g.endE
  hist : f.hist = g.hist

theorem SameCore.refl (f : Flow) : SameCore f f := ⟨rfl, rfl, rfl, rfl, rfl, rfl, rfl⟩

theorem SameCore.trans {f g h : Flow} (a : SameCore f g) (b : SameCore g h) : SameCore f h :=
  ⟨a.id.trans b.id, a.creator.trans b.creator, a.asset.trans b.asset, a.amount.trans b.amount,
   a.startE.trans b.startE, a.endE.trans b.endE, a.hist.trans b.hist⟩

theorem SameCore.funded {f g : Flow} (h : SameCore f g) : f.funded = g.funded := by
  unfold Flow.funded Flow.expanded Flow.lastHist
  rw [h.hist, h.amount, h.endE]

theorem SameCore.pay (st : ClaimLoop) (u r : Nat) : SameCore (st.pay u r).flow st.flow := by
  unfold ClaimLoop.pay
  split <;> exact ⟨rfl, rfl, rfl, rfl, rfl, rfl, rfl⟩

/-- loop invariant of `claim.rs` over one flow `f` for claimer `u` -/
structure CL (f : Flow) (u : Addr) (st : ClaimLoop) : Prop where
  core : SameCore st.flow f
  paid : msgSum st.msgs + f.claimed = st.flow.claimed
  sends : ∀ m ∈ st.msgs, ∃ amt, m = Msg.send INC u f.asset amt

theorem claimEpoch_CL {s : St} {u expAmt expEnd ep : Nat} {f : Flow} {st : ClaimLoop} {i : Iter ClaimLoop}
    (hcl : CL f u st) (h : claimEpoch s u expAmt expEnd st ep = .ok i) :
    CL f u (iterSt i) ∧ (st.flow.claimed ≤ expAmt → (iterSt i).flow.claimed ≤ expAmt) := by
  obtain ⟨em, lu, ls, reward, hi, -, hb, -⟩ := claimEpoch_ok h
  rw [hi, ClaimLoop.pay_claimed]
  -- the flow paid from is `{ st.flow with emitted := em }`: its core fields are those of `st.flow`
  refine ⟨⟨(SameCore.pay _ u reward).trans ⟨hcl.core.id, hcl.core.creator, hcl.core.asset,
    hcl.core.amount, hcl.core.startE, hcl.core.endE, hcl.core.hist⟩, ?_, ?_⟩, hb⟩
  · rw [ClaimLoop.pay_msgs, ClaimLoop.pay_claimed, msgSum_append, msgSum_payment, ← hcl.paid]
    exact Nat.add_right_comm _ _ _
  · intro m hm
    rw [ClaimLoop.pay_msgs] at hm
    rcases List.mem_append.mp hm with hm | hm
    · exact hcl.sends m hm
    · split at hm
      · cases hm
      · exact ⟨_, by rw [List.mem_singleton.mp hm]; exact congrArg (Msg.send INC u · reward) hcl.core.asset⟩

theorem claimEpochs_CL {s : St} {u expAmt expEnd : Nat} {f : Flow} :
    ∀ (n ep : Nat) (st st' : ClaimLoop), CL f u st → claimEpochs s u expAmt expEnd n ep st = .ok st' →
      CL f u st' ∧ (st.flow.claimed ≤ expAmt → st'.flow.claimed ≤ expAmt) := by
  intro n
  induction n with
  | zero =>
    intro ep st st' hcl h
    unfold claimEpochs at h
    injection h with h; subst h
    exact ⟨hcl, fun hle => hle⟩
  | succ n ih =>
    intro ep st st' hcl h
    unfold claimEpochs at h
    split at h
    · rename_i st1 hce
      obtain ⟨h1, h2⟩ := claimEpoch_CL hcl hce
      obtain ⟨h3, h4⟩ := ih (ep + 1) st1 st' h1 h
      exact ⟨h3, fun hle => h4 (h2 hle)⟩
    · rename_i st1 hce
      obtain ⟨h1, h2⟩ := claimEpoch_CL hcl hce
      injection h with h; subst h
      exact ⟨h1, h2⟩
    · cases h
    · cases h

theorem claimFlow_ledger {s : St} {u epoch : Nat} {f f' : Flow} {m : List Msg}
    (h : claimFlow s u epoch f = .ok (f', m)) :
    SameCore f' f ∧ msgSum m + f.claimed = f'.claimed
    ∧ (f.claimed ≤ f.funded → f'.claimed ≤ f.funded)
    ∧ (∀ x ∈ m, ∃ amt, x = Msg.send INC u f.asset amt) := by
  unfold claimFlow at h
  have hfun : f.funded = f.expanded.1 := rfl
  generalize hexp : f.expanded = ex at *
  obtain ⟨expAmt, expEnd⟩ := ex
  simp only at h hfun
  split at h
  · injection h with h; injection h with h1 h2; subst h1 h2
    exact ⟨SameCore.refl _, by simp [msgSum], fun hle => hle, fun x hx => by cases hx⟩
  · generalize hcs : claimStart s u f = cs at *
    obtain ⟨first, lu, ls⟩ := cs
    simp only at h
    split at h
    · rename_i st hloop
      injection h with h; injection h with h1 h2; subst h1 h2
      have h0 : CL f u { flow := f, lastUpd := lu, lastSeen := ls, count := 0, msgs := [] } :=
        ⟨SameCore.refl _, by simp [msgSum], fun x hx => by cases hx⟩
      obtain ⟨hc, hb⟩ := claimEpochs_CL _ _ _ _ h0 hloop
      simp only at hb
      exact ⟨hc.core, hc.paid, by rw [hfun]; exact hb, hc.sends⟩
    · cases h
    · cases h

theorem sends_outs {u asset : Nat} (hu : u ≠ INC) (a : Nat) :
    ∀ (m : List Msg), (∀ x ∈ m, ∃ amt, x = Msg.send INC u asset amt) →
      outsOf INC a m = (if asset = a then msgSum m else 0) ∧ insOf INC a m = 0 := by
  intro m
  induction m with
  | nil => intro _; simp [outsOf, insOf, msgSum]
  | cons x t ih =>
    intro hall
    obtain ⟨amt, hx⟩ := hall x List.mem_cons_self
    obtain ⟨h1, h2⟩ := ih (fun y hy => hall y (List.mem_cons_of_mem _ hy))
    subst hx
    simp only [outsOf, insOf, msgOut, msgIn, msgSum, h1, h2]
    by_cases ha : asset = a <;> simp [ha, hu]

/-- what a claim pays out of a flow leaves its unclaimed funds -/
theorem contrib_claim {f f' : Flow} {m : List Msg} (a : Nat) (hc : SameCore f' f)
    (hp : msgSum m + f.claimed = f'.claimed) (hle : f'.claimed ≤ f.funded) :
    contrib a f' + (if f.asset = a then msgSum m else 0) = contrib a f := by
  unfold contrib
  rw [hc.asset, hc.funded]
  split
  · omega
  · rfl

theorem claimFlows_ledger {s : St} {u epoch : Nat} :
    ∀ (fl fl' : List Flow) (msgs : List Msg), claimFlows s u epoch fl = .ok (fl', msgs) →
      List.Forall₂ SameCore fl' fl
      ∧ ((∀ f ∈ fl, f.claimed ≤ f.funded) →
          (∀ f ∈ fl', f.claimed ≤ f.funded)
          ∧ (u ≠ INC → ∀ a, ffSum a fl' + outsOf INC a msgs = ffSum a fl))
      ∧ (u ≠ INC → ∀ a, insOf INC a msgs = 0)
      ∧ (∀ x ∈ msgs, ∃ asset amt, x = Msg.send INC u asset amt) := by
  intro fl
  induction fl with
  | nil =>
    intro fl' msgs h
    unfold claimFlows at h
    cases h
    exact ⟨.nil, fun _ => ⟨fun _ hf => (nomatch hf), fun _ _ => rfl⟩, fun _ _ => rfl, fun _ hx => nomatch hx⟩
  | cons f t ih =>
    intro fl' msgs h
    obtain ⟨f', m, t', m', hct, rfl, rfl, hf⟩ := claimFlows_cons_ok h
    obtain ⟨i1, i2, i3, i4⟩ := ih t' m' hct
    -- a flow that has not started is a flow on which `claim` did nothing
    obtain ⟨c1, c2, c3, c4⟩ : SameCore f' f ∧ msgSum m + f.claimed = f'.claimed
        ∧ (f.claimed ≤ f.funded → f'.claimed ≤ f.funded)
        ∧ (∀ x ∈ m, ∃ amt, x = Msg.send INC u f.asset amt) := by
      rcases hf with ⟨_, hcf⟩ | ⟨_, rfl, rfl⟩
      · exact claimFlow_ledger hcf
      · exact ⟨SameCore.refl _, Nat.zero_add _, id, fun _ hx => nomatch hx⟩
    refine ⟨.cons c1 i1, fun hall => ?_, fun hu a => ?_,
      List.forall_mem_append.mpr ⟨fun x hx => ⟨_, c4 x hx⟩, i4⟩⟩
    · obtain ⟨hh, ht⟩ := List.forall_mem_cons.mp hall
      obtain ⟨j1, j2⟩ := i2 ht
      have hf' := c3 hh
      refine ⟨List.forall_mem_cons.mpr ⟨c1.funded ▸ hf', j1⟩, fun hu a => ?_⟩
      rw [outsOf_append, (sends_outs hu a m c4).1]
      show contrib a f' + ffSum a t' + _ = contrib a f + ffSum a t
      rw [← contrib_claim a c1 c2 hf', ← j2 hu a]
      exact Nat.add_add_add_comm _ _ _ _
    · rw [insOf_append, i3 hu a, (sends_outs hu a m c4).2]

theorem forall2_core_ids {l' l : List Flow} (h : List.Forall₂ SameCore l' l) : flowIds l' = flowIds l := by
  induction h with
  | nil => rfl
  | cons hc _ ih => simp only [flowIds, List.map_cons] at ih ⊢; rw [hc.id, ih]

theorem forall2_core_mem {l' l : List Flow} (h : List.Forall₂ SameCore l' l) :
    ∀ f' ∈ l', ∃ f ∈ l, SameCore f' f := by
  induction h with
  | nil => exact fun _ hf => nomatch hf
  | cons hc _ ih =>
    exact List.forall_mem_cons.mpr ⟨⟨_, List.mem_cons_self, hc⟩, fun f' hf =>
      (ih f' hf).imp fun _ hg => ⟨List.mem_cons_of_mem _ hg.1, hg.2⟩⟩

/-- what holds of every flow of `l`, and `SameCore` carries over, holds of every flow of `l'` -/
theorem forall2_core_all {l' l : List Flow} (h : List.Forall₂ SameCore l' l) {p : Flow → Prop}
    (hl : ∀ f ∈ l, p f) (hp : ∀ f' f, SameCore f' f → p f → p f') : ∀ f' ∈ l', p f' := fun f' hf' =>
  let ⟨f, hf, hc⟩ := forall2_core_mem h f' hf'
  hp f' f hc (hl f hf)

end WW.Inc
