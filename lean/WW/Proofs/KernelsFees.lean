/-
  For `WW/Props/Kernels/{Fees,FeesOther,CpSwap}.lean`: the generated fee validators in closed form.  Core Lean only.
-/
import WW.Gen.Kernels
import WW.Proofs.Kernels
import WW.Model.Config
namespace WW

/-- the three fee shares of a generated `PoolFee` / `VaultFee` as the Config model's `Fees3` -/
def Config.Fees3.ofPool (p : Gen.K.PoolFee) : Config.Fees3 :=
  { a := p.protocol_fee.share, b := p.swap_fee.share, c := p.burn_fee.share }
def Config.Fees3.ofTrioPool (p : Gen.K.TrioPoolFee) : Config.Fees3 :=
  { a := p.protocol_fee.share, b := p.swap_fee.share, c := p.burn_fee.share }
def Config.Fees3.ofVault (v : Gen.K.VaultFee) : Config.Fees3 :=
  { a := v.protocol_fee.share, b := v.flash_loan_fee.share, c := v.burn_fee.share }

theorem K_Fee_is_valid_eq (f : Gen.K.Fee) :
    Gen.K.Fee_is_valid f = if f.share ≥ E18 then .err else .ok () := by
  unfold Gen.K.Fee_is_valid
  rw [percent_100]
  by_cases h : f.share ≥ E18
  · rw [if_pos h, Res.bind_err_s]
  · rw [if_neg h, Res.bind_ok_s]

/-- the common shape of `VaultFee::is_valid` and `PoolFee::is_valid` after inlining -/
theorem fees3_shape (a b c : Nat) :
    ((if a ≥ E18 then (Res.err : Res Unit) else .ok ()) >>= fun _ =>
     (if b ≥ E18 then (Res.err : Res Unit) else .ok ()) >>= fun _ =>
     (if c ≥ E18 then (Res.err : Res Unit) else .ok ()) >>= fun _ =>
     cadd U128MAX a b >>= fun s1 => cadd U128MAX s1 c >>= fun s2 =>
     (if s2 ≥ E18 then (Res.err : Res Unit) else .ok ()) >>= fun _ => Res.ok ())
    = Config.fees3IsValid ⟨a, b, c⟩ := by
  unfold Config.fees3IsValid
  simp only [Res.ite_bind, Res.bind_err_s, Res.bind_ok_s, cadd_bind]

/-- the two overflow tests never fire on their own: a total below one fits 128 bits. (The same fact as
    `Config.fees3_ok_iff`, proved here again because a kernel module must not import a property's own proof file.) -/
theorem fees3IsValid_ok_iff (a b c : Nat) :
    Config.fees3IsValid ⟨a, b, c⟩ = .ok () ↔ a < E18 ∧ b < E18 ∧ c < E18 ∧ a + b + c < E18 := by
  unfold Config.fees3IsValid
  simp only [Res.err_else_eq_ok]
  constructor
  · rintro ⟨h1, h2, h3, -, -, h6, -⟩
    exact ⟨Nat.lt_of_not_le h1, Nat.lt_of_not_le h2, Nat.lt_of_not_le h3, Nat.lt_of_not_le h6⟩
  · rintro ⟨h1, h2, h3, h4⟩
    have hU : a + b + c ≤ U128MAX := Nat.le_trans (Nat.le_of_lt h4) (by decide)
    exact ⟨Nat.not_le_of_lt h1, Nat.not_le_of_lt h2, Nat.not_le_of_lt h3,
      Nat.not_lt.mpr (Nat.le_trans (Nat.le_add_right _ c) hU), Nat.not_lt.mpr hU, Nat.not_le_of_lt h4, trivial⟩

end WW
