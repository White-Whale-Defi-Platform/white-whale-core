/- The claim loop (`claim.rs`) and the rewards-query loop (`get_rewards.rs`) compute the same per-flow
   totals as long as the claim's 100-epoch cap is not hit (C13, claim = quote). -/
import WW.Proofs.Claim
namespace WW.Inc
open WW WW.Gen

/-- fields of a flow the emission depends on besides the emitted-tokens ledger -/
def SameStatic (f g : Flow) : Prop :=
  f.hist = g.hist ∧ f.amount = g.amount ∧ f.endE = g.endE ∧ f.startE = g.startE ∧ f.asset = g.asset

theorem emissionStep_congr {f g : Flow} (h : SameStatic f g) (em : List (Nat × Nat)) (ep : Nat) :
    emissionStep f em ep = emissionStep g em ep := by
  obtain ⟨h1, h2, h3, _, _⟩ := h
  unfold emissionStep Flow.endAt Flow.amountAt
  rw [h1, h2, h3]

/-- the simulation relation between the two loop states for the stored flow `f0` -/
structure Sim (f0 : Flow) (st : ClaimLoop) (rt : RewLoop) : Prop where
  static : SameStatic st.flow f0
  emitted : st.flow.emitted = rt.emitted
  lu : st.lastUpd = rt.lastUpd
  ls : st.lastSeen = rt.lastSeen
  claimed : st.flow.claimed = f0.claimed + rt.total
  paid : msgSum st.msgs = rt.total

theorem Sim.pay {f0 : Flow} {st : ClaimLoop} {rt : RewLoop} (hR : Sim f0 st rt) (u r : Nat) :
    Sim f0 (st.pay u r) { rt with total := rt.total + r } := by
  have hflow : (st.pay u r).flow = { st.flow with claimed := st.flow.claimed + r }
      ∧ (st.pay u r).lastUpd = st.lastUpd ∧ (st.pay u r).lastSeen = st.lastSeen := by
    unfold ClaimLoop.pay; split
    · rename_i h0; subst h0; exact ⟨rfl, rfl, rfl⟩
    · exact ⟨rfl, rfl, rfl⟩
  refine ⟨hflow.1 ▸ hR.static, hflow.1 ▸ hR.emitted, hflow.2.1.trans hR.lu, hflow.2.2.trans hR.ls, ?_, ?_⟩
  · rw [ClaimLoop.pay_claimed, hR.claimed, Nat.add_assoc]
  · rw [ClaimLoop.pay_msgs, msgSum_append, msgSum_payment, hR.paid]

theorem claimPay_sim {f0 : Flow} {u expAmt : Nat} {st : ClaimLoop} {rt : RewLoop} {emission uw g : Nat}
    {i : Iter ClaimLoop} (hR : Sim f0 st rt) (h : claimPay u expAmt st emission uw g = .ok i) :
    ∃ st' rt', i = .next st' ∧ st'.count = st.count
      ∧ rewardsAdd f0 expAmt rt emission uw g = .ok (.next rt') ∧ Sim f0 st' rt' := by
  obtain ⟨reward, rfl, hr⟩ := claimPay_ok h
  refine ⟨_, { rt with total := rt.total + reward }, rfl, by unfold ClaimLoop.pay; split <;> rfl, ?_,
    hR.pay u reward⟩
  rcases hr with ⟨hg, rfl⟩ | ⟨hg, hrw, h1, h2, h3⟩
  · unfold rewardsAdd; rw [if_pos hg]; rfl
  · have hc := hR.claimed
    obtain ⟨a1, a2, a3⟩ : ¬ reward + f0.claimed > expAmt ∧ reward + f0.claimed ≤ U128MAX
        ∧ rt.total + reward ≤ U128MAX := by omega
    have hchk : ¬ ((decide (reward > emission) || decide (reward + f0.claimed > expAmt)) = true) := by
      simp only [Bool.or_eq_true, decide_eq_true_eq, not_or]
      exact ⟨Nat.not_lt.mpr h1, a1⟩
    unfold rewardsAdd
    rw [if_neg hg, hrw]
    simp only [cadd_ok a2, if_neg hchk, padd_ok a3]

/-- the relation is kept when both loops record the same emitted-tokens ledger and weight cursor -/
theorem Sim.move {f0 : Flow} {st : ClaimLoop} {rt : RewLoop} (hR : Sim f0 st rt) (em : List (Nat × Nat))
    (lu ls c : Nat) :
    Sim f0 { st with flow := { st.flow with emitted := em }, lastUpd := lu, lastSeen := ls, count := c }
      { rt with emitted := em, lastUpd := lu, lastSeen := ls } :=
  ⟨hR.static, rfl, rfl, rfl, hR.claimed, hR.paid⟩

/-- one epoch: as long as the cap is not hit, whatever `claim.rs` does the query loop does too -/
theorem claimEpoch_sim {s : St} {u expAmt expEnd ep : Nat} {f0 : Flow} {st : ClaimLoop} {rt : RewLoop}
    {i : Iter ClaimLoop} (hR : Sim f0 st rt) (hcap : st.count + 1 ≤ INCENTIVE_EPOCH_CLAIM_CAP)
    (h : claimEpoch s u expAmt expEnd st ep = .ok i) :
    match i with
    | .next st' => st'.count = st.count + 1
        ∧ ∃ rt', rewardsEpoch s u f0 expAmt expEnd rt ep = .ok (.next rt') ∧ Sim f0 st' rt'
    | .stop st' => ∃ rt', rewardsEpoch s u f0 expAmt expEnd rt ep = .ok (.stop rt') ∧ Sim f0 st' rt' := by
  unfold claimEpoch at h
  simp only [] at h
  unfold rewardsEpoch
  have hstart : st.flow.startE = f0.startE := hR.static.2.2.2.1
  rw [if_neg (Nat.not_lt.mpr hcap)] at h
  rw [← hstart, ← hR.lu, ← hR.ls]
  by_cases hlt : ep < st.flow.startE
  · rw [if_pos hlt] at h ⊢; cases h
    exact ⟨rfl, _, rfl, hR.static, hR.emitted, rfl, rfl, hR.claimed, hR.paid⟩
  rw [if_neg hlt] at h ⊢
  by_cases hge : ep ≥ expEnd
  · rw [if_pos hge] at h ⊢; cases h
    exact ⟨_, rfl, hR.static, hR.emitted, hR.lu, hR.ls, hR.claimed, hR.paid⟩
  rw [if_neg hge] at h ⊢
  rw [emissionStep_congr hR.static, hR.emitted] at h
  cases hem : emissionStep f0 rt.emitted ep with
  | err => rw [hem] at h; cases h
  | panic => rw [hem] at h; cases h
  | ok r =>
    obtain ⟨emission, em⟩ := r
    rw [hem] at h
    dsimp only at h ⊢
    cases hw : (weightAt s u ep st.lastUpd st.lastSeen).2.2 with
    | none => rw [hw] at h; cases h; exact ⟨rfl, _, rfl, hR.move em _ _ _⟩
    | some uw =>
      rw [hw] at h
      obtain ⟨st', rt', rfl, hcnt, hr, hsim⟩ := claimPay_sim (hR.move em _ _ _) h
      exact ⟨hcnt, rt', hr, hsim⟩

theorem claimEpochs_sim {s : St} {u expAmt expEnd : Nat} {f0 : Flow} :
    ∀ (n ep : Nat) (st : ClaimLoop) (rt : RewLoop) (st' : ClaimLoop),
      Sim f0 st rt → st.count + n ≤ INCENTIVE_EPOCH_CLAIM_CAP →
      claimEpochs s u expAmt expEnd n ep st = .ok st' →
      ∃ rt', rewardsEpochs s u f0 expAmt expEnd n ep rt = .ok rt' ∧ Sim f0 st' rt' := by
  intro n
  induction n with
  | zero =>
    intro ep st rt st' hR _ h
    unfold claimEpochs at h
    cases h
    exact ⟨rt, rfl, hR⟩
  | succ n ih =>
    intro ep st rt st' hR hcap h
    unfold claimEpochs at h
    unfold rewardsEpochs
    split at h
    · rename_i st1 hce
      obtain ⟨hcnt, rt1, hj, hsim⟩ := claimEpoch_sim hR (by omega) hce
      rw [hj]
      exact ih (ep + 1) st1 rt1 st' hsim (by omega) h
    · rename_i st1 hce
      obtain ⟨rt1, hj, hsim⟩ := claimEpoch_sim hR (by omega) hce
      rw [hj]
      cases h
      exact ⟨rt1, rfl, hsim⟩
    · cases h
    · cases h

/-- **claim = quote, per flow**: when the number of epochs to go through does not exceed the claim cap
    (100), a successful `claim` iteration over a flow pays — as the sum of its transfer messages, which is
    also the increase of the flow's `claimed_amount` — exactly the total the rewards query computes for
    that flow from the same state (and the query does not fail). -/
theorem claimFlow_eq_rewardsFlow {s : St} {u epoch : Nat} {f f' : Flow} {msgs : List Msg}
    (hcap : epoch + 1 - (claimStart s u f).1 ≤ INCENTIVE_EPOCH_CLAIM_CAP)
    (h : claimFlow s u epoch f = .ok (f', msgs)) :
    ∃ r, rewardsFlow s u epoch f = .ok r ∧ f'.claimed = f.claimed + r.getD 0 ∧ msgSum msgs = r.getD 0 := by
  unfold claimFlow at h
  unfold rewardsFlow
  generalize hexp : f.expanded = ex at *
  obtain ⟨expAmt, expEnd⟩ := ex
  simp only at h ⊢
  split at h
  · rename_i hskip
    rw [if_pos hskip]
    injection h with h; injection h with h1 h2; subst h1 h2
    exact ⟨none, rfl, rfl, rfl⟩
  · rename_i hskip
    rw [if_neg hskip]
    generalize hcs : claimStart s u f = cs at *
    obtain ⟨first, lu, ls⟩ := cs
    simp only at h hcap ⊢
    split at h
    · rename_i st hloop
      injection h with h; injection h with h1 h2; subst h1 h2
      have hR : Sim f { flow := f, lastUpd := lu, lastSeen := ls, count := 0, msgs := [] }
                      { emitted := f.emitted, lastUpd := lu, lastSeen := ls, total := 0 } :=
        ⟨⟨rfl, rfl, rfl, rfl, rfl⟩, rfl, rfl, rfl, rfl, rfl⟩
      obtain ⟨rt', hr, hsim⟩ := claimEpochs_sim (epoch + 1 - first) first _ _ st hR
        (by rw [Nat.zero_add]; exact hcap) hloop
      rw [hr]
      exact ⟨some rt'.total, rfl, hsim.claimed, hsim.paid⟩
    · cases h
    · cases h

def pairSum : List (Nat × Nat) → Nat
  | [] => 0
  | p :: t => p.2 + pairSum t

/-- all flows: the claim's transfer messages add up to the sum of the per-flow totals of the query -/
theorem claimFlows_eq_rewardsFlows {s : St} {u epoch : Nat} :
    ∀ (fl fl' : List Flow) (msgs : List Msg),
      (∀ f ∈ fl, epoch + 1 - (claimStart s u f).1 ≤ INCENTIVE_EPOCH_CLAIM_CAP) →
      claimFlows s u epoch fl = .ok (fl', msgs) →
      ∃ l, rewardsFlows s u epoch fl = .ok l ∧ msgSum msgs = pairSum l := by
  intro fl
  induction fl with
  | nil =>
    intro fl' msgs _ h
    unfold claimFlows at h
    injection h with h; injection h with h1 h2; subst h2
    exact ⟨[], rfl, rfl⟩
  | cons f t ih =>
    intro fl' msgs hcap h
    obtain ⟨f', m, t', m', hct, rfl, rfl, hf⟩ := claimFlows_cons_ok h
    obtain ⟨l, hl, hls⟩ := ih t' m' (fun g hg => hcap g (List.mem_cons_of_mem _ hg)) hct
    unfold rewardsFlows
    rcases hf with ⟨hav, hcf⟩ | ⟨hav, rfl, rfl⟩
    · obtain ⟨r, hr, _, hsum⟩ := claimFlow_eq_rewardsFlow (hcap f List.mem_cons_self) hcf
      rw [if_pos hav, hr, hl, msgSum_append, hsum, hls]
      cases r with
      | none => exact ⟨l, rfl, Nat.zero_add _⟩
      | some v => exact ⟨(f.asset, v) :: l, rfl, rfl⟩
    · rw [if_neg hav]
      exact ⟨l, hl, hls⟩

end WW.Inc
