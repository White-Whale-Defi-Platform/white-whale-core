/- C11: the LP custody equation as an equality, with every unit of LP-denom funds the handlers did not
   ask for counted explicitly (`strayOf`). -/
import WW.Proofs.Backed
namespace WW.Inc
open WW WW.Gen

/-- every asset-history key of every flow is at most `ep + 1` — `expand_flow` writes at `epoch + 1` — which
    holds along epoch-monotone histories -/
def HistLe (s : St) (ep : Nat) : Prop := ∀ f ∈ s.flows, ∀ q ∈ f.hist, q.1 ≤ ep + 1

/-- no flow was created by the contract itself: `close_flow`'s refund to such a creator would be a
    self-transfer and leave the funds where they are -/
def CreatorsOk (s : St) : Prop := ∀ f ∈ s.flows, f.creator ≠ INC

theorem HistLe.mono {s : St} {ep ep' : Nat} (h : HistLe s ep) (hle : ep ≤ ep') : HistLe s ep' := by
  intro f hf q hq
  have := h f hf q hq
  omega

def lpOffer (c : Cfg) (e : Env) : Nat := att c 0 (fundsOf c e.offers)

/-- LP-denom funds attached to a call that the handler neither records nor returns: LP coins attached
    to a handler that takes no LP — `close_position`, `withdraw`, `claim`, `snapshot`, `close_flow`, an
    `expand_flow` in another asset, an `open_flow` whose flow asset and fee asset are both not the LP.
    Nothing else: an `open_flow` that charges its fee in the LP denom keeps the fee's worth for the
    collector, the flow amount when the flow asset is the LP too, and refunds every unit beyond that
    (whatever the kind of the flow asset), so it contributes 0. -/
def strayOf (c : Cfg) (e : Env) : Op → Nat
  | .openPos _ _ _ => 0
  | .expandPos _ _ _ => 0
  | .helperDeposit _ _ _ => 0
  | .helperDepositAs _ _ _ _ _ => 0
  | .openFlow a _ _ _ => if a = 0 then 0 else if c.feeAsset = 0 then 0 else lpOffer c e
  | .expandFlow _ a _ _ => if a = 0 then 0 else lpOffer c e
  | _ => lpOffer c e

theorem Call.stray {c : Cfg} {b0 b : Bal} {e e' : Env} {op op' : Op} (h : Call c b0 e op b e' op') :
    strayOf c e' op' = strayOf c e op := by
  cases h <;> rfl

theorem att_zero_of_not_mem {c : Cfg} {k : Nat} {l : List (Nat × Nat)} (h : k ∉ keysOf l) : att c k l = 0 := by
  induction l with
  | nil => rfl
  | cons p t ih =>
    simp only [keysOf, List.map_cons, List.mem_cons, not_or] at h
    simp only [att]
    have : ¬ (c.native p.1 = true ∧ p.1 = k) := fun hh => h.1 hh.2.symm
    rw [if_neg this, ih h.2]

theorem att_eq_of_mem {c : Cfg} {l : List (Nat × Nat)} {k v : Nat} (hn : (keysOf l).Nodup)
    (h : (k, v) ∈ l) (hk : c.native k = true) : att c k l = v := by
  induction l with
  | nil => cases h
  | cons p t ih =>
    simp only [keysOf, List.map_cons, List.nodup_cons] at hn
    simp only [att]
    rcases List.mem_cons.mp h with h | h
    · subst h
      have h0 := att_zero_of_not_mem (c := c) hn.1
      simp only at h0
      simp [hk, h0]
    · have hne : p.1 ≠ k := by
        intro he; apply hn.1; rw [he]
        exact List.mem_map_of_mem (f := (·.1)) h
      have : ¬ (c.native p.1 = true ∧ p.1 = k) := fun hh => hne hh.2
      rw [if_neg this, ih hn.2 h]; omega

theorem att_eq_of_hasFunds {c : Cfg} {l : List (Nat × Nat)} {a v : Nat} (hn : (keysOf l).Nodup)
    (h : hasFunds l a v = true) (hk : c.native a = true) : att c a l = v := by
  unfold hasFunds at h
  obtain ⟨p, hp, hpe⟩ := List.any_eq_true.mp h
  simp only [Bool.and_eq_true, decide_eq_true_eq] at hpe
  have : (a, v) ∈ l := by
    have : p = (a, v) := by rw [← hpe.1, ← hpe.2]
    rw [← this]; exact hp
  exact att_eq_of_mem hn this hk

theorem nodup_fundsOf {c : Cfg} {l : List (Nat × Nat)} (hn : (keysOf l).Nodup) : (keysOf (fundsOf c l)).Nodup :=
  nodup_keys_filter _ hn

/-- `open_flow`, exactly, in every asset: new flow funds + payouts + what was attached in a denom that is
    neither the flow's nor the fee's = attached + pulled -/
theorem openFlow_ledger_eq {c : Cfg} {e : Env} {a amount x y : Nat} {m0 m1 : List Msg}
    (hs : e.sender ≠ INC) (hn : (keysOf (fundsOf c e.offers)).Nodup)
    (hfee : openFlowFee c e a amount = .ok (x, m0)) (hasset : openFlowAsset c e a x = .ok (y, m1)) (a' : Nat) :
    (if a = a' then y else 0) + outsOf INC a' (m0 ++ m1)
        + (if a = a' ∨ c.feeAsset = a' then 0 else att c a' (fundsOf c e.offers))
      = att c a' (fundsOf c e.offers) + insOf INC a' (m0 ++ m1) := by
  obtain ⟨_, hfunds, p, hm, hp, hp0⟩ := openFlow_msgs hfee hasset
  obtain ⟨o, i⟩ := openFlowMsgs_inc hs (fun h => (hp h).1) hp0 (a := a) (y := y) a'
  rw [hm, o, i]
  by_cases hfa : c.feeAsset = a'
  · subst hfa
    rw [if_pos rfl, if_pos (Or.inr rfl)]
    cases hnf : c.native c.feeAsset
    · rw [hp0 hnf, att_nonnative hnf]
      by_cases haa : a = c.feeAsset
      · rw [if_pos haa, if_pos ⟨haa, by rw [haa]; exact hnf⟩]; omega
      · rw [if_neg haa, if_neg (fun hh => haa hh.1)]
    · rw [att_eq_of_mem hn (alook_some_mem (hp hnf).2) hnf]
      by_cases haa : a = c.feeAsset
      · rw [if_pos haa, if_neg (fun hh => by rw [haa, hnf] at hh; cases hh.2)]; omega
      · rw [if_neg haa, if_neg (fun hh => haa hh.1)]; omega
  · rw [if_neg hfa]
    by_cases haa : a = a'
    · subst haa
      rw [if_pos rfl, if_pos (Or.inl rfl)]
      cases hna : c.native a
      · rw [if_pos ⟨rfl, rfl⟩, att_nonnative hna]; omega
      · rw [att_eq_of_hasFunds hn (hfunds hna (fun hh => hfa hh.symm)) hna,
          if_neg (fun (hh : a = a ∧ true = false) => Bool.noConfusion hh.2)]
    · rw [if_neg haa, if_neg (not_or.mpr ⟨haa, hfa⟩), if_neg (fun hh => haa hh.1)]; omega

/-- the custody side of a handler result (`stray` = LP-denom funds attached but not asked for) -/
structure CustodyOk (c : Cfg) (s s1 : St) (e : Env) (msgs : List Msg) (stray : Nat) : Prop where
  hist : HistLe s e.epoch → HistLe s1 e.epoch
  creators : e.sender ≠ INC → CreatorsOk s → CreatorsOk s1
  eq0 : e.sender ≠ INC → (keysOf e.offers).Nodup → HistLe s e.epoch → CreatorsOk s →
    owed s1 0 + outsOf INC 0 msgs + stray = owed s 0 + att c 0 (fundsOf c e.offers) + insOf INC 0 msgs

theorem owed_zero (s : St) : owed s 0 = ffSum 0 s.flows + staked s := rfl

/-- a handler that leaves the flows alone: only the LP equation is left to show, between the stakes -/
theorem CustodyOk.of_flows_eq {c : Cfg} {s s1 : St} {e : Env} {msgs : List Msg} {stray : Nat}
    (d1 : s1.flows = s.flows)
    (heq : e.sender ≠ INC →
      staked s1 + outsOf INC 0 msgs + stray = staked s + att c 0 (fundsOf c e.offers) + insOf INC 0 msgs) :
    CustodyOk c s s1 e msgs stray :=
  ⟨fun h => by unfold HistLe; rw [d1]; exact h, fun _ h => by unfold CreatorsOk; rw [d1]; exact h,
    fun hs _ _ _ => by rw [owed_zero, owed_zero, d1]; have := heq hs; omega⟩

/-- a handler that leaves the stake alone and makes `fl` the flows: the LP equation is one between the
    flows' unclaimed LP -/
theorem CustodyOk.of_staked_eq {c : Cfg} {s s1 : St} {e : Env} {msgs : List Msg} {stray : Nat} (fl : List Flow)
    (hfl : s1.flows = fl) (hst : staked s1 = staked s)
    (hist : HistLe s e.epoch → ∀ f ∈ fl, ∀ q ∈ f.hist, q.1 ≤ e.epoch + 1)
    (creators : e.sender ≠ INC → CreatorsOk s → ∀ f ∈ fl, f.creator ≠ INC)
    (heq : e.sender ≠ INC → (keysOf e.offers).Nodup → HistLe s e.epoch → CreatorsOk s →
      ffSum 0 fl + outsOf INC 0 msgs + stray = ffSum 0 s.flows + att c 0 (fundsOf c e.offers) + insOf INC 0 msgs) :
    CustodyOk c s s1 e msgs stray := by
  subst hfl
  exact ⟨hist, creators, fun hs hn hh hc => by rw [owed_zero, owed_zero, hst]; have := heq hs hn hh hc; omega⟩

theorem pos_custodyOk {c : Cfg} {s s1 : St} {e : Env} {amount : Nat} {msgs : List Msg}
    (hd : s1.flows = s.flows ∧ s1.flowCounter = s.flowCounter ∧ s1.bal = s.bal
      ∧ staked s1 = staked s + amount ∧ validateFunds c e amount = .ok msgs) : CustodyOk c s s1 e msgs 0 := by
  obtain ⟨d1, d2, d3, d4, d5⟩ := hd
  refine .of_flows_eq d1 fun hs => ?_
  obtain ⟨v1, v2⟩ := validateFunds_ledger hs d5
  rw [v1 0, d4]; omega

theorem closePosition_custody {c : Cfg} {s s1 : St} {e : Env} {dur : Nat} {msgs : List Msg} (hW : WInv s)
    (h : closePosition s e dur = .ok (s1, msgs)) : CustodyOk c s s1 e msgs (lpOffer c e) := by
  obtain ⟨d1, d2, d3, d4, rfl⟩ := closePosition_delta hW h
  exact .of_flows_eq d1 fun _ => by rw [d4]; rfl

/-- `withdraw` pays the closed positions out of the stake -/
theorem withdrawOp_custody {c : Cfg} {s s1 : St} {e : Env} {msgs : List Msg}
    (h : withdrawOp s e = .ok (s1, msgs)) : CustodyOk c s s1 e msgs (lpOffer c e) := by
  obtain ⟨d1, d2, d3, d4, d5⟩ := withdrawOp_delta h
  refine .of_flows_eq d1 fun hs => ?_
  unfold lpOffer
  rw [d5]
  by_cases h0 : closedSum (closedOf s e.sender) = 0
  · rw [if_pos h0]
    simp only [outsOf, insOf]; omega
  · obtain ⟨o1, o2⟩ := io_send_inc hs 0 0 (closedSum (closedOf s e.sender))
    rw [if_neg h0, o1, o2, if_pos rfl]; omega

/-- `claim` pays out of the flows what it books as claimed -/
theorem claimExec_custody {c : Cfg} {s s1 : St} {e : Env} {msgs : List Msg} (hF : FInv s)
    (h : claimExec s e = .ok (s1, msgs)) : CustodyOk c s s1 e msgs (lpOffer c e) := by
  obtain ⟨fl, rfl, hcf, -⟩ := claimCore_ok (claimExec_ok h).2
  obtain ⟨c1, c2, c3, _⟩ := claimFlows_ledger _ _ _ hcf
  obtain ⟨c4, c5⟩ := c2 hF.claimed_le
  refine .of_staked_eq fl rfl rfl (fun hh => forall2_core_all c1 hh fun _ _ hc h => hc.hist.symm ▸ h)
    (fun _ hh => forall2_core_all c1 hh fun _ _ hc h => hc.creator.symm ▸ h) fun hs _ _ _ => ?_
  · have h5 := c5 hs 0
    have h3 := c3 hs 0
    unfold lpOffer; omega

theorem takeSnapshot_custody {c : Cfg} {s s1 : St} {e : Env} {msgs : List Msg}
    (h : takeSnapshot s e = .ok (s1, msgs)) : CustodyOk c s s1 e msgs (lpOffer c e) := by
  obtain ⟨rfl, rfl, -⟩ := takeSnapshot_ok h
  exact .of_flows_eq rfl fun _ => rfl

theorem ite_or_zero {p q : Prop} [Decidable p] [Decidable q] (x : Nat) :
    (if p then 0 else if q then 0 else x) = if p ∨ q then 0 else x := by
  by_cases hp : p
  · rw [if_pos hp, if_pos (Or.inl hp)]
  · by_cases hq : q
    · rw [if_neg hp, if_pos hq, if_pos (Or.inr hq)]
    · rw [if_neg hp, if_neg hq, if_neg (not_or.mpr ⟨hp, hq⟩)]

/-- `open_flow`: the new flow's LP is what `openFlow_ledger_eq` says was kept in asset 0 -/
theorem openFlow_custody {c : Cfg} {s s1 : St} {e : Env} {a0 amt : Nat} {st en : Option Nat} {msgs : List Msg}
    (h : openFlow c s e a0 amt st en = .ok (s1, msgs)) :
    CustodyOk c s s1 e msgs (if a0 = 0 then 0 else if c.feeAsset = 0 then 0 else lpOffer c e) := by
  obtain ⟨x, y, m0, m1, f, rfl, hfee, hasset, rfl, f1, f2, f3, f4, f5, f6, _⟩ := openFlow_ok h
  refine .of_staked_eq (insertFlow f s.flows) rfl rfl
    (fun hh => forall_mem_insertFlow (by rw [f6]; intro q hq; cases hq) hh)
    (fun hs hh => forall_mem_insertFlow (by rw [f2]; exact hs) hh) fun hs hn _ _ => ?_
  have hl := openFlow_ledger_eq hs (nodup_fundsOf hn) hfee hasset 0
  rw [ffSum_insertFlow, contrib_fresh f3 f4 f5 f6 0, ite_or_zero]
  unfold lpOffer; omega

/-- `expand_flow`'s funds, exactly, in every asset: the amount in the flow's asset + what was attached in
    another denom = attached + pulled -/
theorem expandFlowFunds_ledger_eq {c : Cfg} {e : Env} {a amount : Nat} {msgs : List Msg} (hs : e.sender ≠ INC)
    (h : expandFlowFunds c e a amount = .ok msgs) (a' : Nat) :
    (if a = a' then amount else 0) + (if a = a' then 0 else att c a' (fundsOf c e.offers))
      = att c a' (fundsOf c e.offers) + insOf INC a' msgs := by
  by_cases ha : a = a'
  · subst ha
    rw [if_pos rfl, if_pos rfl, (expandFlowFunds_ledger hs h).2]; rfl
  · have h0 : insOf INC a' msgs = 0 := by
      rcases expandFlowFunds_spec h with ⟨_, _, _, hm⟩ | ⟨_, _, hm⟩
      · subst hm; rfl
      · subst hm
        rw [(io_pull_inc hs a' a amount).2, if_neg ha]
    rw [if_neg ha, if_neg ha, h0]; omega

/-- what a flow of asset `a0` whose unclaimed funds grow by `amt` adds to what is owed -/
theorem contrib_grow {f f2 : Flow} {a0 amt : Nat} (hfa : f.asset = a0) (ha : f2.asset = f.asset)
    (hu : f2.funded - f2.claimed = f.funded - f.claimed + amt) (a : Nat) :
    contrib a f2 = contrib a f + (if a0 = a then amt else 0) := by
  unfold contrib
  rw [ha, hfa, hu]
  by_cases h : a0 = a
  · simp only [if_pos h]
  · simp only [if_neg h]

/-- `expand_flow`: with no asset-history entry beyond the next epoch the flow grows by exactly the
    amount, which arrives in the flow's asset -/
theorem expandFlow_custody {c : Cfg} {s s1 : St} {e : Env} {id a0 amt : Nat} {en : Option Nat} {msgs : List Msg}
    (hF : FInv s) (h : expandFlow c s e id a0 amt en = .ok (s1, msgs)) :
    CustodyOk c s s1 e msgs (if a0 = 0 then 0 else lpOffer c e) := by
  obtain ⟨f, f2, endE, rfl, hf, hfa, hfunds, hadd⟩ := expandFlow_ok h
  obtain ⟨hfm, _⟩ := findFlow_mem hf
  obtain ⟨_, x2, x3, _, _, _, hexact⟩ := expandFlow_flow (hF.hist_nodup f hfm) (hF.claimed_le f hfm) hadd
  refine .of_staked_eq (insertFlow f2 (removeFlow s.flows id)) rfl rfl
    (fun hh => forall_mem_insertFlow (hexact (hh f hfm)).2 (forall_mem_removeFlow hh id))
    (fun _ hh => forall_mem_insertFlow (by rw [x3]; exact hh f hfm) (forall_mem_removeFlow hh id))
    fun hs _ hh _ => ?_
  have hl := expandFlowFunds_ledger_eq hs hfunds 0
  have hrem := ffSum_removeFlow_eq 0 hF.ids_nodup hf
  rw [ffSum_insertFlow, (expandFlowFunds_ledger hs hfunds).1 0, contrib_grow hfa x2 (hexact (hh f hfm)).1 0]
  unfold lpOffer; omega

/-- `close_flow` refunds the flow's unclaimed funds to its creator -/
theorem closeFlow_custody {c : Cfg} {s s1 : St} {e : Env} {id : Nat} {msgs : List Msg} (hF : FInv s)
    (h : closeFlow s e id = .ok (s1, msgs)) : CustodyOk c s s1 e msgs (lpOffer c e) := by
  obtain ⟨f, rfl, hf, _, rfl⟩ := closeFlow_ok h
  obtain ⟨hfm, _⟩ := findFlow_mem hf
  refine .of_staked_eq (removeFlow s.flows id) rfl rfl (fun hh => forall_mem_removeFlow hh id)
    (fun _ hh => forall_mem_removeFlow hh id) fun _ _ _ hcr => ?_
  have hrem := ffSum_removeFlow_eq 0 hF.ids_nodup hf
  obtain ⟨o1, o2⟩ := io_send_inc (hcr f hfm) 0 f.asset (f.funded - f.claimed)
  have hc : contrib 0 f = (if f.asset = 0 then f.funded - f.claimed else 0) := rfl
  rw [o1, o2]
  unfold lpOffer; omega

theorem handler_custody {c : Cfg} {s s1 : St} {e : Env} {op : Op} {msgs : List Msg} (hW : WInv s) (hF : FInv s)
    (h : handler c s e op = .ok (s1, msgs)) : CustodyOk c s s1 e msgs (strayOf c e op) := by
  cases op with
  | openPos amt dur recv => exact pos_custodyOk (openPosition_delta h)
  | expandPos amt dur recv => exact pos_custodyOk (expandPosition_delta hW h)
  | closePos dur => exact closePosition_custody hW h
  | withdraw => exact withdrawOp_custody h
  | claim => exact claimExec_custody hF h
  | snapshot => exact takeSnapshot_custody h
  | openFlow a0 amt st en => exact openFlow_custody h
  | expandFlow id a0 amt en => exact expandFlow_custody hF h
  | closeFlow id => exact closeFlow_custody hF h
  | helperDeposit a0 a1 dur => cases h
  | helperDepositAs x0 x1 a0 a1 dur => cases h

end WW.Inc
