/- The constant-product `compute_swap`: what a successful call returned (no assumption on the inputs),
   its closed form on the domain of C02, and the arithmetic of swapping there and back. -/
import WW.Model.CpSwap
import WW.Proofs.Basic
namespace WW

/-- `a` is a `Uint128` value. C15's call-site statements use it; C02's `Dom` spells the same bound out
    (`op ≤ U128MAX`), and either form is accepted where the other is expected. -/
def In128 (a : Nat) : Prop := a ≤ U128MAX

/-- `(offer * ⌊ask·10¹⁸/offer_pool⌋) / 10¹⁸`, the "ideal" return the spread is measured against -/
def cpIdeal (op ap off : Nat) : Nat := off * (ap * E18 / op) / E18

def cpSpread (op ap off : Nat) : Nat := cpIdeal op ap off - cpGross op ap off

theorem mul_div_add_le (a b d : Nat) : a * b / (d + b) ≤ a :=
  Nat.div_le_of_le_mul (Nat.mul_comm a b ▸ Nat.mul_le_mul_right a (Nat.le_add_left b d))

theorem cpGross_le_ask (op ap off : Nat) : cpGross op ap off ≤ ap := mul_div_add_le ap off op

theorem cpGross_lt_ask {op ap off : Nat} (hop : 1 ≤ op) (hap : 1 ≤ ap) : cpGross op ap off < ap := by
  unfold cpGross
  rw [Nat.div_lt_iff_lt_mul (by omega)]
  exact Nat.mul_lt_mul_of_le_of_lt (Nat.le_refl ap) (by omega) hap

theorem ratio_add_le (a b d : Nat) : a * b * E18 / (d + b) ≤ a * E18 := by
  rw [Nat.mul_right_comm]
  exact mul_div_add_le _ _ _

/-- `Uint256::one() * Decimal256::from_ratio(ask·offer, pool + offer)` is the gross output: the 18
    decimals cancel exactly -/
theorem one_mul_ratio_eq_cpGross (op ap off : Nat) :
    1 * (ap * off * E18 / (op + off)) / E18 = cpGross op ap off := by
  rw [Nat.one_mul, Nat.div_div_eq_div_mul, Nat.mul_div_mul_right _ _ E18_pos, cpGross]

/-- what a successful constant-product `compute_swap` returned, with no assumption on its inputs: the
    three fees are those of the gross output `cpGross op ap off`, and together with the return amount
    they add up to it -/
theorem cpSwap_ok {op ap off : Nat} {f : Fees} {c : SwapComp} (h : cpSwap op ap off f = .ok c) :
    op + off ≠ 0 ∧ c.swapFee = feeOf f.swap (cpGross op ap off) ∧
    c.protFee = feeOf f.prot (cpGross op ap off) ∧ c.burnFee = feeOf f.burn (cpGross op ap off) ∧
    c.ret + c.swapFee + c.protFee + c.burnFee = cpGross op ap off ∧
    c.spread = cpSpread op ap off := by
  simp only [cpSwap, Res.bind_eq_ok, pmul_eq_ok, padd_eq_ok, dec256FromRatio_eq_ok, u256MulDec_eq_ok,
    psub_eq_ok, to128_eq_ok, Res.pure_eq, Res.ok.injEq] at h
  obtain ⟨_, ⟨-, rfl⟩, _, ⟨-, rfl⟩, _, ⟨h0, -, rfl⟩, g, ⟨-, hg⟩, _, ⟨-, -, rfl⟩, _, ⟨-, rfl⟩,
    _, ⟨-, rfl⟩, _, ⟨-, rfl⟩, _, ⟨-, rfl⟩, _, ⟨_, rfl⟩, _, ⟨_, rfl⟩, _, ⟨_, rfl⟩, _, ⟨-, rfl⟩,
    _, ⟨-, rfl⟩, _, ⟨-, rfl⟩, _, ⟨-, rfl⟩, _, ⟨-, rfl⟩, rfl⟩ := h
  rw [one_mul_ratio_eq_cpGross] at hg
  subst hg
  exact ⟨h0, rfl, rfl, rfl, by dsimp only; omega, rfl⟩

theorem cpSwap_zero {op ap : Nat} {f : Fees} {c : SwapComp} (h : cpSwap op ap 0 f = .ok c) :
    c = ⟨0, 0, 0, 0, 0⟩ := by
  obtain ⟨-, h1, h2, h3, h4, h5⟩ := cpSwap_ok h
  obtain ⟨ret, spread, sf, pf, bf⟩ := c
  simp only [cpSpread, cpIdeal, cpGross, feeOf, Nat.mul_zero, Nat.zero_mul, Nat.zero_div,
    Nat.zero_sub] at h1 h2 h3 h4 h5
  subst h1 h2 h3 h5
  rw [show ret = 0 by omega]

theorem cpIdeal_le (op ap off : Nat) : cpIdeal op ap off ≤ off * ap :=
  Nat.div_le_of_le_mul <|
    calc off * (ap * E18 / op) ≤ off * (ap * E18) := Nat.mul_le_mul_left _ (Nat.div_le_self _ _)
      _ = E18 * (off * ap) := by rw [Nat.mul_comm E18, Nat.mul_assoc]

theorem Fees.sum_lt_one {f : Fees} (hf : f.valid = true) : f.swap + f.prot + f.burn < E18 := by
  simp only [Fees.valid, Bool.and_eq_true, decide_eq_true_eq] at hf
  omega

theorem fees_le_gross {f : Fees} (hf : f.valid = true) (g : Nat) :
    feeOf f.swap g + feeOf f.prot g + feeOf f.burn g ≤ g :=
  three_fees_le g f.swap f.prot f.burn E18 (le_of_lt (Fees.sum_lt_one hf))

/-- three parts of `g` are each at most `g` and can be taken off it one after the other -/
theorem parts_le {g a b c : Nat} (h : a + b + c ≤ g) :
    a ≤ g ∧ b ≤ g ∧ c ≤ g ∧ b ≤ g - a ∧ c ≤ g - a - b ∧ g - a - b - c ≤ g := by
  omega

/-- the value the model computes when nothing aborts -/
def cpResult (op ap off : Nat) (f : Fees) : SwapComp :=
  let g := cpGross op ap off
  { ret := g - feeOf f.swap g - feeOf f.prot g - feeOf f.burn g
    spread := cpSpread op ap off
    swapFee := feeOf f.swap g
    protFee := feeOf f.prot g
    burnFee := feeOf f.burn g }

/-- **closed form**: on `Uint128` inputs with a non-empty offer pool and valid fees, the swap
    computation never panics; it returns `Err` exactly when the spread does not fit in 128 bits. -/
theorem cpSwap_closed {op ap off : Nat} {f : Fees}
    (hop : In128 op) (hap : In128 ap) (hoff : In128 off) (hop1 : 1 ≤ op) (hf : f.valid = true) :
    cpSwap op ap off f =
      if cpSpread op ap off ≤ U128MAX then .ok (cpResult op ap off f) else .err := by
  have hg : cpGross op ap off ≤ U128MAX := le_trans (cpGross_le_ask op ap off) hap
  have hfees := fees_le_gross hf (cpGross op ap off)
  unfold feeOf at hfees
  obtain ⟨sf, pf, bf, pf', bf', hret⟩ := parts_le hfees
  have h128 {x : Nat} (hx : x ≤ cpGross op ap off) : x ≤ U128MAX := le_trans hx hg
  have h256 {x : Nat} (hx : x ≤ cpGross op ap off) : x ≤ U256MAX := u128_le_u256 (h128 hx)
  -- every intermediate value fits its width, so the block runs through to the `Uint128` conversions
  unfold cpSwap
  rw [pmul_ok (u128_mul_le_u256 hap hoff), Res.bind_ok,
    padd_ok (u128_add_le_u256 hop hoff), Res.bind_ok,
    dec256FromRatio_ok (by omega) (le_trans (ratio_add_le ap off op) (u128_mul_E18_le_u256 hap)),
    Res.bind_ok,
    u256MulDec_ok (by rw [one_mul_ratio_eq_cpGross]; exact u128_le_u256 hg), Res.bind_ok,
    one_mul_ratio_eq_cpGross,
    dec256FromRatio_ok (by omega) (u128_ratio_le_u256 op hap), Res.bind_ok,
    u256MulDec_ok (le_trans (cpIdeal_le op ap off) (u128_mul_le_u256 hoff hap)), Res.bind_ok,
    u256MulDec_ok (h256 sf), Res.bind_ok, u256MulDec_ok (h256 pf), Res.bind_ok,
    u256MulDec_ok (h256 bf), Res.bind_ok,
    psub_ok sf, Res.bind_ok, psub_ok pf', Res.bind_ok, psub_ok bf', Res.bind_ok,
    to128_ok (h128 hret), Res.bind_ok]
  by_cases hsp : cpSpread op ap off ≤ U128MAX
  · rw [if_pos hsp]
    unfold cpSpread cpIdeal at hsp
    rw [to128_ok hsp, Res.bind_ok, to128_ok (h128 sf), Res.bind_ok, to128_ok (h128 pf), Res.bind_ok,
      to128_ok (h128 bf), Res.bind_ok]
    rfl
  · rw [if_neg hsp]
    unfold cpSpread cpIdeal at hsp
    rw [to128_err hsp, Res.bind_err]

/-- the way back, on the pool as the pair reports it after the first swap (offer reserve + offer, ask
    reserve − proceeds − protocol fee − burn fee): of a gross output `g ≤ ap·off/(op+off)` the proceeds
    `r` buy back at most `off`, gross, because `(op+off)·r ≤ (op+off)·(g−q) ≤ ap·off − q·off` for the
    `q = pf + bf` that left the pool -/
theorem round_trip_back {op ap off g r pf bf : Nat} (hg : g * (op + off) ≤ ap * off)
    (hr : r + pf + bf ≤ g) (hgap : g ≤ ap) : cpGross (ap - r - pf - bf) (op + off) r ≤ off := by
  have hq : ap - r - pf - bf + r = ap - (pf + bf) := by omega
  unfold cpGross
  rw [hq]
  exact Nat.div_le_of_le_mul <|
    calc (op + off) * r ≤ (op + off) * (g - (pf + bf)) :=
          Nat.mul_le_mul_left _ (Nat.le_sub_of_add_le (by omega))
      _ = g * (op + off) - (pf + bf) * (op + off) := by
          rw [Nat.mul_sub, Nat.mul_comm _ g, Nat.mul_comm _ (pf + bf)]
      _ ≤ ap * off - (pf + bf) * off :=
          tsub_le_tsub hg (Nat.mul_le_mul_left _ (Nat.le_add_left off op))
      _ = (ap - (pf + bf)) * off := (Nat.sub_mul ap _ off).symm

end WW
