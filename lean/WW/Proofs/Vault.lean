/- Lemmas for the vault model (C05, C06; the vault's share of C07 and C14): list bookkeeping, one characterisation
   per guarded operation, the balance sheet `Books` and the callback invariant, the callback-tree inductions for
   direct and router loans, what a successful `step` is (`Step`), arriving stray coins (`ArriveSpec`, `JRel`),
   invariant and share price through steps and histories. -/
import WW.Model.Vault
import WW.Proofs.Basic
import Mathlib.Tactic.SplitIfs
namespace WW.Vault
open WW

/-! ### guarded operations

Every operation of the model is `if <refused> then none else some <result>` or the other way round. -/

theorem ite_none_eq_some {α : Type} {c : Prop} [Decidable c] {a b : α} :
    (if c then none else some a) = some b ↔ ¬c ∧ b = a := by
  rw [Option.ite_none_left_eq_some, Option.some.injEq, eq_comm]

theorem ite_some_eq_some {α : Type} {c : Prop} [Decidable c] {a b : α} :
    (if c then some a else none) = some b ↔ c ∧ b = a := by
  rw [Option.ite_none_right_eq_some, Option.some.injEq, eq_comm]

theorem setN_length (l : List Nat) (i v : Nat) : (setN l i v).length = l.length := by
  induction l generalizing i with
  | nil => simp [setN]
  | cons x xs ih =>
    cases i with
    | zero => simp [setN]
    | succ i => simp [setN, ih]

theorem setN_sum (l : List Nat) (i v : Nat) (h : i < l.length) :
    (setN l i v).sum + getN l i = l.sum + v := by
  induction l generalizing i with
  | nil => simp at h
  | cons x xs ih =>
    cases i with
    | zero => simp [setN, getN]; omega
    | succ i =>
      have := ih i (by simpa using h)
      simp only [setN, List.sum_cons, getN, List.getD_cons_succ] at *
      omega

theorem setN_sub_sum {l : List Nat} {i n : Nat} (h : i < l.length) (hn : n ≤ getN l i) :
    (setN l i (getN l i - n)).sum + n = l.sum := by
  have := setN_sum l i (getN l i - n) h
  omega

theorem setN_add_sum {l : List Nat} {i : Nat} (n : Nat) (h : i < l.length) :
    (setN l i (getN l i + n)).sum = l.sum + n := by
  have := setN_sum l i (getN l i + n) h
  omega

theorem getN_le_sum (l : List Nat) (i : Nat) : getN l i ≤ l.sum := by
  induction l generalizing i with
  | nil => simp [getN]
  | cons x xs ih =>
    cases i with
    | zero => simp [getN]
    | succ i =>
      have := ih i
      simp only [getN, List.getD_cons_succ, List.sum_cons] at *
      omega

theorem getN_setN_same (l : List Nat) (i v : Nat) (h : i < l.length) : getN (setN l i v) i = v := by
  induction l generalizing i with
  | nil => simp at h
  | cons x xs ih =>
    cases i with
    | zero => simp [setN, getN]
    | succ i =>
      have := ih i (by simpa using h)
      simpa [setN, getN] using this

theorem getN_setN_ne (l : List Nat) (i j v : Nat) (h : i ≠ j) : getN (setN l i v) j = getN l j := by
  induction l generalizing i j with
  | nil => simp [setN]
  | cons x xs ih =>
    cases i with
    | zero =>
      cases j with
      | zero => exact absurd rfl h
      | succ j => simp [setN, getN]
    | succ i =>
      cases j with
      | zero => simp [setN, getN]
      | succ j =>
        have := ih i j (by omega)
        simpa [setN, getN] using this

theorem lmove_length (l : List Nat) (src dst n : Nat) : (lmove l src dst n).length = l.length := by
  unfold lmove; rw [setN_length, setN_length]

theorem lmove_sum (l : List Nat) (src dst n : Nat) (hs : src < l.length) (hd : dst < l.length)
    (hn : n ≤ getN l src) : (lmove l src dst n).sum = l.sum := by
  unfold lmove
  rw [setN_add_sum n (by rw [setN_length]; exact hd), setN_sub_sum hs hn]

theorem lmove_dst (l : List Nat) (src dst n : Nat) (hd : dst < l.length) (hne : src ≠ dst) :
    getN (lmove l src dst n) dst = getN l dst + n := by
  unfold lmove
  rw [getN_setN_same _ _ _ (by rw [setN_length]; exact hd), getN_setN_ne _ _ _ _ hne]

theorem lmove_src (l : List Nat) (src dst n : Nat) (hs : src < l.length) (hne : src ≠ dst) :
    getN (lmove l src dst n) src = getN l src - n := by
  unfold lmove
  rw [getN_setN_ne _ _ _ _ hne.symm, getN_setN_same _ _ _ hs]

theorem lmove_other (l : List Nat) (src dst n j : Nat) (h1 : j ≠ src) (h2 : j ≠ dst) :
    getN (lmove l src dst n) j = getN l j := by
  unfold lmove
  rw [getN_setN_ne _ _ _ _ h2.symm, getN_setN_ne _ _ _ _ h1.symm]

theorem lmove_le (l : List Nat) (src dst n j : Nat) (hs : src < l.length) (hne : src ≠ dst) (hj : j ≠ dst) :
    getN (lmove l src dst n) j ≤ getN l j := by
  by_cases h : j = src
  · subst h; rw [lmove_src _ _ _ _ hs hne]; exact Nat.sub_le ..
  · rw [lmove_other _ _ _ _ _ h hj]

theorem le_lmove (l : List Nat) (src dst n j : Nat) (hd : dst < l.length) (hne : src ≠ dst) (hj : j ≠ src) :
    getN l j ≤ getN (lmove l src dst n) j := by
  by_cases h : j = dst
  · subst h; rw [lmove_dst _ _ _ _ hd hne]; exact Nat.le_add_right ..
  · rw [lmove_other _ _ _ _ _ hj h]

/-- what every reachable top-level state satisfies -/
structure Inv (s : St) : Prop where
  abLen : s.ab.length = 6
  lbLen : s.lb.length = 4
  pendLe : s.pend ≤ s.bal
  assetSum : s.bal + s.ab.sum = s.assetSupply
  lpSum : s.lpVault + s.lb.sum = s.sup
  locked : (s.sup = 0 ∧ s.lpVault = 0) ∨ (s.lpVault = Gen.MINIMUM_LIQUIDITY_AMOUNT)
  ctr0 : s.ctr = 0

/-- the two balance sheets add up to the two supplies: the part of `Inv` (the invariant the property
    statements are written with) that also holds inside a borrower's callback -/
structure Books (s : St) : Prop where
  abLen : s.ab.length = 6
  lbLen : s.lb.length = 4
  assetSum : s.bal + s.ab.sum = s.assetSupply
  lpSum : s.lpVault + s.lb.sum = s.sup

/-- the weaker invariant that holds inside a borrower's callback (the counter is not zero) -/
structure CbInv (s : St) : Prop extends Books s where
  ctrPos : s.ctr ≠ 0

theorem Inv.books {s : St} (hI : Inv s) : Books s := ⟨hI.abLen, hI.lbLen, hI.assetSum, hI.lpSum⟩

/-- the books stay balanced when only `ab` and `bal` move; the defaulted arguments hold by `rfl` for any
    record update that leaves the other four fields alone -/
theorem Books.rearrange {s s' : St} (hB : Books s) (hlen : s'.ab.length = 6)
    (hsum : s'.bal + s'.ab.sum = s.bal + s.ab.sum) (hlb : s'.lb = s.lb := by rfl)
    (hsupply : s'.assetSupply = s.assetSupply := by rfl) (hlv : s'.lpVault = s.lpVault := by rfl)
    (hsup : s'.sup = s.sup := by rfl) : Books s' :=
  ⟨hlen, hlb ▸ hB.lbLen, hsupply ▸ hsum.trans hB.assetSum, by rw [hlb, hlv, hsup]; exact hB.lpSum⟩

theorem Inv.cbStart {s : St} (hI : Inv s) : CbInv { s with ctr := s.ctr + 1 } :=
  ⟨hI.books.rearrange hI.abLen rfl, Nat.succ_ne_zero _⟩

/-- assets backing the LP supply -/
def backing (s : St) : Nat := s.bal - s.pend

theorem deposit_price (T S a : Nat) : T * (S + a * S / T) ≤ (T + a) * S := by
  rw [Nat.mul_add, Nat.add_mul]
  exact Nat.add_le_add_left (Nat.mul_div_le ..) _

/-- two floors in a row lose value only: `⌊T · ⌊lp · E / S⌋ / E⌋ · S ≤ T · lp` -/
theorem mul_div_div_le (T lp S E : Nat) (hE : 0 < E) : T * (lp * E / S) / E * S ≤ T * lp := by
  rw [Nat.mul_comm T, Nat.mul_comm T]
  exact floor2_mul_le lp S T hE

theorem withdraw_price (T S lp out : Nat) (hS : 0 < S) (hlp : lp ≤ S) (h : out * S ≤ T * lp) :
    out ≤ T ∧ T * (S - lp) ≤ (T - out) * S := by
  refine ⟨Nat.le_of_mul_le_mul_right (h.trans (Nat.mul_le_mul_left T hlp)) hS, ?_⟩
  rw [Nat.mul_sub, Nat.sub_mul]
  exact Nat.sub_le_sub_left h _

theorem price_trans {b0 S0 b1 S1 b2 S2 : Nat} (h1 : b0 * S1 ≤ b1 * S0) (h2 : b1 * S2 ≤ b2 * S1)
    (hpos : 0 < S1) : b0 * S2 ≤ b2 * S0 :=
  Nat.le_of_mul_le_mul_right (c := S1) (calc
    b0 * S2 * S1 = b0 * S1 * S2 := Nat.mul_right_comm ..
    _ ≤ b1 * S0 * S2 := Nat.mul_le_mul_right _ h1
    _ = b1 * S2 * S0 := Nat.mul_right_comm ..
    _ ≤ b2 * S1 * S0 := Nat.mul_le_mul_right _ h2
    _ = b2 * S0 * S1 := Nat.mul_right_comm ..) hpos

theorem min_liq_pos : 0 < Gen.MINIMUM_LIQUIDITY_AMOUNT := by decide

theorem fees_le {f : VFees} (hv : f.valid = true) (a : Nat) :
    fee f.prot a + fee f.flash a + fee f.burn a ≤ a := by
  simp only [VFees.valid, Bool.and_eq_true, decide_eq_true_eq] at hv
  exact three_fees_le a f.prot f.flash f.burn E18 (by omega)

theorem payback_congr {s s2 : St} (h : s2.fees = s.fees) (n : Nat) : payback s2 n = payback s n := by
  unfold payback; rw [h]

theorem Inv.sup_pos_locked {s : St} (hI : Inv s) (h : s.sup ≠ 0) :
    s.lpVault = Gen.MINIMUM_LIQUIDITY_AMOUNT := by
  rcases hI.locked with ⟨h0, _⟩ | h1
  · exact absurd h0 h
  · exact h1

theorem Inv.sup_zero_lpVault {s : St} (hI : Inv s) (h : s.sup = 0) : s.lpVault = 0 := by
  have := hI.lpSum; omega

theorem payIn_eq_some {s s' : St} {a n : Nat} : payIn s a n = some s' ↔
    ¬((n = 0 ∧ s.kind = 0) ∨ getN s.ab a < n) ∧
    s' = { s with ab := setN s.ab a (getN s.ab a - n), bal := s.bal + n } := ite_none_eq_some

theorem payOut_eq_some {s s' : St} {a n : Nat} : payOut s a n = some s' ↔
    ¬((n = 0 ∧ s.kind = 0) ∨ s.bal < n) ∧
    s' = { s with ab := setN s.ab a (getN s.ab a + n), bal := s.bal - n } := ite_none_eq_some

theorem move_eq_some {s s' : St} {src dst n : Nat} : move s src dst n = some s' ↔
    ¬((n = 0 ∧ s.kind = 0) ∨ getN s.ab src < n) ∧ s' = { s with ab := lmove s.ab src dst n } :=
  ite_none_eq_some

theorem payIn_spec {s s' : St} {a n : Nat} (hab : s.ab.length = 6) (ha : a < 6)
    (h : payIn s a n = some s') :
    s' = { s with ab := setN s.ab a (getN s.ab a - n), bal := s.bal + n } ∧ n ≤ getN s.ab a ∧
    s'.bal + s'.ab.sum = s.bal + s.ab.sum ∧ s'.ab.length = 6 := by
  obtain ⟨hg, rfl⟩ := payIn_eq_some.mp h
  have hle : n ≤ getN s.ab a := by omega
  have := setN_sub_sum (hab ▸ ha) hle
  exact ⟨rfl, hle, by simp only; omega, (setN_length ..).trans hab⟩

theorem payOut_spec {s s' : St} {a n : Nat} (hab : s.ab.length = 6) (ha : a < 6)
    (h : payOut s a n = some s') :
    s' = { s with ab := setN s.ab a (getN s.ab a + n), bal := s.bal - n } ∧ n ≤ s.bal ∧
    s'.bal + s'.ab.sum = s.bal + s.ab.sum ∧ s'.ab.length = 6 := by
  obtain ⟨hg, rfl⟩ := payOut_eq_some.mp h
  have hle : n ≤ s.bal := by omega
  have := setN_add_sum n (hab ▸ ha)
  exact ⟨rfl, hle, by simp only; omega, (setN_length ..).trans hab⟩

theorem move_spec {s s' : St} {src dst n : Nat} (hab : s.ab.length = 6) (hs : src < 6) (hd : dst < 6)
    (h : move s src dst n = some s') :
    s' = { s with ab := lmove s.ab src dst n } ∧ n ≤ getN s.ab src ∧
    s'.bal + s'.ab.sum = s.bal + s.ab.sum ∧ s'.ab.length = 6 := by
  obtain ⟨hg, rfl⟩ := move_eq_some.mp h
  have hn : n ≤ getN s.ab src := by omega
  exact ⟨rfl, hn, congrArg _ (lmove_sum _ _ _ _ (hab ▸ hs) (hab ▸ hd) hn), (lmove_length ..).trans hab⟩

theorem transferOut_eq (s : St) (dst n : Nat) :
    transferOut s dst n = if dst ≥ 3 then none else move s 3 dst n := by
  unfold transferOut move
  by_cases hd : dst ≥ 3 <;> simp [hd]

theorem depositOk_iff {s : St} {who amount sent : Nat} : depositOk s who amount sent = true ↔
    amount ≤ getN s.ab who ∧ s.depOn = true ∧ s.ctr = 0 ∧ sent = amount ∧
    (s.sup = 0 → Gen.MINIMUM_LIQUIDITY_AMOUNT < amount) ∧
    (s.sup ≠ 0 → s.pend ≤ s.bal ∧ s.bal - s.pend ≠ 0 ∧ s.sup + depositMint s amount ≤ U128MAX) := by
  unfold depositOk; split <;> simp [*, and_assoc]

theorem deposit_eq_some {s s' : St} {who amount sent : Nat} : deposit s who amount sent = some s' ↔
    depositOk s who amount sent = true ∧ s' = depositRes s who amount := ite_some_eq_some

/-- no deposit while a loan is in flight (`DepositDuringLoan`) -/
theorem deposit_ctr (s : St) (who amount sent : Nat) (h : s.ctr ≠ 0) : deposit s who amount sent = none := by
  cases hd : deposit s who amount sent with
  | none => rfl
  | some s' => exact absurd (depositOk_iff.mp (deposit_eq_some.mp hd).1).2.2.1 h

theorem deposit_spec {s s' : St} {who amount sent : Nat} (hI : Inv s) (hw : who < 4)
    (h : deposit s who amount sent = some s') :
    Inv s' ∧ s'.bal = s.bal + amount ∧ s'.pend = s.pend ∧
    (0 < s.sup → backing s * s'.sup ≤ backing s' * s.sup) := by
  obtain ⟨hok, rfl⟩ := deposit_eq_some.mp h
  have hfund := (depositOk_iff.mp hok).1
  clear hok h
  have hab := setN_sub_sum (i := who) (by rw [hI.abLen]; omega) hfund
  have hlb := setN_add_sum (l := s.lb) (i := who) (depositMint s amount) (by rw [hI.lbLen]; omega)
  have hI1 := hI.assetSum
  have hI2 := hI.lpSum
  have hI3 := hI.pendLe
  unfold depositRes
  refine ⟨⟨(setN_length ..).trans hI.abLen, (setN_length ..).trans hI.lbLen, ?_, ?_, ?_, Or.inr ?_, hI.ctr0⟩,
    rfl, rfl, fun hpos => ?_⟩
  · show s.pend ≤ s.bal + amount
    omega
  · simp only; omega
  · simp only; omega
  · by_cases h0 : s.sup = 0
    · simp [h0, hI.sup_zero_lpVault h0]
    · simp [h0, hI.sup_pos_locked h0]
  · have hne : s.sup ≠ 0 := by omega
    simp only [backing, depositMint, if_neg hne, Nat.add_zero]
    rw [show s.bal + amount - s.pend = (s.bal - s.pend) + amount by omega]
    exact deposit_price _ _ _

/-- the share supply after a deposit: the first one makes it the amount deposited (the locked minimum
    included), later ones add what they mint -/
theorem deposit_sup {s s' : St} {who amount sent : Nat} (h : deposit s who amount sent = some s') :
    s'.sup = if s.sup = 0 then amount else s.sup + depositMint s amount := by
  obtain ⟨hok, rfl⟩ := deposit_eq_some.mp h
  have hfirst := (depositOk_iff.mp hok).2.2.2.2.1
  split <;> rename_i h0
  · have := hfirst h0
    simp only [depositRes, depositMint, if_pos h0]; omega
  · simp only [depositRes, if_neg h0, Nat.add_zero]

/-- a later deposit mints at most pro rata -/
theorem depositMint_le {s : St} (amount : Nat) (h0 : s.sup ≠ 0) :
    depositMint s amount * backing s ≤ amount * s.sup := by
  unfold depositMint backing
  rw [if_neg h0]
  exact Nat.div_mul_le_self _ _

theorem withdrawOk_iff {s : St} {who lp : Nat} : withdrawOk s who lp = true ↔
    lp ≤ getN s.lb who ∧ s.wdOn = true ∧ s.pend ≤ s.bal ∧ s.sup ≠ 0 ∧
    (shareOf s lp ≠ 0 ∨ s.kind ≠ 0) ∧ shareOf s lp ≤ s.bal := by
  simp [withdrawOk, and_assoc]

/-- the plain inversion; the proofs use `withdraw_some` (payout as a variable) for the effect on the
    state and `withdraw_spec` for invariant and price -/
theorem withdraw_eq_some {s s' : St} {who lp : Nat} : withdraw s who lp = some s' ↔
    withdrawOk s who lp = true ∧ s' = withdrawRes s who lp := ite_some_eq_some

theorem withdraw_ok_of_some {s s' : St} {who lp : Nat} (h : withdraw s who lp = some s') :
    withdrawOk s who lp = true ∧ s' = withdrawRes s who lp := withdraw_eq_some.mp h

/-- the payout of a withdrawal is at most pro rata: `out · supply ≤ backing · lp` -/
theorem shareOf_le (s : St) (lp : Nat) : shareOf s lp * s.sup ≤ backing s * lp :=
  mul_div_div_le _ _ _ _ E18_pos

/-- a successful withdrawal, with the payout as a variable of its own (the quotient `shareOf s lp` is
    costly to compare, so the proofs below never unfold it) -/
theorem withdraw_some {s s' : St} {who lp : Nat} (h : withdraw s who lp = some s') :
    withdrawOk s who lp = true ∧ ∃ out, out = shareOf s lp ∧
      s' = { s with bal := s.bal - out, ab := setN s.ab who (getN s.ab who + out),
                    lb := setN s.lb who (getN s.lb who - lp), sup := s.sup - lp } :=
  let ⟨hok, hs⟩ := withdraw_eq_some.mp h
  ⟨hok, _, rfl, hs⟩

theorem withdraw_books {s : St} {who lp out : Nat} (hB : Books s) (hw : who < 4)
    (hlp : lp ≤ getN s.lb who) (hout : out ≤ s.bal) :
    Books { s with bal := s.bal - out, ab := setN s.ab who (getN s.ab who + out),
                   lb := setN s.lb who (getN s.lb who - lp), sup := s.sup - lp } := by
  have h1 := setN_add_sum (l := s.ab) (i := who) out (by rw [hB.abLen]; omega)
  have h2 := setN_sub_sum (by rw [hB.lbLen]; omega) hlp
  have h3 := getN_le_sum s.lb who
  have h4 := hB.assetSum
  have h5 := hB.lpSum
  exact ⟨(setN_length ..).trans hB.abLen, (setN_length ..).trans hB.lbLen, by simp only; omega,
    by simp only; omega⟩

theorem withdraw_spec {s s' : St} {who lp : Nat} (hI : Inv s) (hw : who < 4)
    (h : withdraw s who lp = some s') :
    Inv s' ∧ backing s * s'.sup ≤ backing s' * s.sup := by
  obtain ⟨hok, out, hout, rfl⟩ := withdraw_some h
  obtain ⟨hlp, _, hpend, hsup, _, hle⟩ := withdrawOk_iff.mp hok
  have hshare := shareOf_le s lp
  rw [← hout] at hle hshare
  have hB := withdraw_books hI.books hw hlp hle
  have hlps : lp ≤ s.sup := by
    have := getN_le_sum s.lb who; have := hI.lpSum; omega
  obtain ⟨hoT, hprice⟩ := withdraw_price (backing s) s.sup lp out (Nat.pos_of_ne_zero hsup) hlps hshare
  refine ⟨⟨hB.abLen, hB.lbLen, ?_, hB.assetSum, hB.lpSum, Or.inr (hI.sup_pos_locked hsup), hI.ctr0⟩, ?_⟩
  · show s.pend ≤ s.bal - out
    unfold backing at hoT; omega
  · show backing s * (s.sup - lp) ≤ (s.bal - out - s.pend) * s.sup
    rw [Nat.sub_right_comm]
    exact hprice

theorem collect_eq_some {s s' : St} : collect s = some s' ↔
    (s.pend = 0 ∧ s' = s) ∨ (s.pend ≠ 0 ∧ s.pend ≤ s.bal ∧ s' = collectRes s) := by
  unfold collect
  split_ifs with h0 h1
  · simp [h0, eq_comm]
  · simp [h0]
    show s.pend ≤ s.bal → ¬s' = collectRes s
    omega
  · simp [h0, eq_comm]
    show s' = collectRes s → s.pend ≤ s.bal
    omega

theorem collectRes_books {s : St} (hB : Books s) (h : s.pend ≤ s.bal) : Books (collectRes s) := by
  have hs := setN_add_sum (l := s.ab) (i := 4) s.pend (by rw [hB.abLen]; omega)
  exact hB.rearrange ((setN_length ..).trans hB.abLen) (by simp only [collectRes]; omega)

theorem collect_spec {s s' : St} (hI : Inv s) (h : collect s = some s') :
    Inv s' ∧ backing s' = backing s ∧ s'.sup = s.sup ∧
    getN s'.ab 4 = getN s.ab 4 + s.pend ∧ s'.pend = 0 ∧ s'.bal + s.pend = s.bal := by
  rcases collect_eq_some.mp h with ⟨h0, rfl⟩ | ⟨_, hle, rfl⟩
  · exact ⟨hI, rfl, rfl, by omega, h0, by omega⟩
  · have hB := collectRes_books hI.books hle
    exact ⟨⟨hB.abLen, hB.lbLen, Nat.zero_le _, hB.assetSum, hB.lpSum, hI.locked, hI.ctr0⟩,
      Nat.sub_zero _, rfl, getN_setN_same _ _ _ (by rw [hI.abLen]; omega), rfl, Nat.sub_add_cancel hle⟩

/-! ### the borrower's callback: what every successful message preserves -/

/- `run`/`runs` (and `rrun`/`rruns` below) are defined in a `mutual` block, so `simp only [run]` at a use
   site would have to regenerate their equations each time: they are stated once here, one per message. -/
theorem run_pay (s : St) (n : Nat) : run s (.pay n) = payIn s 3 n := by simp only [run]
theorem run_deposit (s : St) (n : Nat) : run s (.deposit n) = deposit s 3 n n := by simp only [run]
theorem run_withdraw (s : St) (lp : Nat) : run s (.withdraw lp) = withdraw s 3 lp := by simp only [run]
theorem run_collect (s : St) : run s .collect = collect s := by simp only [run]
theorem run_transferOut (s : St) (dst n : Nat) : run s (.transferOut dst n) = transferOut s dst n := by
  simp only [run]
theorem run_fail (s : St) : run s .fail = none := by simp only [run]
theorem run_loan (s : St) (n : Nat) (cb : List Act) : run s (.loan n cb) = loanFrom s n cb := rfl
theorem runs_nil (s : St) : runs s [] = some s := by simp only [runs]
theorem runs_cons_none {s : St} {a : Act} (as : List Act) (h : run s a = none) :
    runs s (a :: as) = none := by
  rw [runs, h]
theorem runs_cons_some {s s1 : St} {a : Act} (as : List Act) (h : run s a = some s1) :
    runs s (a :: as) = runs s1 as := by
  rw [runs, h]

/-- relation between the state when a callback message starts and the state it leaves: a callback can
    only lower the share supply (withdrawals; deposits are refused) and the pending fees (collections);
    everything else a loan's settlement reads is untouched -/
structure CbRel (s s' : St) : Prop where
  sup : s'.sup ≤ s.sup
  pend : s'.pend ≤ s.pend
  ctr : s'.ctr = s.ctr
  allTime : s'.allTime = s.allTime
  burned : s'.burned = s.burned
  assetSupply : s'.assetSupply = s.assetSupply
  fees : s'.fees = s.fees
  kind : s'.kind = s.kind
  lpVault : s'.lpVault = s.lpVault
  ledgerSum : s'.pend + s'.sent = s.pend + s.sent
  jb : s'.jb = s.jb

theorem CbRel.refl (s : St) : CbRel s s := ⟨le_refl _, le_refl _, rfl, rfl, rfl, rfl, rfl, rfl, rfl, rfl, rfl⟩

theorem CbRel.trans {a b c : St} (h1 : CbRel a b) (h2 : CbRel b c) : CbRel a c :=
  ⟨le_trans h2.sup h1.sup, le_trans h2.pend h1.pend, h2.ctr.trans h1.ctr, h2.allTime.trans h1.allTime,
   h2.burned.trans h1.burned, h2.assetSupply.trans h1.assetSupply, h2.fees.trans h1.fees,
   h2.kind.trans h1.kind, h2.lpVault.trans h1.lpVault, h2.ledgerSum.trans h1.ledgerSum, h2.jb.trans h1.jb⟩

theorem CbInv.rearrange {s : St} (hI : CbInv s) {ab : List Nat} {bal : Nat} (hlen : ab.length = 6)
    (hsum : bal + ab.sum = s.bal + s.ab.sum) :
    CbInv { s with ab := ab, bal := bal } ∧ CbRel s { s with ab := ab, bal := bal } :=
  ⟨⟨hI.toBooks.rearrange hlen hsum, hI.ctrPos⟩,
    ⟨le_refl _, le_refl _, rfl, rfl, rfl, rfl, rfl, rfl, rfl, rfl, rfl⟩⟩

theorem payIn_cb {s s' : St} {a n : Nat} (hI : CbInv s) (ha : a < 6) (h : payIn s a n = some s') :
    CbInv s' ∧ CbRel s s' := by
  obtain ⟨rfl, _, hsum, hlen⟩ := payIn_spec hI.abLen ha h
  exact hI.rearrange hlen hsum

theorem payOut_cb {s s' : St} {a n : Nat} (hI : CbInv s) (ha : a < 6) (h : payOut s a n = some s') :
    CbInv s' ∧ CbRel s s' := by
  obtain ⟨rfl, _, hsum, hlen⟩ := payOut_spec hI.abLen ha h
  exact hI.rearrange hlen hsum

theorem move_cb {s s' : St} {src dst n : Nat} (hI : CbInv s) (hs : src < 6) (hd : dst < 6)
    (h : move s src dst n = some s') : CbInv s' ∧ CbRel s s' := by
  obtain ⟨rfl, _, hsum, hlen⟩ := move_spec hI.abLen hs hd h
  exact hI.rearrange hlen hsum

theorem withdraw_cb {s s' : St} {who lp : Nat} (hI : CbInv s) (hw : who < 4)
    (h : withdraw s who lp = some s') : CbInv s' ∧ CbRel s s' := by
  obtain ⟨hok, out, hout, rfl⟩ := withdraw_some h
  obtain ⟨hlp, _, _, _, _, hle⟩ := withdrawOk_iff.mp hok
  exact ⟨⟨withdraw_books hI.toBooks hw hlp (hout ▸ hle), hI.ctrPos⟩,
    ⟨Nat.sub_le .., le_refl _, rfl, rfl, rfl, rfl, rfl, rfl, rfl, rfl, rfl⟩⟩

theorem collect_cb {s s' : St} (hI : CbInv s) (h : collect s = some s') : CbInv s' ∧ CbRel s s' := by
  rcases collect_eq_some.mp h with ⟨_, rfl⟩ | ⟨_, hle, rfl⟩
  · exact ⟨hI, CbRel.refl _⟩
  · exact ⟨⟨collectRes_books hI.toBooks hle, hI.ctrPos⟩,
      ⟨le_refl _, Nat.zero_le _, rfl, rfl, rfl, rfl, rfl, rfl, rfl,
        by simp only [collectRes]; omega, rfl⟩⟩

/-- a flash loan requested while a loan is in flight is refused (the loan-counter guard: `run` checks `s.ctr ≠ 0` before the counter is raised) -/
theorem loanFrom_ctr (s : St) (n : Nat) (cb : List Act) (h : s.ctr ≠ 0) : loanFrom s n cb = none := by
  unfold loanFrom
  rw [run]
  simp [h]

theorem run_deposit_refused {s : St} (hI : CbInv s) (n : Nat) : run s (.deposit n) = none := by
  rw [run_deposit, deposit_ctr _ _ _ _ hI.ctrPos]

theorem run_loan_refused {s : St} (hI : CbInv s) (n : Nat) (cb : List Act) : run s (.loan n cb) = none := by
  rw [run_loan, loanFrom_ctr _ _ _ hI.ctrPos]

theorem run_cb {s s' : St} {a : Act} (hI : CbInv s) (h : run s a = some s') : CbInv s' ∧ CbRel s s' := by
  cases a with
  | pay n => exact payIn_cb hI (by omega) (run_pay s n ▸ h)
  | deposit n => rw [run_deposit_refused hI] at h; cases h
  | withdraw lp => exact withdraw_cb hI (by omega) (run_withdraw s lp ▸ h)
  | collect => exact collect_cb hI (run_collect s ▸ h)
  | transferOut dst n =>
    rw [run_transferOut, transferOut_eq] at h
    split_ifs at h
    exact move_cb hI (by omega) (by omega) h
  | fail => rw [run_fail] at h; cases h
  | loan n cb => rw [run_loan_refused hI] at h; cases h

theorem runs_cb {s s' : St} {as : List Act} (hI : CbInv s) (h : runs s as = some s') :
    CbInv s' ∧ CbRel s s' := by
  induction as generalizing s with
  | nil => rw [runs_nil] at h; injection h with h; subst h; exact ⟨hI, CbRel.refl _⟩
  | cons a as ih =>
    cases h1 : run s a with
    | none => rw [runs_cons_none as h1] at h; cases h
    | some s1 =>
      rw [runs_cons_some as h1] at h
      obtain ⟨hI1, r1⟩ := run_cb hI h1
      obtain ⟨hI2, r2⟩ := ih hI1 h
      exact ⟨hI2, r1.trans r2⟩

theorem runs_refused {a : Act} (ha : ∀ s, CbInv s → run s a = none) {s : St} {as : List Act}
    (hI : CbInv s) (hmem : a ∈ as) : runs s as = none := by
  induction as generalizing s with
  | nil => cases hmem
  | cons b as ih =>
    cases h1 : run s b with
    | none => exact runs_cons_none as h1
    | some s1 =>
      rw [runs_cons_some as h1]
      rcases List.mem_cons.mp hmem with rfl | hm
      · rw [ha s hI] at h1; cases h1
      · exact ih (run_cb hI h1).1 hm

theorem afterTradeOk_iff {s : St} {old amount : Nat} : afterTradeOk s old amount = true ↔
    old + fee s.fees.prot amount + fee s.fees.flash amount + fee s.fees.burn amount ≤ U128MAX ∧
    old + fee s.fees.prot amount + fee s.fees.flash amount + fee s.fees.burn amount ≤ s.bal ∧
    s.pend + fee s.fees.prot amount ≤ U128MAX ∧ s.allTime + fee s.fees.prot amount ≤ U128MAX ∧
    s.burned + fee s.fees.burn amount ≤ U128MAX := by
  simp [afterTradeOk, and_assoc]

theorem afterTrade_eq_some {s s' : St} {old amount : Nat} : afterTrade s old amount = some s' ↔
    afterTradeOk s old amount = true ∧ s' = afterTradeRes s amount := ite_some_eq_some

/-- everything a successful flash loan guarantees (top level: the counter is zero before) -/
structure LoanSpec (s s' : St) (amount : Nat) : Prop where
  inv : Inv s'
  balGe : s.bal + fee s.fees.prot amount + fee s.fees.flash amount ≤ s'.bal
  pendLe : s'.pend ≤ s.pend + fee s.fees.prot amount
  allTime : s'.allTime = s.allTime + fee s.fees.prot amount
  burned : s'.burned = s.burned + fee s.fees.burn amount
  assetSupply : s'.assetSupply + fee s.fees.burn amount = s.assetSupply
  supLe : s'.sup ≤ s.sup
  ctr : s'.ctr = 0
  fees : s'.fees = s.fees
  lpVault : s'.lpVault = s.lpVault
  ledger : s'.pend + s'.sent = s.pend + s.sent + fee s.fees.prot amount
  jb : s'.jb = s.jb

theorem LoanSpec.backing_le {s s' : St} {amount : Nat} (L : LoanSpec s s' amount) (hI : Inv s) :
    backing s ≤ backing s' := by
  have := L.balGe; have := L.pendLe; have := hI.pendLe
  unfold backing; omega

theorem LoanSpec.price {s s' : St} {amount : Nat} (L : LoanSpec s s' amount) (hI : Inv s) :
    backing s * s'.sup ≤ backing s' * s.sup := Nat.mul_le_mul (L.backing_le hI) L.supLe

/-- the common tail of every flash loan: whatever happened since the counter was raised preserved
    `CbInv`/`CbRel`, and `after_trade` accepted -/
theorem loan_tail {s s2 s' : St} {amount : Nat} (hI : Inv s) (hI2 : CbInv s2)
    (r : CbRel { s with ctr := s.ctr + 1 } s2) (h : afterTrade s2 s.bal amount = some s') :
    LoanSpec s s' amount := by
  obtain ⟨hok, rfl⟩ := afterTrade_eq_some.mp h
  have hf : s2.fees = s.fees := r.fees
  -- `NegativeProfit`: the balance covers the old balance and the three fees
  have hneed := (afterTradeOk_iff.mp hok).2.1
  rw [hf] at hneed
  have hbal := Nat.le_sub_of_add_le hneed
  have hburn : fee s.fees.burn amount ≤ s2.bal := (Nat.le_add_left ..).trans hneed
  have hpend : s2.pend ≤ s.pend := r.pend
  have hctr : s2.ctr - 1 = 0 := (congrArg (· - 1) r.ctr).trans hI.ctr0
  unfold afterTradeRes
  rw [hf]
  exact {
    inv := {
      abLen := hI2.abLen
      lbLen := hI2.lbLen
      pendLe := (Nat.add_le_add_right (hpend.trans hI.pendLe) _).trans ((Nat.le_add_right ..).trans hbal)
      assetSum := (Nat.sub_add_comm hburn).symm.trans (congrArg (· - _) hI2.assetSum)
      lpSum := hI2.lpSum
      -- supply can only have shrunk by user withdrawals, the vault's own LP is untouched
      locked := hI.locked.imp (fun ⟨h0, h1⟩ => ⟨Nat.le_zero.mp (h0 ▸ r.sup), r.lpVault.trans h1⟩)
        r.lpVault.trans
      ctr0 := hctr }
    balGe := hbal
    pendLe := Nat.add_le_add_right hpend _
    allTime := congrArg (· + _) r.allTime
    burned := congrArg (· + _) r.burned
    assetSupply := (Nat.sub_add_cancel (hburn.trans (hI2.assetSum ▸ Nat.le_add_right ..))).trans r.assetSupply
    supLe := r.sup
    ctr := hctr
    fees := rfl
    lpVault := r.lpVault
    ledger := (Nat.add_right_comm ..).trans (congrArg (· + _) r.ledgerSum)
    jb := r.jb }

/-- the vault's guards in front of a flash loan, direct or through the router: loans are enabled and none
    is in flight; the 32-bit bound on the counter then holds by itself -/
theorem loanGuard_eq_some {α : Type} {flOn : Bool} {ctr : Nat} {x : Option α} {a : α} :
    (if !flOn then none else if ctr ≠ 0 then none else if ctr + 1 > 4294967295 then none else x) = some a ↔
      flOn = true ∧ ctr = 0 ∧ x = some a := by
  cases flOn
  · simp
  · by_cases hc : ctr = 0
    · simp [hc]
    · simp [hc]

theorem loanFrom_eq_some {s s' : St} {amount : Nat} {cb : List Act} : loanFrom s amount cb = some s' ↔
    s.flOn = true ∧ s.ctr = 0 ∧ ∃ s1 s2, payOut { s with ctr := s.ctr + 1 } 3 amount = some s1 ∧
      runs s1 cb = some s2 ∧ afterTrade s2 s.bal amount = some s' := by
  unfold loanFrom
  rw [run, loanGuard_eq_some]
  refine and_congr_right fun _ => and_congr_right fun _ =>
    ⟨fun h => ?_, fun ⟨s1, s2, hp, hr, hat⟩ => by simp only [hp, hr, hat]⟩
  split at h
  · cases h
  rename_i s1 hp
  split at h
  · cases h
  rename_i s2 hr
  exact ⟨s1, s2, hp, hr, h⟩

theorem loan_spec {s s' : St} {amount : Nat} {cb : List Act} (hI : Inv s)
    (h : loanFrom s amount cb = some s') : LoanSpec s s' amount := by
  obtain ⟨_, _, s1, s2, hp, hr, hat⟩ := loanFrom_eq_some.mp h
  obtain ⟨hI1, r1⟩ := payOut_cb hI.cbStart (by omega) hp
  obtain ⟨hI2, r2⟩ := runs_cb hI1 hr
  exact loan_tail hI hI2 (r1.trans r2) hat

theorem runs_single (s : St) (a : Act) : runs s [a] = run s a := by
  cases h : run s a with
  | none => exact runs_cons_none [] h
  | some s1 => rw [runs_cons_some [] h, runs_nil]

theorem pay_only {s : St} {amount x : Nat} (hab : s.ab.length = 6)
    (h1 : ¬((amount = 0 ∧ s.kind = 0) ∨ s.bal < amount))
    (h2 : ¬((x = 0 ∧ s.kind = 0) ∨ getN s.ab 3 + amount < x)) :
    ∃ t1 t2, payOut { s with ctr := s.ctr + 1 } 3 amount = some t1 ∧ runs t1 [.pay x] = some t2 ∧
      t2.bal + amount = s.bal + x := by
  obtain ⟨t1, hp⟩ : ∃ t1, payOut { s with ctr := s.ctr + 1 } 3 amount = some t1 := ⟨_, if_neg h1⟩
  obtain ⟨_, ht1⟩ := payOut_eq_some.mp hp
  have hk : t1.kind = s.kind := by rw [ht1]
  have h3 : getN t1.ab 3 = getN s.ab 3 + amount := by
    rw [ht1]; exact getN_setN_same _ _ _ (show 3 < s.ab.length by omega)
  have hb : t1.bal = s.bal - amount := by rw [ht1]
  obtain ⟨t2, hm⟩ : ∃ t2, payIn t1 3 x = some t2 := ⟨_, if_neg (by rw [hk, h3]; exact h2)⟩
  have hb2 : t2.bal = t1.bal + x := by rw [(payIn_eq_some.mp hm).2]
  exact ⟨t1, t2, hp, by rw [runs_single, run_pay]; exact hm, by omega⟩

theorem loanFrom_refused {a : Act} (ha : ∀ t, CbInv t → run t a = none) {s : St} {amount : Nat}
    {cb : List Act} (hI : Inv s) (hmem : a ∈ cb) : loanFrom s amount cb = none := by
  cases h : loanFrom s amount cb with
  | none => rfl
  | some s' =>
    obtain ⟨_, _, s1, s2, hp, hr, _⟩ := loanFrom_eq_some.mp h
    rw [runs_refused ha (payOut_cb hI.cbStart (by omega) hp).1 hmem] at hr
    cases hr

/-- everything the router's `CompleteLoan` does (`i` = the initiator, not the router itself).
    `s' = { s with ab := s'.ab, bal := … }` says that no other field moved. -/
theorem completeLoan_spec {s s' : St} {i n : Nat} (hab : s.ab.length = 6) (hi : i < 5)
    (h : completeLoan s i n = some s') :
    payback s n ≤ getN s.ab 5 ∧ s' = { s with ab := s'.ab, bal := s.bal + payback s n } ∧
    s'.ab.length = 6 ∧ s'.ab.sum + payback s n = s.ab.sum ∧
    getN s'.ab 5 = 0 ∧ getN s'.ab i = getN s.ab i + (getN s.ab 5 - payback s n) ∧
    (∀ j, j ≠ 5 → j ≠ i → getN s'.ab j = getN s.ab j) := by
  unfold completeLoan at h
  generalize payback s n = pb at *
  have h5 : 5 < s.ab.length := by omega
  cases hp : payIn s 5 pb with
  | none => simp [hp] at h
  | some s1 =>
    obtain ⟨hg, rfl⟩ := payIn_eq_some.mp hp
    have hge : pb ≤ getN s.ab 5 := by omega
    have hsum := setN_sub_sum h5 hge
    have hlen := (setN_length s.ab 5 (getN s.ab 5 - pb)).trans hab
    have hg5 := getN_setN_same s.ab 5 (getN s.ab 5 - pb) h5
    simp only [hp] at h
    generalize getN s.ab 5 - pb = r at *
    split_ifs at h with h1 h2 h0
    · -- nothing is left over
      obtain rfl := Option.some.inj h
      exact ⟨hge, rfl, hlen, hsum, hg5.trans h0, (getN_setN_ne _ _ _ _ (by omega)).trans (h0 ▸ rfl),
        fun j hj _ => getN_setN_ne _ _ _ _ hj.symm⟩
    · -- the rest, which is all the router still holds, goes to the initiator
      obtain ⟨_, rfl⟩ := move_eq_some.mp h
      refine ⟨hge, rfl, (lmove_length ..).trans hlen, ?_, ?_, ?_, fun j h5 hi => ?_⟩
      all_goals dsimp only
      · rw [lmove_sum _ _ _ _ (by omega) (by omega) hg5.ge]; exact hsum
      · rw [lmove_src _ _ _ _ (by omega) (by omega), hg5, Nat.sub_self]
      · rw [lmove_dst _ _ _ _ (by omega) (by omega), getN_setN_ne _ _ _ _ (by omega)]
      · rw [lmove_other _ _ _ _ _ h5 hi, getN_setN_ne _ _ _ _ h5.symm]

theorem completeLoan_cb {s s' : St} {i n : Nat} (hI : CbInv s) (hi : i < 5)
    (h : completeLoan s i n = some s') : CbInv s' ∧ CbRel s s' := by
  obtain ⟨_, heq, hlen, hsum, _⟩ := completeLoan_spec hI.abLen hi h
  rw [heq]
  exact hI.rearrange hlen (by omega)

theorem completeLoan_some {s : St} {i n : Nat} (hab : s.ab.length = 6)
    (hmax : payback s n ≤ U128MAX) (hge : payback s n ≤ getN s.ab 5) (hpos : 0 < payback s n) :
    ∃ s', completeLoan s i n = some s' := by
  unfold completeLoan
  generalize payback s n = pb at *
  have h5 : 5 < s.ab.length := by rw [hab]; omega
  have hg5 : getN (setN s.ab 5 (getN s.ab 5 - pb)) 5 = getN s.ab 5 - pb := getN_setN_same _ _ _ h5
  -- the quote fits 128 bits and the router holds it; the transfer is not empty
  rw [if_neg (by omega), if_neg (by omega)]
  unfold payIn
  rw [if_neg (by omega)]
  simp only []
  split
  · exact ⟨_, rfl⟩
  · rename_i hne
    unfold move
    rw [if_neg (by simp only [hg5]; omega)]
    exact ⟨_, rfl⟩

theorem rrun_fund (s : St) (n : Nat) : rrun s (.fund n) = move s 3 5 n := by simp only [rrun]
theorem rrun_out (s : St) (dst n : Nat) :
    rrun s (.out dst n) = if dst ≥ 3 then none else move s 5 dst n := by simp only [rrun]
theorem rrun_pay (s : St) (n : Nat) : rrun s (.pay n) = payIn s 5 n := by simp only [rrun]
theorem rrun_collect (s : St) : rrun s .collect = collect s := by simp only [rrun]
theorem rrun_deposit (s : St) (n : Nat) : rrun s (.deposit n) = deposit s 5 n n := by simp only [rrun]
theorem rrun_fail (s : St) : rrun s .fail = none := by simp only [rrun]
theorem rrun_adv (s : St) (acts : List Act) : rrun s (.adv acts) = runs s acts := by simp only [rrun]
theorem rrun_complete (s : St) (i n : Nat) :
    rrun s (.complete i n) = if i ≥ 4 then none else completeLoan s i n := by simp only [rrun]
theorem rrun_routerLoan (s : St) (i n : Nat) (p : List RAct) :
    rrun s (.routerLoan i n p) = routerLoanFrom s i n p := rfl
theorem rruns_nil (s : St) : rruns s [] = some s := by simp only [rruns]
theorem rruns_cons_none {s : St} {a : RAct} (as : List RAct) (h : rrun s a = none) :
    rruns s (a :: as) = none := by
  rw [rruns, h]
theorem rruns_cons_some {s s1 : St} {a : RAct} (as : List RAct) (h : rrun s a = some s1) :
    rruns s (a :: as) = rruns s1 as := by
  rw [rruns, h]

/-- a successful router flash loan, taken apart and put together: the vault's guards passed, the loan
    went to the router (`s1`), the payload ran (`s2`), `CompleteLoan` ran (`s3`), and `after_trade`
    accepted -/
theorem routerLoanFrom_eq_some {s s' : St} {i amount : Nat} {payload : List RAct} :
    routerLoanFrom s i amount payload = some s' ↔
    s.flOn = true ∧ s.ctr = 0 ∧ ∃ s1 s2 s3,
      payOut { s with ctr := s.ctr + 1 } 5 amount = some s1 ∧ rruns s1 payload = some s2 ∧
      completeLoan s2 i amount = some s3 ∧ afterTrade s3 s.bal amount = some s' := by
  unfold routerLoanFrom
  rw [rrun, loanGuard_eq_some]
  refine and_congr_right fun _ => and_congr_right fun _ =>
    ⟨fun h => ?_, fun ⟨s1, s2, s3, hp, hr, hc, hat⟩ => by simp only [hp, hr, hc, hat]⟩
  split at h
  · cases h
  rename_i s1 hp
  split at h
  · cases h
  rename_i s2 hr
  split at h
  · cases h
  rename_i s3 hc
  exact ⟨s1, s2, s3, hp, hr, hc, h⟩

/-- a router flash loan requested while a loan is in flight is refused by the vault -/
theorem routerLoanFrom_ctr (s : St) (i n : Nat) (p : List RAct) (h : s.ctr ≠ 0) :
    routerLoanFrom s i n p = none := by
  unfold routerLoanFrom
  rw [rrun]
  simp [h]

theorem rrun_deposit_refused {s : St} (hI : CbInv s) (n : Nat) : rrun s (.deposit n) = none := by
  rw [rrun_deposit, deposit_ctr _ _ _ _ hI.ctrPos]

theorem rrun_routerLoan_refused {s : St} (hI : CbInv s) (i n : Nat) (p : List RAct) :
    rrun s (.routerLoan i n p) = none := by
  rw [rrun_routerLoan, routerLoanFrom_ctr _ _ _ _ hI.ctrPos]

theorem rrun_cb {s s' : St} {a : RAct} (hI : CbInv s) (h : rrun s a = some s') :
    CbInv s' ∧ CbRel s s' := by
  cases a with
  | fund n => rw [rrun_fund] at h; exact move_cb hI (by omega) (by omega) h
  | out dst n =>
    rw [rrun_out] at h
    split at h
    · cases h
    · exact move_cb hI (by omega) (by omega) h
  | pay n => rw [rrun_pay] at h; exact payIn_cb hI (by omega) h
  | collect => rw [rrun_collect] at h; exact collect_cb hI h
  | deposit n => rw [rrun_deposit_refused hI] at h; cases h
  | fail => rw [rrun_fail] at h; cases h
  | adv acts => rw [rrun_adv] at h; exact runs_cb hI h
  | complete i n =>
    rw [rrun_complete] at h
    split at h
    · cases h
    · exact completeLoan_cb hI (by omega) h
  | routerLoan i n p => rw [rrun_routerLoan_refused hI] at h; cases h

/-- the payload's mirror of `runs_cb` -/
theorem rruns_cb {s s' : St} {as : List RAct} (hI : CbInv s) (h : rruns s as = some s') :
    CbInv s' ∧ CbRel s s' := by
  induction as generalizing s with
  | nil => rw [rruns_nil] at h; injection h with h; subst h; exact ⟨hI, CbRel.refl _⟩
  | cons a as ih =>
    cases h1 : rrun s a with
    | none => rw [rruns_cons_none as h1] at h; cases h
    | some s1 =>
      rw [rruns_cons_some as h1] at h
      obtain ⟨hI1, r1⟩ := rrun_cb hI h1
      obtain ⟨hI2, r2⟩ := ih hI1 h
      exact ⟨hI2, r1.trans r2⟩

/-- the payload's mirror of `runs_refused` -/
theorem rruns_refused {a : RAct} (ha : ∀ s, CbInv s → rrun s a = none) {s : St} {as : List RAct}
    (hI : CbInv s) (hmem : a ∈ as) : rruns s as = none := by
  induction as generalizing s with
  | nil => cases hmem
  | cons b as ih =>
    cases h1 : rrun s b with
    | none => exact rruns_cons_none as h1
    | some s1 =>
      rw [rruns_cons_some as h1]
      rcases List.mem_cons.mp hmem with rfl | hm
      · rw [ha s hI] at h1; cases h1
      · exact ih (rrun_cb hI h1).1 hm

/-- the router's mirror of `loanFrom_refused` -/
theorem routerLoanFrom_refused {a : RAct} (ha : ∀ t, CbInv t → rrun t a = none) {s : St} {i amount : Nat}
    {payload : List RAct} (hI : Inv s) (hmem : a ∈ payload) : routerLoanFrom s i amount payload = none := by
  cases h : routerLoanFrom s i amount payload with
  | none => rfl
  | some s' =>
    obtain ⟨_, _, s1, s2, _, hp, hr, _⟩ := routerLoanFrom_eq_some.mp h
    rw [rruns_refused ha (payOut_cb hI.cbStart (by omega) hp).1 hmem] at hr
    cases hr

theorem rruns_single (s : St) (a : RAct) : rruns s [a] = rrun s a := by
  cases h : rrun s a with
  | none => exact rruns_cons_none [] h
  | some s1 => rw [rruns_cons_some [] h, rruns_nil]

theorem fund_only_some {s : St} {amount x : Nat} (h1 : ¬((amount = 0 ∧ s.kind = 0) ∨ s.bal < amount))
    (h2 : ¬((x = 0 ∧ s.kind = 0) ∨ getN s.ab 3 < x)) :
    ∃ t1 t2, payOut { s with ctr := s.ctr + 1 } 5 amount = some t1 ∧ rruns t1 [.fund x] = some t2 := by
  obtain ⟨t1, hp⟩ : ∃ t1, payOut { s with ctr := s.ctr + 1 } 5 amount = some t1 := ⟨_, if_neg h1⟩
  obtain ⟨_, ht1⟩ := payOut_eq_some.mp hp
  have hk : t1.kind = s.kind := by rw [ht1]
  have h3 : getN t1.ab 3 = getN s.ab 3 := by rw [ht1]; exact getN_setN_ne _ _ _ _ (by omega)
  obtain ⟨t2, hm⟩ : ∃ t2, move t1 3 5 x = some t2 := ⟨_, if_neg (by rw [hk, h3]; exact h2)⟩
  exact ⟨t1, t2, hp, by rw [rruns_single, rrun_fund]; exact hm⟩

theorem fund_only_spec {s t1 t2 : St} {amount x : Nat} (hab : s.ab.length = 6)
    (hp : payOut { s with ctr := s.ctr + 1 } 5 amount = some t1) (hr : rruns t1 [.fund x] = some t2) :
    t2.bal + amount = s.bal ∧ t2.ab.length = 6 ∧ getN t2.ab 5 = getN s.ab 5 + amount + x ∧
    getN t2.ab 3 + x = getN s.ab 3 ∧ ∀ j, j ≠ 3 → j ≠ 5 → getN t2.ab j = getN s.ab j := by
  obtain ⟨ht1, hle, _, hlen1⟩ := payOut_spec (s := { s with ctr := s.ctr + 1 }) hab (by omega) hp
  rw [rruns_single, rrun_fund] at hr
  obtain ⟨g, ht2⟩ := move_eq_some.mp hr
  have e1 : t1.ab = setN s.ab 5 (getN s.ab 5 + amount) := by rw [ht1]
  have e1b : t1.bal = s.bal - amount := by rw [ht1]
  have e2 : t2.ab = lmove t1.ab 3 5 x := by rw [ht2]
  have e2b : t2.bal = t1.bal := by rw [ht2]
  have hle' : amount ≤ s.bal := hle
  have h13 : getN t1.ab 3 = getN s.ab 3 := by rw [e1]; exact getN_setN_ne _ _ _ _ (by omega)
  refine ⟨by omega, by rw [e2, lmove_length]; exact hlen1, ?_, ?_, fun j h3 h5 => ?_⟩
  · rw [e2, lmove_dst _ _ _ _ (by omega) (by omega), e1, getN_setN_same _ _ _ (by omega)]
  · rw [e2, lmove_src _ _ _ _ (by omega) (by omega), h13]; omega
  · rw [e2, lmove_other _ _ _ _ _ h3 h5, e1, getN_setN_ne _ _ _ _ h5.symm]

/-- `CompleteLoan` and `after_trade` at the end of a router loan: the router pays the quote under the
    fees in force, forwards all it has left to the initiator and keeps nothing; `after_trade` burns the
    burn fee out of the vault -/
theorem completeLoan_settle {s s2 s3 s' : St} {i amount old : Nat} (hlen : s2.ab.length = 6)
    (hf : s2.fees = s.fees) (hi : i < 5) (hcl : completeLoan s2 i amount = some s3)
    (hat : afterTrade s3 old amount = some s') :
    payback s2 amount = payback s amount ∧ payback s amount ≤ getN s2.ab 5 ∧
    s3.bal = s2.bal + payback s amount ∧
    s'.bal + fee s.fees.burn amount = s2.bal + payback s amount ∧
    getN s'.ab i = getN s2.ab i + (getN s2.ab 5 - payback s amount) ∧ getN s'.ab 5 = 0 ∧
    (∀ j, j ≠ 5 → j ≠ i → getN s'.ab j = getN s2.ab j) := by
  have hpb := payback_congr hf amount
  obtain ⟨hge, heq, _, _, h5, hi', hoth⟩ := completeLoan_spec hlen hi hcl
  have e_bal : s3.bal = s2.bal + payback s2 amount := by rw [heq]
  have e_f3 : s3.fees = s.fees := by rw [heq]; exact hf
  obtain ⟨hok, hs'⟩ := afterTrade_eq_some.mp hat
  have e_ab : s'.ab = s3.ab := by rw [hs']; rfl
  have e_b' : s'.bal = s3.bal - fee s3.fees.burn amount := by rw [hs']; rfl
  have hneed := (afterTradeOk_iff.mp hok).2.1
  rw [hpb] at hge e_bal hi'
  rw [e_f3] at hneed e_b'
  exact ⟨hpb, hge, e_bal, by omega, e_ab ▸ hi', e_ab ▸ h5, fun j h1 h2 => e_ab ▸ hoth j h1 h2⟩

/-- a router flash loan satisfies the same specification as a direct one -/
theorem router_loan_spec {s s' : St} {i amount : Nat} {payload : List RAct} (hI : Inv s) (hi : i < 5)
    (h : routerLoanFrom s i amount payload = some s') : LoanSpec s s' amount := by
  obtain ⟨_, _, s1, s2, s3, hp, hr, hcl, hat⟩ := routerLoanFrom_eq_some.mp h
  obtain ⟨hI1, r1⟩ := payOut_cb hI.cbStart (by omega) hp
  obtain ⟨hI2, r2⟩ := rruns_cb hI1 hr
  obtain ⟨hI3, r3⟩ := completeLoan_cb hI2 hi hcl
  exact loan_tail hI hI3 ((r1.trans r2).trans r3) hat

/-! ### stray coins attached to a message (`Op.attach`): their arrival, like any other gift to the
    vault, is at most a donation -/

/-- what the arrival of stray coins does to the vault: at most a donation. The invariant holds, the
    vault's balance does not fall, every ledger, the share supply and all share balances are untouched. -/
structure ArriveSpec (s s1 : St) : Prop where
  inv : Inv s1
  balGe : s.bal ≤ s1.bal
  pend : s1.pend = s.pend
  sup : s1.sup = s.sup
  lpVault : s1.lpVault = s.lpVault
  lb : s1.lb = s.lb
  sent : s1.sent = s.sent
  allTime : s1.allTime = s.allTime
  burned : s1.burned = s.burned
  assetSupply : s1.assetSupply = s.assetSupply
  fees : s1.fees = s.fees
  kind : s1.kind = s.kind
  toggles : s1.depOn = s.depOn ∧ s1.wdOn = s.wdOn ∧ s1.flOn = s.flOn

theorem ArriveSpec.backing_le {s s1 : St} (A : ArriveSpec s s1) : backing s ≤ backing s1 := by
  have := A.balGe; have := A.pend
  unfold backing; omega

theorem ArriveSpec.price {s s1 : St} (A : ArriveSpec s s1) : backing s * s1.sup ≤ backing s1 * s.sup := by
  rw [A.sup]; exact Nat.mul_le_mul_right _ A.backing_le

/-- the asset changing hands with nothing leaving the vault, and whatever happens to the unrelated
    denom, is at most a donation -/
theorem Inv.donated {s : St} (hI : Inv s) {ab jb : List Nat} {bal : Nat} (hlen : ab.length = 6)
    (hsum : bal + ab.sum = s.bal + s.ab.sum) (hbal : s.bal ≤ bal) :
    ArriveSpec s { s with ab := ab, bal := bal, jb := jb } :=
  ⟨⟨hlen, hI.lbLen, hI.pendLe.trans hbal, hsum.trans hI.assetSum, hI.lpSum, hI.locked, hI.ctr0⟩, hbal,
    rfl, rfl, rfl, rfl, rfl, rfl, rfl, rfl, rfl, rfl, ⟨rfl, rfl, rfl⟩⟩

theorem payIn_donated {s s' : St} {a n : Nat} (hI : Inv s) (ha : a < 6) (h : payIn s a n = some s') :
    ArriveSpec s s' := by
  obtain ⟨rfl, _, hsum, hlen⟩ := payIn_spec hI.abLen ha h
  exact hI.donated hlen hsum (Nat.le_add_right ..)

theorem move_donated {s s' : St} {src dst n : Nat} (hI : Inv s) (hs : src < 6) (hd : dst < 6)
    (h : move s src dst n = some s') : ArriveSpec s s' := by
  obtain ⟨rfl, _, hsum, hlen⟩ := move_spec hI.abLen hs hd h
  exact hI.donated hlen hsum (le_refl _)

theorem step_attach (s : St) (who sel n : Nat) (op : Op) :
    step s (.attach who sel n op) =
      match op.recv with
      | none => none
      | some dst =>
        if sel = 0 ∧ op.isDeposit = true then none else
        match arrive s who sel n dst with
        | none => none
        | some s1 => step s1 op := by
  rw [step]
  rfl

/-- a successful message with coins attached, taken apart: the coins arrived at the receiving
    contract (`s1`), then the message itself ran from `s1` -/
theorem attach_parts {s s' : St} {who sel n : Nat} {op : Op}
    (h : step s (.attach who sel n op) = some s') :
    ∃ dst s1, op.recv = some dst ∧ ¬ (sel = 0 ∧ op.isDeposit = true) ∧
      arrive s who sel n dst = some s1 ∧ step s1 op = some s' := by
  rw [step_attach] at h
  split at h
  · cases h
  · rename_i dst hr
    split at h
    · cases h
    · rename_i hnd
      split at h
      · cases h
      · rename_i s1 ha
        exact ⟨dst, s1, hr, hnd, ha, h⟩

theorem attach_of_parts {s s1 : St} {who sel n dst : Nat} {op : Op} (hr : op.recv = some dst)
    (hnd : ¬ (sel = 0 ∧ op.isDeposit = true)) (ha : arrive s who sel n dst = some s1) :
    step s (.attach who sel n op) = step s1 op := by
  rw [step_attach, hr]
  simp only
  rw [if_neg hnd, ha]

/-- coins of the vault asset's own denom: a plain transfer, to the vault or to the router, by one of
    the accounts 0..3 (native asset, non-empty coin) -/
theorem arrive_own {s s1 : St} {who n dst : Nat} (h : arrive s who 0 n dst = some s1) :
    (if dst = 0 then payIn s who n else move s who 5 n) = some s1 ∧ who < 4 ∧ s.kind = 0 ∧ n ≠ 0 := by
  unfold arrive at h
  rw [if_pos rfl] at h
  split_ifs at h with hn hk h0 <;> exact ⟨by simpa [h0] using h, by omega, by omega, hn⟩

/-- coins of an unrelated denom: nothing but the junk balances changes -/
theorem arrive_junk {s s1 : St} {who sel n dst : Nat} (hsel : sel ≠ 0)
    (h : arrive s who sel n dst = some s1) :
    s1 = { s with jb := lmove s.jb who (if dst = 0 then 7 else 5) n } ∧ n ≤ getN s.jb who ∧
    (who < 4 ∨ who = 6) ∧ n ≠ 0 := by
  unfold arrive at h
  rw [if_neg hsel] at h
  split at h
  · cases h
  rename_i hn
  split at h
  · cases h
  injection h with h
  exact ⟨h.symm, by omega, by omega, hn⟩

theorem arrive_spec {s s1 : St} {who sel n dst : Nat} (hI : Inv s)
    (h : arrive s who sel n dst = some s1) : ArriveSpec s s1 := by
  by_cases hsel : sel = 0
  · subst hsel
    obtain ⟨h, hw, _, _⟩ := arrive_own h
    split_ifs at h
    · exact payIn_donated hI (by omega) h
    · exact move_donated hI (by omega) (by omega) h
  · obtain ⟨rfl, _⟩ := arrive_junk hsel h
    exact hI.donated hI.abLen rfl (le_refl _)

/-- the unrelated denom only ever moves from a sender to the vault (entry 7) or the router (entry 5):
    no handler of either contract ever sends it anywhere -/
structure JRel (s s' : St) : Prop where
  len : s'.jb.length = s.jb.length
  sum : s'.jb.sum = s.jb.sum
  le : ∀ a, a ≠ 5 → a ≠ 7 → getN s'.jb a ≤ getN s.jb a
  router : getN s.jb 5 ≤ getN s'.jb 5
  vault : getN s.jb 7 ≤ getN s'.jb 7

theorem JRel.of_eq {s s' : St} (h : s'.jb = s.jb) : JRel s s' :=
  ⟨by rw [h], by rw [h], fun a _ _ => by rw [h], by rw [h], by rw [h]⟩

theorem JRel.trans {a b c : St} (h1 : JRel a b) (h2 : JRel b c) : JRel a c :=
  ⟨h2.len.trans h1.len, h2.sum.trans h1.sum, fun x h5 h7 => le_trans (h2.le x h5 h7) (h1.le x h5 h7),
   le_trans h1.router h2.router, le_trans h1.vault h2.vault⟩

theorem arrive_jrel {s s1 : St} {who sel n dst : Nat} (hj : s.jb.length = 8)
    (h : arrive s who sel n dst = some s1) : JRel s s1 := by
  by_cases hsel : sel = 0
  · subst hsel
    obtain ⟨h, _⟩ := arrive_own h
    split_ifs at h
    · obtain ⟨_, rfl⟩ := payIn_eq_some.mp h
      exact JRel.of_eq rfl
    · obtain ⟨_, rfl⟩ := move_eq_some.mp h
      exact JRel.of_eq rfl
  · obtain ⟨rfl, hn, hw, _⟩ := arrive_junk hsel h
    have hd : (if dst = 0 then 7 else 5) < s.jb.length := by rw [hj]; split <;> omega
    have hne : who ≠ (if dst = 0 then 7 else 5) := by split <;> omega
    have hd57 : (if dst = 0 then 7 else 5) = 7 ∨ (if dst = 0 then 7 else 5) = 5 := by split <;> omega
    generalize (if dst = 0 then 7 else 5) = d at *
    have hws : who < s.jb.length := by rw [hj]; omega
    exact ⟨lmove_length .., lmove_sum _ _ _ _ hws hd hn,
      fun a h5 h7 => lmove_le _ _ _ _ _ hws hne (by omega),
      le_lmove _ _ _ _ _ hd hne (by omega), le_lmove _ _ _ _ _ hd hne (by omega)⟩

/-! ### `step` as a relation -/

/-- the successful cases of `step`, one per kind of message; what is refused outright is left out -/
inductive Step : St → Op → St → Prop
  | deposit {s s' : St} {who amount sent : Nat} (hw : who < 4) (h : deposit s who amount sent = some s') :
    Step s (.deposit who amount sent) s'
  | withdraw {s s' : St} {who lp : Nat} (hw : who < 4) (h : withdraw s who lp = some s') :
    Step s (.withdraw who lp) s'
  | collect {s s' : St} (h : collect s = some s') : Step s .collect s'
  | setFees {s : St} {f : VFees} (hv : f.valid = true) : Step s (.setFees f) { s with fees := f }
  | setToggles {s : St} {d w f : Bool} : Step s (.setToggles d w f) { s with depOn := d, wdOn := w, flOn := f }
  | loan {s s' : St} {amount : Nat} {cb : List Act} (h : loanFrom s amount cb = some s') :
    Step s (.loan amount cb) s'
  | donate {s s' : St} {who n : Nat} (hw : who < 4) (h : payIn s who n = some s') : Step s (.donate who n) s'
  | routerLoan {s s' : St} {i amount : Nat} {p : List RAct} (hi : i < 4)
    (h : routerLoanFrom s i amount p = some s') : Step s (.routerLoan i amount p) s'
  | routerLoanNone {s : St} {who : Nat} {p : List RAct} : Step s (.routerLoanNone who p) s
  | fundRouter {s s' : St} {who n : Nat} (hw : who < 4) (h : move s who 5 n = some s') :
    Step s (.fundRouter who n) s'
  | attach {s s1 s' : St} {who sel n dst : Nat} {op : Op} (ha : arrive s who sel n dst = some s1)
    (h : Step s1 op s') : Step s (.attach who sel n op) s'

theorem Step.of_step {s s' : St} {op : Op} (h : step s op = some s') : Step s op s' := by
  induction op generalizing s s' with
  | deposit who amount sent =>
    rw [step] at h; split_ifs at h with hw; exact .deposit (by omega) h
  | withdraw who lp =>
    rw [step] at h; split_ifs at h with hw; exact .withdraw (by omega) h
  | collect => exact .collect h
  | setFees f =>
    obtain ⟨hv, rfl⟩ := ite_some_eq_some.mp h; exact .setFees hv
  | setToggles d w f => injection h with h; subst h; exact .setToggles
  | loan amount cb => exact .loan h
  | donate who n =>
    rw [step] at h; split_ifs at h with hw; exact .donate (by omega) h
  | routerLoan i amount p =>
    rw [step] at h; split_ifs at h with hi; exact .routerLoan (by omega) h
  | routerLoanNone who p => injection h with h; subst h; exact .routerLoanNone
  | fundRouter who n =>
    rw [step] at h; split_ifs at h with hw; exact .fundRouter (by omega) h
  | attach who sel n op ih =>
    obtain ⟨dst, s1, _, _, ha, hs⟩ := attach_parts h
    exact .attach ha (ih hs)
  | routerLoanMulti | nextLoanBy | completeLoanBy | foreign => cases h

theorem reach_induction {P : St → Prop} (hstep : ∀ s op s', P s → step s op = some s' → P s')
    {s : St} (h : P s) (ops : List Op) : P (reach s ops) := by
  induction ops generalizing s with
  | nil => exact h
  | cons op ops ih =>
    refine ih ?_
    unfold Vault.apply
    cases hs : step s op with
    | none => exact h
    | some s' => exact hstep s op s' h hs

/-- every successful operation preserves the invariant and does not lower the assets backing one share -/
theorem step_price {s s' : St} {op : Op} (hI : Inv s) (h : step s op = some s') :
    Inv s' ∧ (0 < s.sup → backing s * s'.sup ≤ backing s' * s.sup) := by
  have hS := Step.of_step h
  clear h
  induction hS with
  | deposit hw h => obtain ⟨hI', _, _, hp⟩ := deposit_spec hI hw h; exact ⟨hI', hp⟩
  | withdraw hw h => obtain ⟨hI', hp⟩ := withdraw_spec hI hw h; exact ⟨hI', fun _ => hp⟩
  | collect h => obtain ⟨hI', hb, hs, _⟩ := collect_spec hI h; exact ⟨hI', fun _ => by rw [hb, hs]⟩
  | setFees | setToggles | routerLoanNone =>
    exact ⟨⟨hI.abLen, hI.lbLen, hI.pendLe, hI.assetSum, hI.lpSum, hI.locked, hI.ctr0⟩, fun _ => le_refl _⟩
  | loan h => have L := loan_spec hI h; exact ⟨L.inv, fun _ => L.price hI⟩
  | routerLoan hi h => have L := router_loan_spec hI (by omega) h; exact ⟨L.inv, fun _ => L.price hI⟩
  | donate hw h => have A := payIn_donated hI (by omega) h; exact ⟨A.inv, fun _ => A.price⟩
  | fundRouter hw h => have A := move_donated hI (by omega) (by omega) h; exact ⟨A.inv, fun _ => A.price⟩
  | attach ha _ ih =>
    -- the stray coins arrive (at most a donation: backing does not fall, supply untouched), then the message runs
    have A := arrive_spec hI ha
    obtain ⟨hI', hp⟩ := ih A.inv
    refine ⟨hI', fun hpos => ?_⟩
    have h1 := hp (by rw [A.sup]; exact hpos)
    rw [A.sup] at h1
    exact le_trans (Nat.mul_le_mul_right _ A.backing_le) h1

theorem inv_reach {s : St} (hI : Inv s) (ops : List Op) : Inv (reach s ops) :=
  reach_induction (fun _ _ _ hI h => (step_price hI h).1) hI ops

/-- no operation of the vault or the router moves the unrelated denom, except that coins attached to
    a message land on (and stay with) the contract that receives it -/
theorem step_jrel {s s' : St} {op : Op} (hI : Inv s) (hj : s.jb.length = 8) (h : step s op = some s') :
    JRel s s' := by
  have hS := Step.of_step h
  clear h
  induction hS with
  | deposit _ h => obtain ⟨_, rfl⟩ := deposit_eq_some.mp h; exact .of_eq rfl
  | withdraw _ h => obtain ⟨_, _, _, rfl⟩ := withdraw_some h; exact .of_eq rfl
  | collect h => rcases collect_eq_some.mp h with ⟨_, rfl⟩ | ⟨_, _, rfl⟩ <;> exact .of_eq rfl
  | setFees | setToggles | routerLoanNone => exact .of_eq rfl
  | loan h => exact .of_eq (loan_spec hI h).jb
  | routerLoan hi h => exact .of_eq (router_loan_spec hI (by omega) h).jb
  | donate _ h => obtain ⟨_, rfl⟩ := payIn_eq_some.mp h; exact .of_eq rfl
  | fundRouter _ h => obtain ⟨_, rfl⟩ := move_eq_some.mp h; exact .of_eq rfl
  | attach ha _ ih =>
    have r1 := arrive_jrel hj ha
    exact r1.trans (ih (arrive_spec hI ha).inv (r1.len.trans hj))

end WW.Vault
