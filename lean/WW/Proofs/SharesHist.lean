/- C13 `shares_le_one`: what every handler does to (snapshots, weight history, address weights), the shares
   invariant through every transaction and every epoch-monotone history, and the step from weights that sum to
   at most the snapshot to rounded-down shares that sum to at most the emission. -/
import WW.Proofs.Shares
import WW.Proofs.Snapshot
namespace WW.Inc
open WW WW.Gen

/-- the four ways a transaction at `e.epoch` touches the weight bookkeeping -/
def WEff (s s' : St) (e : Env) : Prop :=
  (s'.snap = s.snap ∧ s'.whist = s.whist ∧ s'.addrW = s.addrW ∧ s'.global = s.global)
  ∨ (alook s.snap e.epoch = none ∧ s'.snap = aset s.snap e.epoch s.global ∧ s'.whist = s.whist
      ∧ s'.addrW = s.addrW ∧ s'.global = s.global)
  ∨ (s'.snap = snapOf s.snap s.global e.epoch
      ∧ ∃ r x, s'.addrW = aset s.addrW r x ∧ s'.whist = aset s.whist (r, e.epoch + 1) x)
  ∨ (s'.snap = s.snap ∧ alook s.snap e.epoch ≠ none ∧ s'.addrW = s.addrW ∧ s'.global = s.global
      ∧ ∃ u, s'.whist = aset (s.whist.filter (fun p => p.1.1 ≠ u)) (u, e.epoch + 1) (aget s.addrW u))

theorem handler_weff {c : Cfg} {s s' : St} {e : Env} {op : Op} {m : List Msg}
    (h : handler c s e op = .ok (s', m)) : WEff s s' e := by
  cases op with
  | openPos amt dur recv =>
    obtain ⟨w, rfl, _⟩ := openPosition_ok rfl h
    exact .inr (.inr (.inl ⟨rfl, _, _, rfl, rfl⟩))
  | expandPos amt dur recv =>
    obtain ⟨ps, p, w1, w0, rfl, _⟩ := expandPosition_ok rfl h
    exact .inr (.inr (.inl ⟨rfl, _, _, rfl, rfl⟩))
  | closePos dur =>
    obtain ⟨ps, p, w, rfl, _⟩ := closePosition_ok h
    exact .inr (.inr (.inl ⟨rfl, _, _, rfl, rfl⟩))
  | claim =>
    obtain ⟨hsn, h⟩ := claimExec_ok h
    obtain ⟨fl, rfl, _⟩ := claimCore_ok h
    exact .inr (.inr (.inr ⟨rfl, hsn, rfl, rfl, _, rfl⟩))
  | snapshot =>
    obtain ⟨rfl, _, hn⟩ := takeSnapshot_ok h
    exact .inr (.inl ⟨hn, rfl, rfl, rfl, rfl⟩)
  | withdraw =>
    obtain ⟨rfl, -⟩ := withdrawOp_ok h
    exact .inl ⟨rfl, rfl, rfl, rfl⟩
  | openFlow a amt st en =>
    obtain ⟨_, _, _, _, _, rfl, -⟩ := openFlow_ok h
    exact .inl ⟨rfl, rfl, rfl, rfl⟩
  | expandFlow id a amt en =>
    obtain ⟨_, _, _, rfl, -⟩ := expandFlow_ok h
    exact .inl ⟨rfl, rfl, rfl, rfl⟩
  | closeFlow id =>
    obtain ⟨_, rfl, _⟩ := closeFlow_ok h
    exact .inl ⟨rfl, rfl, rfl, rfl⟩
  | helperDeposit a0 a1 dur => cases h
  | helperDepositAs x0 x1 a0 a1 dur => cases h

theorem WEff.bal_l {s s' : St} {e : Env} (b : Bal) (h : WEff { s with bal := b } s' e) : WEff s s' e := h
theorem WEff.bal_r {s s' : St} {e : Env} (b : Bal) (h : WEff s s' e) : WEff s { s' with bal := b } e := h

theorem WEff.of_epoch {s s' : St} {e e' : Env} (he : e'.epoch = e.epoch) (h : WEff s s' e') : WEff s s' e := by
  unfold WEff at h ⊢
  rw [he] at h
  exact h

theorem step_weff {c : Cfg} {s s' : St} {e : Env} {op : Op} (h : step c s e op = .ok s') : WEff s s' e := by
  obtain ⟨e', op', b, s1, msgs, b1, hc, h1, _, rfl⟩ := step_ok h
  exact (handler_weff h1).of_epoch hc.epoch

/-- `SI` of the state's own snapshots, weight history, address weights and global weight -/
def SInv (s : St) (cur : Nat) : Prop := SI s.snap s.whist s.addrW s.global cur

theorem SInv_of_weff {s s' : St} {e : Env} (hI : SInv s e.epoch) (hG : s'.global = sumVals s'.addrW)
    (h : WEff s s' e) : SInv s' e.epoch := by
  unfold SInv at *
  rcases h with ⟨h1, h2, h3, h4⟩ | ⟨hn, h1, h2, h3, h4⟩ | ⟨h1, r, x, h2, h3⟩ | ⟨h1, hs, h2, h3, u, h4⟩
  · rw [h1, h2, h3, h4]; exact hI
  · rw [h1, h2, h3, h4]; exact hI.snap_new hn
  · rw [h1, h2, h3]
    exact (hI.snapOf).change (snapOf_ne_none _ _ _) r x _ (by rw [hG, h2])
  · rw [h1, h2, h3, h4]; exact hI.claim hs u

theorem step_SInv {c : Cfg} {s s' : St} {e : Env} {op : Op} (hW : WInv s) (hI : SInv s e.epoch)
    (h : step c s e op = .ok s') : SInv s' e.epoch :=
  SInv_of_weff hI (step_WInv hW h).global_sum (step_weff h)

theorem init_SInv (e0 : Nat) (bal : Bal) : SInv (init e0 bal) e0 := by
  unfold SInv init
  simp only
  refine ⟨fun u k _ => rfl, ?_, ?_, ?_, rfl, ?_⟩
  · intro E hE
    simp only [alook]
    rw [if_neg (by omega)]
  · intro hc
    simp [alook] at hc
  · intro u
    rw [effW_none (e0 + 1) (fun k _ => rfl)]
    exact Nat.zero_le _
  · intro E gE _ us _
    rw [sum_map_eq_zero fun u => effW_none E (fun k _ => rfl)]
    exact Nat.zero_le _

theorem reach_SInv {c : Cfg} :
    ∀ (ops : List (Env × Op)) (s : St) (ep : Nat), WInv s → SInv s ep → EpochsFrom ep ops →
      ∃ ep', SInv (reach c s ops) ep' := fun ops s ep hW hI hep =>
  (reach_keeps_from (P := fun s ep => WInv s ∧ SInv s ep) (fun h hle => ⟨h.1, SI.adv h.2 hle⟩)
    (fun h hs => ⟨step_WInv h.1 hs, step_SInv h.1 h.2 hs⟩) [] ops s ep ⟨hW, hI⟩
    (by rwa [List.append_nil])).imp fun _ h => h.1.2

theorem div_add_div_le (x y g : Nat) (hg : 0 < g) : x / g + y / g ≤ (x + y) / g := by
  apply (Nat.le_div_iff_mul_le hg).mpr
  have h1 := Nat.div_mul_le_self x g
  have h2 := Nat.div_mul_le_self y g
  rw [Nat.add_mul]; omega

theorem sum_div_le (us : List Addr) (f : Addr → Nat) (D g : Nat) (hg : 0 < g) :
    (us.map (fun u => f u * D / g)).sum ≤ (us.map f).sum * D / g := by
  induction us with
  | nil => simp
  | cons u t ih =>
    simp only [List.map_cons, List.sum_cons]
    have := div_add_div_le (f u * D) ((t.map f).sum * D) g hg
    rw [Nat.add_mul]
    omega

/-- weights adding up to at most `g > 0` give shares (`Decimal256::from_ratio(w, g)`, 18 decimals, floor)
    adding up to at most 1, and payouts (`emission * share`, floor) adding up to at most the emission -/
theorem shares_of_weights (us : List Addr) (f : Addr → Nat) (g : Nat) (hg : 0 < g) (h : (us.map f).sum ≤ g) :
    (us.map (fun u => f u * E18 / g)).sum ≤ E18
    ∧ ∀ emission, (us.map (fun u => emission * (f u * E18 / g) / E18)).sum ≤ emission := by
  have h1 : (us.map (fun u => f u * E18 / g)).sum ≤ E18 := by
    have a := sum_div_le us f E18 g hg
    have b : (us.map f).sum * E18 / g ≤ g * E18 / g := Nat.div_le_div_right (Nat.mul_le_mul_right _ h)
    rw [Nat.mul_div_cancel_left _ hg] at b
    omega
  refine ⟨h1, ?_⟩
  intro emission
  have a := sum_div_le us (fun u => f u * E18 / g) emission E18 E18_pos
  have hcomm : us.map (fun u => emission * (f u * E18 / g) / E18) = us.map (fun u => f u * E18 / g * emission / E18) := by
    apply List.map_congr_left; intro u _; rw [Nat.mul_comm]
  rw [hcomm]
  have b : (us.map (fun u => f u * E18 / g)).sum * emission / E18 ≤ E18 * emission / E18 :=
    Nat.div_le_div_right (Nat.mul_le_mul_right _ h1)
  rw [Nat.mul_div_cancel_left _ E18_pos] at b
  omega

end WW.Inc
