/- Lemmas for the configuration-bounds model (C18): each validator and each write path characterised once
   (`f … = .ok r ↔ <what it checked> ∧ <what it stored>`), what a successful `step` did, and the invariant
   carried through histories. -/
import WW.Model.Config
import WW.Proofs.Res

namespace WW.Config
open WW

/-- The documented values of the constants the validators read.  These constants are regenerated from the
    Rust source (`WW/Gen/Constants.lean`), so nothing here unfolds them: the bounds are proved under this
    hypothesis and `C18.pinned` discharges it by evaluation — a changed constant breaks there, in one place.
    (`E18` is not generated: it is unfolded directly.) -/
structure Pinned : Prop where
  pairMin : Gen.PAIR_MIN_AMP = 1
  pairMax : Gen.PAIR_MAX_AMP = 1000000
  trioMin : Gen.TRIO_MIN_AMP = 1
  trioMax : Gen.TRIO_MAX_AMP = 1000000
  grace : Gen.DISTRIBUTOR_MAX_GRACE_PERIOD = 30
  day : Gen.DISTRIBUTOR_DAY_IN_NANOSECONDS = 86400000000000
  assets : Gen.LAIR_BONDING_ASSETS_LIMIT = 2

theorem E18_val : E18 = 1000000000000000000 := rfl
theorem U64MAX_val : U64MAX = 18446744073709551615 := by decide

/-- `PoolFee::is_valid` / `VaultFee::is_valid` return `Ok` iff every share and the total are below
    100 % (stated with the documented number); the two overflow checks can never fire -/
theorem fees3_ok_iff (f : Fees3) : fees3IsValid f = .ok () ↔ f.ok = true := by
  have hE := E18_val
  have hU : U128MAX = 340282366920938463463374607431768211455 := by decide
  simp only [fees3IsValid, Res.err_else_eq_ok, Fees3.ok, Bool.and_eq_true, decide_eq_true_eq, and_true]
  omega

theorem fees3IsValid_ne_panic (f : Fees3) : fees3IsValid f ≠ .panic := by
  unfold fees3IsValid
  repeat apply Res.err_else_ne_panic
  nofun

/-- an update names a new value or leaves the old one: what holds of the old value and of every value the
    update accepts holds of the stored one -/
theorem getD_of_forall {α : Type} (P : α → Prop) {old : α} {o : Option α} (hold : P old)
    (h : ∀ v, o = some v → P v) : P (o.getD old) := by
  cases o with
  | none => exact hold
  | some v => exact h v rfl

theorem applyFees_eq_ok {old f : Fees3} {o : Option Fees3} :
    applyFees old o = .ok f ↔ (∀ g, o = some g → g.ok = true) ∧ o.getD old = f := by
  cases o with
  | none => simp [applyFees]
  | some g =>
    unfold applyFees
    cases h : fees3IsValid g <;> simp [← fees3_ok_iff, h]

/-- the fee part of an update answers `Ok` or `Err`: the validator it runs never panics -/
theorem applyFees_ne_panic (old : Fees3) (o : Option Fees3) : applyFees old o ≠ .panic := by
  cases o with
  | none => nofun
  | some g =>
    unfold applyFees
    have := fees3IsValid_ne_panic g
    cases h : fees3IsValid g <;> simp_all

theorem applyFees_ok {old f : Fees3} {o : Option Fees3} (hold : old.ok = true)
    (h : applyFees old o = .ok f) : f.ok = true := by
  obtain ⟨hg, rfl⟩ := applyFees_eq_ok.mp h
  exact getD_of_forall (Fees3.ok · = true) hold hg

theorem pairInstantiate_eq_ok {via : Bool} {fees : Fees3} {amp : Option Nat} {tf : Bool} {p : PairCfg} :
    pairInstantiate via fees amp tf = .ok p ↔
      fees.ok = true ∧ pairTypeOk amp = true ∧ tf = false ∧ ⟨fees, amp, via⟩ = p := by
  rw [← fees3_ok_iff]
  unfold pairInstantiate
  cases fees3IsValid fees <;> simp [Res.err_else_eq_ok]

/-- an accepted pair has valid fees and, if it is a stable pool, an amplification within the bounds -/
theorem pairInstantiate_ok (K : Pinned) {via : Bool} {fees : Fees3} {amp : Option Nat} {tf : Bool} {p : PairCfg}
    (h : pairInstantiate via fees amp tf = .ok p) : p.ok = true := by
  obtain ⟨hf, hamp, _, rfl⟩ := pairInstantiate_eq_ok.mp h
  cases amp with
  | none => simp [PairCfg.ok, hf]
  | some a => simpa [PairCfg.ok, hf, pairTypeOk, pairAmpOk, ampInBounds, K.pairMin, K.pairMax] using hamp

theorem pairUpdate_eq_ok {via : Bool} {p p' : PairCfg} {fees : Option Fees3} :
    pairUpdate via p fees = .ok p' ↔
      via = p.viaFactory ∧ ∃ f, applyFees p.fees fees = .ok f ∧ { p with fees := f } = p' := by
  simp only [pairUpdate, Res.err_else_eq_ok, Decidable.not_not]
  cases applyFees p.fees fees <;> simp

/-- an accepted update writes validated fees and nothing else -/
theorem pairUpdate_ok {via : Bool} {p p' : PairCfg} {fees : Option Fees3} (hp : p.ok = true)
    (h : pairUpdate via p fees = .ok p') : p'.ok = true := by
  obtain ⟨_, f, hf, rfl⟩ := pairUpdate_eq_ok.mp h
  simp only [PairCfg.ok, Bool.and_eq_true] at hp ⊢
  exact ⟨applyFees_ok hp.1 hf, hp.2⟩

theorem trioInstantiate_eq_ok {via : Bool} {height : Nat} {fees : Fees3} {amp : Nat} {tf : Bool} {t : TrioCfg} :
    trioInstantiate via height fees amp tf = .ok t ↔
      fees.ok = true ∧ Gen.TRIO_MIN_AMP ≤ amp ∧ amp ≤ Gen.TRIO_MAX_AMP ∧ tf = false ∧
        ⟨fees, amp, amp, height, height, via⟩ = t := by
  rw [← fees3_ok_iff]
  unfold trioInstantiate
  cases fees3IsValid fees <;> simp [Res.err_else_eq_ok]

theorem trioInstantiate_ok (K : Pinned) {via : Bool} {height : Nat} {fees : Fees3} {amp : Nat} {tf : Bool}
    {t : TrioCfg} (h : trioInstantiate via height fees amp tf = .ok t) : t.ok = true := by
  obtain ⟨hf, h1, h2, _, rfl⟩ := trioInstantiate_eq_ok.mp h
  rw [K.trioMin] at h1
  rw [K.trioMax] at h2
  simp [TrioCfg.ok, ampInBounds, hf, h1, h2]

/-- a linear ramp from `a` towards `b`, `d` of `r` steps done, is between the two: it has added (taken) at
    most the whole difference -/
theorem ramp_between (a b d r : Nat) (hd : d ≤ r) :
    (a ≤ b → a ≤ a + (b - a) * d / r ∧ a + (b - a) * d / r ≤ b) ∧
      (b ≤ a → b ≤ a - (a - b) * d / r ∧ a - (a - b) * d / r ≤ a) := by
  have h1 := mul_div_le_of_le (a := b - a) hd
  have h2 := mul_div_le_of_le (a := a - b) hd
  generalize (b - a) * d / r = up at h1 ⊢
  generalize (a - b) * d / r = down at h2 ⊢
  omega

/-- the amplification in force at any block lies between the two stored end points -/
theorem currentAmp_between {t : TrioCfg} {h cur : Nat} (hc : currentAmp t h = some cur) :
    (t.initAmp ≤ cur ∧ cur ≤ t.futAmp) ∨ (t.futAmp ≤ cur ∧ cur ≤ t.initAmp) := by
  unfold currentAmp at hc
  by_cases hlt : h < t.futBlock
  · rw [if_pos hlt] at hc
    by_cases hb : t.initBlock ≤ t.futBlock ∧ t.initBlock ≤ h
    · have hr := ramp_between t.initAmp t.futAmp (h - t.initBlock) (t.futBlock - t.initBlock)
        (Nat.sub_le_sub_right (Nat.le_of_lt hlt) _)
      rw [if_pos hb] at hc
      by_cases hge : t.futAmp ≥ t.initAmp
      · rw [if_pos hge] at hc
        obtain ⟨_, hcur⟩ := Option.ite_none_right_eq_some.mp hc
        cases hcur
        exact Or.inl (hr.1 hge)
      · rw [if_neg hge] at hc
        obtain ⟨_, hcur⟩ := Option.ite_none_right_eq_some.mp hc
        cases hcur
        exact Or.inr (hr.2 (Nat.le_of_lt (Nat.lt_of_not_ge hge)))
    · rw [if_neg hb] at hc
      cases hc
  · rw [if_neg hlt] at hc
    cases hc
    rcases Nat.le_total t.initAmp t.futAmp with hle | hle
    · exact Or.inl ⟨hle, Nat.le_refl _⟩
    · exact Or.inr ⟨Nat.le_refl _, hle⟩
/-- an accepted ramp starts at the amplification in force and ends at a target within the bounds -/
theorem applyRamp_some_eq_ok {height fa fb : Nat} {t t' : TrioCfg} :
    applyRamp height t (some (fa, fb)) = .ok t' ↔
      ∃ cur, currentAmp t height = some cur ∧ Gen.TRIO_MIN_AMP ≤ fa ∧ fa ≤ Gen.TRIO_MAX_AMP ∧
        ampChangeOverMax cur fa = .ok false ∧ height + Gen.TRIO_MIN_RAMP_BLOCKS ≤ U64MAX ∧
        height + Gen.TRIO_MIN_RAMP_BLOCKS ≤ fb ∧
        { t with initBlock := height, futBlock := fb, initAmp := cur, futAmp := fa } = t' := by
  unfold applyRamp
  cases currentAmp t height with
  | none => simp
  | some cur =>
    simp only [Res.err_else_eq_ok, Option.some.injEq, exists_eq_left']
    rcases ampChangeOverMax cur fa with (_ | _) | _ | _ <;>
      simp [Res.err_else_eq_ok, Res.panic_else_eq_ok]

theorem trioUpdate_eq_ok {via : Bool} {height : Nat} {t t' : TrioCfg} {fees : Option Fees3}
    {ramp : Option (Nat × Nat)} :
    trioUpdate via height t fees ramp = .ok t' ↔
      via = t.viaFactory ∧ ∃ f, applyFees t.fees fees = .ok f ∧ applyRamp height { t with fees := f } ramp = .ok t' := by
  simp only [trioUpdate, Res.err_else_eq_ok, Decidable.not_not]
  cases applyFees t.fees fees <;> simp

/-- an accepted update keeps the fees valid and, if it ramps, starts at the amplification in force (between
    the old end points, hence in bounds) and ends at a target the handler checked -/
theorem trioUpdate_ok (K : Pinned) {via : Bool} {height : Nat} {t t' : TrioCfg} {fees : Option Fees3}
    {ramp : Option (Nat × Nat)} (ht : t.ok = true) (h : trioUpdate via height t fees ramp = .ok t') :
    t'.ok = true := by
  obtain ⟨_, f, hf, hr⟩ := trioUpdate_eq_ok.mp h
  simp only [TrioCfg.ok, ampInBounds, Bool.and_eq_true, decide_eq_true_eq] at ht ⊢
  have hf' := applyFees_ok ht.1.1 hf
  cases ramp with
  | none => cases hr; exact ⟨⟨hf', ht.1.2⟩, ht.2⟩
  | some r =>
    obtain ⟨fa, fb⟩ := r
    obtain ⟨cur, hcur, h1, h2, _, _, _, rfl⟩ := applyRamp_some_eq_ok.mp hr
    rw [K.trioMin] at h1
    rw [K.trioMax] at h2
    have hb : (t.initAmp ≤ cur ∧ cur ≤ t.futAmp) ∨ (t.futAmp ≤ cur ∧ cur ≤ t.initAmp) :=
      currentAmp_between hcur
    have hin : 1 ≤ cur ∧ cur ≤ 1000000 := by omega
    exact ⟨⟨hf', hin⟩, h1, h2⟩

/-- invariant of a stored vault: fees in bounds and no burn fee when the code classes the asset as a
    token-factory denom (`has_factory_token`: every token-factory denom and some more shapes) -/
def VaultCfg.inv (v : VaultCfg) : Prop :=
  v.fees.ok = true ∧ (v.asset.codeSaysFactory = true → v.fees.c = 0)

theorem AssetClass.tokenFactory_codeSays {a : AssetClass} (h : a.isTokenFactory = true) :
    a.codeSaysFactory = true := by
  cases a <;> first | rfl | cases h

theorem vaultInstantiate_eq_ok {via : Bool} {fees : Fees3} {a : AssetClass} {tf lenient : Bool} {v : VaultCfg} :
    vaultInstantiate via fees a tf lenient = .ok v ↔
      (a.codeSaysFactory = true → fees.c = 0) ∧ fees.ok = true ∧ tf = false ∧ a.label = .ok () ∧
        (a.lpSymbolOk = true ∨ lenient = true) ∧ ⟨fees, a, via⟩ = v := by
  rw [← fees3_ok_iff]
  simp only [vaultInstantiate, Res.err_else_eq_ok, Bool.and_eq_true, decide_eq_true_eq, not_and, Nat.not_lt,
    Nat.le_zero_eq]
  cases fees3IsValid fees <;> cases a.label <;> simp [Res.err_else_eq_ok, Res.ok_else_err_eq_ok]

theorem vaultInstantiate_inv {via : Bool} {fees : Fees3} {a : AssetClass} {tf lenient : Bool} {v : VaultCfg}
    (h : vaultInstantiate via fees a tf lenient = .ok v) : v.inv := by
  obtain ⟨hburn, hf, _, _, _, rfl⟩ := vaultInstantiate_eq_ok.mp h
  exact ⟨hf, hburn⟩

theorem vaultCreate_eq_ok {fees : Fees3} {a : AssetClass} {tf lenient : Bool} {v : VaultCfg} :
    vaultCreate fees a tf lenient = .ok v ↔
      fees.b < E18 ∧ fees.a < E18 ∧ vaultInstantiate true fees a tf lenient = .ok v := by
  simp only [vaultCreate, Res.err_else_eq_ok, Nat.not_le]
  -- `create_vault` computes the label itself before it instantiates; `instantiate` asks for it again
  cases hl : a.label <;> simp [vaultInstantiate_eq_ok, hl]

/-- with the stock LP-token code no write path creates a vault over a token-factory asset -/
theorem vaultInstantiate_factory_rejected (via : Bool) (fees : Fees3) (tf : Bool) :
    ∀ v, vaultInstantiate via fees .factory tf false ≠ .ok v := by
  intro v h
  obtain ⟨_, _, _, _, hs, _⟩ := vaultInstantiate_eq_ok.mp h
  rcases hs with hs | hs <;> cases hs

theorem vaultUpdate_eq_ok {via : Bool} {v v' : VaultCfg} {fees : Option Fees3} :
    vaultUpdate via v fees = .ok v' ↔
      via = v.viaFactory ∧ (∀ nf, fees = some nf → v.asset.codeSaysFactory = true → nf.c = 0) ∧
        ∃ f, applyFees v.fees fees = .ok f ∧ { v with fees := f } = v' := by
  simp only [vaultUpdate, Res.err_else_eq_ok, Decidable.not_not]
  cases applyFees v.fees fees <;> cases fees <;>
    simp [Res.err_else_eq_ok, Nat.pos_iff_ne_zero]

/-- an accepted update keeps the fees valid, and the burn fee zero on what the code takes for a factory
    token: a new fee record is refused otherwise, the old one had it so -/
theorem vaultUpdate_inv {via : Bool} {v v' : VaultCfg} {fees : Option Fees3} (hv : v.inv)
    (h : vaultUpdate via v fees = .ok v') : v'.inv := by
  obtain ⟨_, hburn, f, hf, rfl⟩ := vaultUpdate_eq_ok.mp h
  refine ⟨applyFees_ok hv.1 hf, fun ha => ?_⟩
  obtain ⟨_, rfl⟩ := applyFees_eq_ok.mp hf
  exact getD_of_forall (Fees3.c · = 0) (hv.2 ha) fun nf hnf => hburn nf hnf ha

theorem graceValid_iff (g : Nat) : graceValid g = true ↔ 1 ≤ g ∧ g ≤ Gen.DISTRIBUTOR_MAX_GRACE_PERIOD := by
  simp [graceValid]
  omega

theorem durationValid_iff (d : Nat) : durationValid d = true ↔ Gen.DISTRIBUTOR_DAY_IN_NANOSECONDS ≤ d := by
  simp [durationValid]

theorem growthValid_iff (r : Nat) : growthValid r = true ↔ r ≤ 1000000000000000000 := by
  simp [growthValid, E18_val]

/-- the documented bounds of a distributor are what its two validators accept -/
theorem DistCfg.ok_iff (K : Pinned) (x : DistCfg) :
    x.ok = true ↔ graceValid x.grace = true ∧ durationValid x.duration = true := by
  simp [DistCfg.ok, graceValid_iff, durationValid_iff, K.grace, K.day, and_assoc]

theorem distInstantiate_eq_ok {g d : Nat} {x : DistCfg} :
    distInstantiate g d = .ok x ↔ graceValid g = true ∧ durationValid d = true ∧ ⟨g, d⟩ = x := by
  simp [distInstantiate, Res.err_else_eq_ok]

theorem distInstantiate_ok (K : Pinned) {g d : Nat} {x : DistCfg} (h : distInstantiate g d = .ok x) :
    x.ok = true := by
  obtain ⟨hg, hd, rfl⟩ := distInstantiate_eq_ok.mp h
  exact (DistCfg.ok_iff K _).mpr ⟨hg, hd⟩

/-- distributor `update_config`: each value that is named is validated, the grace period may not go down,
    what is not named stays -/
theorem distUpdate_eq_ok {x y : DistCfg} {g d : Option Nat} :
    distUpdate x g d = .ok y ↔
      (∀ dv, d = some dv → durationValid dv = true) ∧
      (∀ gv, g = some gv → graceValid gv = true ∧ x.grace ≤ gv) ∧
      ⟨g.getD x.grace, d.getD x.duration⟩ = y := by
  cases d with
  | none => cases g <;> simp [distUpdate, Res.err_else_eq_ok, and_assoc]
  | some dv => cases hdv : durationValid dv <;> cases g <;> simp [distUpdate, hdv, Res.err_else_eq_ok, and_assoc]

/-- an accepted update never lowers the grace period -/
theorem distUpdate_grace {x y : DistCfg} {g d : Option Nat} (h : distUpdate x g d = .ok y) :
    x.grace ≤ y.grace := by
  obtain ⟨_, hg, rfl⟩ := distUpdate_eq_ok.mp h
  exact getD_of_forall (x.grace ≤ ·) (Nat.le_refl _) fun gv hgv => (hg gv hgv).2

theorem distUpdate_ok (K : Pinned) {x y : DistCfg} {g d : Option Nat} (hx : x.ok = true)
    (h : distUpdate x g d = .ok y) : y.ok = true := by
  obtain ⟨hd, hg, rfl⟩ := distUpdate_eq_ok.mp h
  rw [DistCfg.ok_iff K] at hx ⊢
  exact ⟨getD_of_forall (graceValid · = true) hx.1 fun gv hgv => (hg gv hgv).1,
    getD_of_forall (durationValid · = true) hx.2 hd⟩

theorem lairInstantiate_eq_ok {r n : Nat} {k strict : Bool} {x : LairCfg} :
    lairInstantiate r n k strict = .ok x ↔
      (strict = true → 1 ≤ n) ∧ n ≤ Gen.LAIR_BONDING_ASSETS_LIMIT ∧ growthValid r = true ∧ k = false ∧
        ⟨r, n⟩ = x := by
  cases strict <;> simp [lairInstantiate, Res.err_else_eq_ok, Nat.one_le_iff_ne_zero, and_left_comm]

theorem lairInstantiate_ok (K : Pinned) {r n : Nat} {k strict : Bool} {x : LairCfg}
    (h : lairInstantiate r n k strict = .ok x) : x.ok = true := by
  obtain ⟨_, hn, hr, _, rfl⟩ := lairInstantiate_eq_ok.mp h
  rw [K.assets] at hn
  simp [LairCfg.ok, (growthValid_iff r).mp hr, hn]

theorem lairUpdate_eq_ok {x y : LairCfg} {r : Option Nat} :
    lairUpdate x r = .ok y ↔ (∀ rv, r = some rv → growthValid rv = true) ∧ ⟨r.getD x.growth, x.nAssets⟩ = y := by
  cases r <;> simp [lairUpdate, Res.err_else_eq_ok]

/-- an update validates the growth rate it names and never touches the number of assets -/
theorem lairUpdate_ok {x y : LairCfg} {r : Option Nat} (hx : x.ok = true) (h : lairUpdate x r = .ok y) :
    y.ok = true := by
  obtain ⟨hr, rfl⟩ := lairUpdate_eq_ok.mp h
  simp only [LairCfg.ok, Bool.and_eq_true, decide_eq_true_eq] at hx ⊢
  exact ⟨getD_of_forall (· ≤ 1000000000000000000) hx.1 fun rv hrv => (growthValid_iff rv).mp (hr rv hrv), hx.2⟩

theorem collUpdate_eq_ok {x y : CollCfg} {t : Option Nat} :
    collUpdate x t = .ok y ↔ (∀ tv, t = some tv → tv < E18) ∧ ⟨t.getD x.take⟩ = y := by
  cases t <;> simp [collUpdate, Res.ok_else_err_eq_ok]

theorem collUpdate_ok {x y : CollCfg} {t : Option Nat} (hx : x.ok = true) (h : collUpdate x t = .ok y) :
    y.ok = true := by
  obtain ⟨ht, rfl⟩ := collUpdate_eq_ok.mp h
  simp only [CollCfg.ok, decide_eq_true_eq] at hx ⊢
  exact getD_of_forall (· < 1000000000000000000) hx ht

theorem updAt_eq_ok {α : Type} {xs ys : List α} {i : Nat} {f : α → Res α} :
    updAt xs i f = .ok ys ↔ ∃ x y, xs[i]? = some x ∧ f x = .ok y ∧ xs.set i y = ys := by
  unfold updAt
  cases xs[i]? with
  | none => simp
  | some x => cases hfx : f x <;> simp [hfx]

theorem updAt_forall {α : Type} {P : α → Prop} {xs ys : List α} {i : Nat} {f : α → Res α}
    (hf : ∀ x y, P x → f x = .ok y → P y) (hxs : ∀ x ∈ xs, P x) (h : updAt xs i f = .ok ys) :
    ∀ y ∈ ys, P y := by
  obtain ⟨x, y, hx, hy, rfl⟩ := updAt_eq_ok.mp h
  intro z hz
  rcases List.mem_or_eq_of_mem_set hz with hz | rfl
  · exact hxs z hz
  · exact hf x _ (hxs x (List.mem_of_getElem? hx)) hy

theorem forall_mem_append_singleton {α : Type} {P : α → Prop} {xs : List α} {y : α}
    (hxs : ∀ x ∈ xs, P x) (hy : P y) : ∀ x ∈ xs ++ [y], P x :=
  List.forall_mem_append.mpr ⟨hxs, List.forall_mem_singleton.mpr hy⟩

/-- the optional clauses of `Inv` after a slot was written with `some y`: the only `x` with `some y = some x` is `y` -/
theorem forall_some_eq {α : Type} {P : α → Prop} {y : α} (hy : P y) : ∀ x, some y = some x → P x :=
  fun _ h => Option.some.inj h ▸ hy

/-- `step` inverted: the component operation that succeeded and the one field it replaced -/
theorem step_ok {c c' : Cfg} {op : Op} : step c op = .ok c' →
    match op with
    | .pairInst via fees amp tf =>
      ∃ p, pairInstantiate via fees amp tf = .ok p ∧ c' = { c with pairs := c.pairs ++ [p] }
    | .pairUpd via i fees =>
      ∃ ps, updAt c.pairs i (fun p => pairUpdate via p fees) = .ok ps ∧ c' = { c with pairs := ps }
    | .trioInst via fees amp tf =>
      ∃ t, trioInstantiate via c.height fees amp tf = .ok t ∧ c' = { c with trios := c.trios ++ [t] }
    | .trioUpd via i fees ramp =>
      ∃ ts, updAt c.trios i (fun t => trioUpdate via c.height t fees ramp) = .ok ts ∧ c' = { c with trios := ts }
    | .vaultInst via fees a tf lenient =>
      ∃ v, vaultInstantiate via fees a tf lenient = .ok v ∧ c' = { c with vaults := c.vaults ++ [v] }
    | .vaultUpd via i fees =>
      ∃ vs, updAt c.vaults i (fun v => vaultUpdate via v fees) = .ok vs ∧ c' = { c with vaults := vs }
    | .distInst g d => ∃ y, distInstantiate g d = .ok y ∧ c' = { c with dist := some y }
    | .distUpd g d => ∃ y, (∃ x, c.dist = some x ∧ distUpdate x g d = .ok y) ∧ c' = { c with dist := some y }
    | .lairInst r n k strict => ∃ y, lairInstantiate r n k strict = .ok y ∧ c' = { c with lair := some y }
    | .lairUpd r => ∃ y, (∃ x, c.lair = some x ∧ lairUpdate x r = .ok y) ∧ c' = { c with lair := some y }
    | .collInst => c' = { c with coll := some collInstantiate }
    | .collUpd t => ∃ y, (∃ x, c.coll = some x ∧ collUpdate x t = .ok y) ∧ c' = { c with coll := some y }
    | .advance n => c' = { c with height := c.height + n }
    | .migrate => c' = c := by
  intro h
  cases op <;> simp only [step] at h ⊢
  case vaultInst via _ _ _ _ =>
    -- through the factory or not, creating a vault ends in `instantiate`
    split at h <;> cases h
    rename_i v hv
    cases via
    · exact ⟨v, hv, rfl⟩
    · exact ⟨v, (vaultCreate_eq_ok.mp hv).2.2, rfl⟩
  case distUpd | lairUpd | collUpd =>
    split at h
    · cases h
    · split at h <;> cases h
      exact ⟨_, ⟨_, ‹_›, ‹_›⟩, rfl⟩
  case collInst | advance | migrate => cases h; rfl
  all_goals
    split at h <;> cases h
    exact ⟨_, ‹_›, rfl⟩

/-- the invariant carried through histories: `ConfigOk` with the vault clause strengthened — the burn fee is
    zero whenever the vault's CODE takes its asset for a token-factory denom (`codeSaysFactory`), not only when it
    is one (`VaultCfg.inv`); that no vault over a token-factory asset is ever stored is `step_no_token_factory_vault` -/
structure Inv (c : Cfg) : Prop where
  pairs : ∀ p ∈ c.pairs, p.ok = true
  trios : ∀ t ∈ c.trios, t.ok = true
  vaults : ∀ v ∈ c.vaults, v.inv
  dist : ∀ d, c.dist = some d → d.ok = true
  lair : ∀ l, c.lair = some l → l.ok = true
  coll : ∀ k, c.coll = some k → k.ok = true

theorem Inv.configOk {c : Cfg} (h : Inv c) : ConfigOk c := by
  show WW.Config.configOk c = true
  unfold WW.Config.configOk
  simp only [Bool.and_eq_true, List.all_eq_true]
  refine ⟨⟨⟨⟨⟨h.pairs, h.trios⟩, fun v hv => ?_⟩, ?_⟩, ?_⟩, ?_⟩
  · obtain ⟨hf, hburn⟩ := h.vaults v hv
    simp only [VaultCfg.ok, hf, Bool.true_and, Bool.or_eq_true, Bool.not_eq_true', decide_eq_true_eq]
    cases htf : v.asset.isTokenFactory
    · exact Or.inl rfl
    · exact Or.inr (hburn (AssetClass.tokenFactory_codeSays htf))
  · cases hd : c.dist with
    | none => rfl
    | some d => exact h.dist d hd
  · cases hd : c.lair with
    | none => rfl
    | some d => exact h.lair d hd
  · cases hd : c.coll with
    | none => rfl
    | some d => exact h.coll d hd

theorem Inv.empty (height : Nat) : Inv (Cfg.empty height) := by
  constructor <;> simp [Cfg.empty]

/-- each write path stores a record that is in bounds (the `…_ok` / `…_inv` lemma of the handler), in the one
    field that `step_ok` names; the other clauses are those of `c` -/
theorem step_inv (K : Pinned) {c c' : Cfg} {op : Op} (hc : Inv c) (h : step c op = .ok c') : Inv c' := by
  have hok := step_ok h
  clear h
  cases op <;> simp only at hok
  case pairInst =>
    obtain ⟨p, hp, rfl⟩ := hok
    exact { hc with pairs := forall_mem_append_singleton hc.pairs (pairInstantiate_ok K hp) }
  case pairUpd =>
    obtain ⟨ps, hps, rfl⟩ := hok
    exact { hc with pairs := updAt_forall (fun _ _ => pairUpdate_ok) hc.pairs hps }
  case trioInst =>
    obtain ⟨t, ht, rfl⟩ := hok
    exact { hc with trios := forall_mem_append_singleton hc.trios (trioInstantiate_ok K ht) }
  case trioUpd =>
    obtain ⟨ts, hts, rfl⟩ := hok
    exact { hc with trios := updAt_forall (fun _ _ => trioUpdate_ok K) hc.trios hts }
  case vaultInst =>
    obtain ⟨v, hv, rfl⟩ := hok
    exact { hc with vaults := forall_mem_append_singleton hc.vaults (vaultInstantiate_inv hv) }
  case vaultUpd =>
    obtain ⟨vs, hvs, rfl⟩ := hok
    exact { hc with vaults := updAt_forall (fun _ _ => vaultUpdate_inv) hc.vaults hvs }
  case distInst =>
    obtain ⟨y, hy, rfl⟩ := hok
    exact { hc with dist := forall_some_eq (distInstantiate_ok K hy) }
  case distUpd =>
    obtain ⟨y, ⟨x, hx, hy⟩, rfl⟩ := hok
    exact { hc with dist := forall_some_eq (distUpdate_ok K (hc.dist x hx) hy) }
  case lairInst =>
    obtain ⟨y, hy, rfl⟩ := hok
    exact { hc with lair := forall_some_eq (lairInstantiate_ok K hy) }
  case lairUpd =>
    obtain ⟨y, ⟨x, hx, hy⟩, rfl⟩ := hok
    exact { hc with lair := forall_some_eq (lairUpdate_ok (hc.lair x hx) hy) }
  case collInst =>
    subst hok
    exact { hc with coll := forall_some_eq (y := collInstantiate) rfl }
  case collUpd =>
    obtain ⟨y, ⟨x, hx, hy⟩, rfl⟩ := hok
    exact { hc with coll := forall_some_eq (collUpdate_ok (hc.coll x hx) hy) }
  case advance =>
    subst hok
    exact { hc with }
  case migrate =>
    subst hok
    exact hc

/-- a property kept by every successful operation of a history holds at its end -/
theorem reach_preserves {P : Cfg → Prop} (ops : List Op) {c : Cfg} (hc : P c)
    (hstep : ∀ op ∈ ops, ∀ d d', P d → step d op = .ok d' → P d') : P (reach c ops) := by
  induction ops generalizing c with
  | nil => exact hc
  | cons op ops ih =>
    have hrest : ∀ o ∈ ops, ∀ d d', P d → step d o = .ok d' → P d' :=
      fun o ho => hstep o (List.mem_cons_of_mem _ ho)
    simp only [reach]
    split
    · next c' h => exact ih (hstep op (List.mem_cons_self ..) c c' hc h) hrest
    · exact ih hc hrest

theorem reach_inv (K : Pinned) (ops : List Op) {c : Cfg} (hc : Inv c) : Inv (reach c ops) :=
  reach_preserves ops hc fun _ _ _ _ hd h => step_inv K hd h

/-- operations that hand the vault the stock cw20 code for its LP token -/
def Op.stockLp : Op → Bool
  | .vaultInst _ _ _ _ lenient => !lenient
  | _ => true

theorem step_no_token_factory_vault {c c' : Cfg} {op : Op} (hs : op.stockLp = true)
    (hc : ∀ v ∈ c.vaults, v.asset.isTokenFactory = false) (h : step c op = .ok c') :
    ∀ v ∈ c'.vaults, v.asset.isTokenFactory = false := by
  have hok := step_ok h
  clear h
  cases op <;> simp only at hok
  case vaultInst via fees a tf lenient =>
    obtain ⟨v, hv, rfl⟩ := hok
    have hl : lenient = false := by simpa [Op.stockLp] using hs
    subst hl
    refine forall_mem_append_singleton hc ?_
    -- the new vault's asset is the one asked for, and the stock code refuses the symbol of `.factory`
    have hasset : v.asset = a := ((vaultInstantiate_eq_ok.mp hv).2.2.2.2.2 ▸ rfl)
    rw [hasset]
    cases a <;> first | rfl | exact absurd hv (vaultInstantiate_factory_rejected via fees tf v)
  case vaultUpd =>
    obtain ⟨vs, hvs, rfl⟩ := hok
    exact updAt_forall (P := fun v => v.asset.isTokenFactory = false)
      (fun x y hx hxy => by
        obtain ⟨_, _, _, _, rfl⟩ := vaultUpdate_eq_ok.mp hxy
        exact hx) hc hvs
  case collInst | advance | migrate => subst hok; exact hc
  all_goals
    obtain ⟨_, _, rfl⟩ := hok
    exact hc

end WW.Config
