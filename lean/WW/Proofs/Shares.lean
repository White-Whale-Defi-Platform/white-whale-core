/- C13 `shares_le_one`: the ghost invariant tying the address-weight history to the global-weight
   snapshots. For every epoch `E` with a snapshot, the weights the claim loop can read for `E`
   (`effW`: the recorded entry with the largest epoch ≤ E) add up to at most the snapshot. -/
import WW.Proofs.Incentive
namespace WW.Inc
open WW WW.Gen

/-- the weight of address `u` in effect at epoch `E` according to `ADDRESS_WEIGHT_HISTORY`: the entry
    recorded for the largest epoch `≤ E`, `0` if there is none (this is what `claim` / `get_rewards` carry
    along as `last_user_weight_seen` and what the share query reports) -/
def effW (wh : List ((Addr × Nat) × Nat)) (u : Addr) : Nat → Nat
  | 0 => (alook wh (u, 0)).getD 0
  | E + 1 =>
    match alook wh (u, E + 1) with
    | some w => w
    | none => effW wh u E

theorem effW_congr {wh wh' : List ((Addr × Nat) × Nat)} {u : Addr} :
    ∀ (E : Nat), (∀ k, k ≤ E → alook wh' (u, k) = alook wh (u, k)) → effW wh' u E = effW wh u E := by
  intro E
  induction E with
  | zero => intro h; unfold effW; rw [h 0 (Nat.le_refl _)]
  | succ E ih =>
    intro h
    unfold effW
    rw [h (E + 1) (Nat.le_refl _), ih (fun k hk => h k (Nat.le_succ_of_le hk))]

theorem effW_none {wh : List ((Addr × Nat) × Nat)} {u : Addr} :
    ∀ (E : Nat), (∀ k, k ≤ E → alook wh (u, k) = none) → effW wh u E = 0 := by
  intro E
  induction E with
  | zero => intro h; unfold effW; rw [h 0 (Nat.le_refl _)]; rfl
  | succ E ih =>
    intro h
    unfold effW
    rw [h (E + 1) (Nat.le_refl _)]
    exact ih (fun k hk => h k (Nat.le_succ_of_le hk))

theorem effW_top {wh : List ((Addr × Nat) × Nat)} {u : Addr} {E w : Nat} (h : alook wh (u, E) = some w) :
    effW wh u E = w := by
  cases E with
  | zero => unfold effW; rw [h]; rfl
  | succ E => unfold effW; rw [h]

theorem effW_extend {wh : List ((Addr × Nat) × Nat)} {u : Addr} {E : Nat} :
    ∀ (d : Nat), (∀ k, E < k → k ≤ E + d → alook wh (u, k) = none) → effW wh u (E + d) = effW wh u E := by
  intro d
  induction d with
  | zero => intro _; rfl
  | succ d ih =>
    intro h
    show (match alook wh (u, E + d + 1) with | some w => w | none => effW wh u (E + d)) = _
    rw [h (E + d + 1) (Nat.lt_succ_of_le (Nat.le_add_right _ _)) (Nat.le_refl _)]
    exact ih (fun k h1 h2 => h k h1 (Nat.le_succ_of_le h2))



theorem sum_aget_le_sumVals (l : List (Addr × Nat)) {us : List Addr} (hn : us.Nodup) :
    (us.map (fun u => aget l u)).sum ≤ sumVals l := by
  induction us generalizing l with
  | nil => exact Nat.zero_le _
  | cons u t ih =>
    obtain ⟨hu, hn⟩ := List.nodup_cons.mp hn
    -- with `u`'s entry zeroed the others read the same and the total drops by what `u` had
    have h1 := ih (aset l u 0) hn
    have h2 := sumVals_aset l u 0
    have h3 : t.map (fun v => aget (aset l u 0) v) = t.map (fun v => aget l v) :=
      List.map_congr_left fun v hv => aget_aset_other l 0 fun (he : v = u) => hu (he ▸ hv)
    rw [h3] at h1
    simp only [List.map_cons, List.sum_cons]
    omega

/-- the shares invariant at current epoch `cur`, over the snapshot map `sn`, the weight history `wh`, the live
    address weights `aw` and the global weight `g`. Fields: `K` history keys bounded, `S` snapshots bounded,
    `N` no weight for the next epoch before the current snapshot, `L` latest history entry ≤ live weight,
    `G` global = Σ live weights, `W` the effective weights at a snapshotted epoch sum to at most the snapshot. -/
structure SI (sn : List (Nat × Nat)) (wh : List ((Addr × Nat) × Nat)) (aw : List (Addr × Nat)) (g : Nat)
    (cur : Nat) : Prop where
  /-- no history entry beyond the next epoch -/
  K : ∀ u k, cur + 1 < k → alook wh (u, k) = none
  /-- no snapshot of a future epoch -/
  S : ∀ E, cur < E → alook sn E = none
  /-- nobody's weight for the next epoch is written before the current epoch's snapshot exists -/
  N : alook sn cur = none → ∀ u, alook wh (u, cur + 1) = none
  /-- the latest history entry of an address (if any) is its live weight -/
  L : ∀ u, effW wh u (cur + 1) ≤ aget aw u
  /-- global weight = Σ address weights -/
  G : g = sumVals aw
  /-- the shares clause -/
  W : ∀ E gE, alook sn E = some gE → ∀ us : List Addr, us.Nodup → (us.map (fun u => effW wh u E)).sum ≤ gE

theorem SI.snap_le {sn wh aw g cur} (h : SI sn wh aw g cur) {E gE : Nat} (hs : alook sn E = some gE) : E ≤ cur := by
  by_contra hc
  have := h.S E (Nat.lt_of_not_le hc)
  rw [this] at hs; cases hs

/-- the epoch moves on -/
theorem SI.adv {sn wh aw g cur} (h : SI sn wh aw g cur) {e : Nat} (hle : cur ≤ e) : SI sn wh aw g e := by
  rcases Nat.eq_or_lt_of_le hle with he | hlt
  · subst he; exact h
  · refine ⟨fun u k hk => h.K u k (Nat.lt_trans (Nat.succ_lt_succ hlt) hk),
      fun E hE => h.S E (Nat.lt_trans hlt hE), ?_, ?_, h.G, h.W⟩
    · intro _ u; exact h.K u (e + 1) (Nat.succ_lt_succ hlt)
    · intro u
      have : e + 1 = (cur + 1) + (e - cur) := by omega
      rw [this, effW_extend (e - cur) (fun k h1 _ => h.K u k h1)]
      exact h.L u

/-- the snapshot of the current epoch is taken (explicitly or lazily) -/
theorem SI.snap_new {sn wh aw g cur} (h : SI sn wh aw g cur) (hn : alook sn cur = none) :
    SI (aset sn cur g) wh aw g cur := by
  refine ⟨h.K, ?_, ?_, h.L, h.G, ?_⟩
  · intro E hE
    rw [alook_aset_other _ _ (Nat.ne_of_gt hE)]; exact h.S E hE
  · intro hc; rw [alook_aset_same] at hc; cases hc
  · intro E gE hs us hus
    by_cases hE : E = cur
    · subst hE
      rw [alook_aset_same] at hs
      injection hs with hs
      subst hs
      have h1 : (us.map (fun u => effW wh u E)).sum ≤ (us.map (fun u => aget aw u)).sum := by
        apply sum_map_le
        intro u _
        have hN := h.N hn u
        have : effW wh u (E + 1) = effW wh u E := by
          show (match alook wh (u, E + 1) with | some w => w | none => effW wh u E) = _
          rw [hN]
        rw [← this]; exact h.L u
      have h2 := sum_aget_le_sumVals aw hus
      rw [h.G]; omega
    · rw [alook_aset_other _ _ hE] at hs
      exact h.W E gE hs us hus

theorem SI.snapOf {sn wh aw g cur} (h : SI sn wh aw g cur) : SI (snapOf sn g cur) wh aw g cur := by
  unfold Inc.snapOf
  split
  · exact h
  · rename_i hn; exact h.snap_new hn

/-- the history of one address `u` is rewritten while the current epoch has its snapshot: the others'
    entries stay, `u` gets its (new) live weight recorded for the next epoch and nothing later, and what
    `u`'s history says for the epochs up to the current one does not grow -/
theorem SI.rewrite {sn wh wh' aw aw' g g' cur} (h : SI sn wh aw g cur) (hs : alook sn cur ≠ none) (u : Addr)
    (hother : ∀ v k, v ≠ u → alook wh' (v, k) = alook wh (v, k))
    (hK : ∀ k, cur + 1 < k → alook wh' (u, k) = none)
    (htop : alook wh' (u, cur + 1) = some (aget aw' u))
    (hle : ∀ E, E ≤ cur → effW wh' u E ≤ effW wh u E)
    (haw : ∀ v, v ≠ u → aget aw' v = aget aw v) (hg : g' = sumVals aw') : SI sn wh' aw' g' cur := by
  refine ⟨fun v k hk => ?_, h.S, fun hc => absurd hc hs, fun v => ?_, hg, fun E gE hsE us hus => ?_⟩
  · by_cases hv : v = u
    · rw [hv]; exact hK k hk
    · rw [hother v k hv]; exact h.K v k hk
  · by_cases hv : v = u
    · rw [hv, effW_top htop]
    · rw [effW_congr (cur + 1) (fun k _ => hother v k hv), haw v hv]
      exact h.L v
  · refine Nat.le_trans (sum_map_le fun v _ => ?_) (h.W E gE hsE us hus)
    by_cases hv : v = u
    · rw [hv]; exact hle E (h.snap_le hsE)
    · rw [effW_congr E (fun k _ => hother v k hv)]

/-- an address weight changes (the current epoch has its snapshot already) -/
theorem SI.change {sn wh aw g cur} (h : SI sn wh aw g cur) (hs : alook sn cur ≠ none) (r : Addr) (x g' : Nat)
    (hg : g' = sumVals (aset aw r x)) : SI sn (aset wh (r, cur + 1) x) (aset aw r x) g' cur := by
  have hne : ∀ v k, (v ≠ r ∨ k ≠ cur + 1) → alook (aset wh (r, cur + 1) x) (v, k) = alook wh (v, k) :=
    fun v k hvk => alook_aset_other _ _ fun he => hvk.elim (· (Prod.mk.inj he).1) (· (Prod.mk.inj he).2)
  refine h.rewrite hs r (fun v k hv => hne v k (Or.inl hv))
    (fun k hk => (hne r k (Or.inr (Nat.ne_of_gt hk))).trans (h.K r k hk))
    (by rw [alook_aset_same, aget_aset_same]) (fun E hE => Nat.le_of_eq ?_)
    (fun v hv => aget_aset_other _ _ hv) hg
  exact effW_congr E fun k hk => hne r k (Or.inr (Nat.ne_of_lt (Nat.lt_succ_of_le (Nat.le_trans hk hE))))

theorem alook_filter_ne_same (wh : List ((Addr × Nat) × Nat)) (u k : Nat) :
    alook (wh.filter (fun p => p.1.1 ≠ u)) (u, k) = none := by
  induction wh with
  | nil => rfl
  | cons p t ih =>
    by_cases hp : p.1.1 ≠ u
    · rw [List.filter_cons_of_pos (by simpa using hp)]
      obtain ⟨⟨a, b⟩, v⟩ := p
      simp only [alook]
      have : ¬ (a, b) = (u, k) := fun he => hp (by injection he with h1 _)
      rw [if_neg this]; exact ih
    · rw [List.filter_cons_of_neg (by simpa using hp)]; exact ih

theorem alook_filter_ne_other (wh : List ((Addr × Nat) × Nat)) {u v : Nat} (k : Nat) (hv : v ≠ u) :
    alook (wh.filter (fun p => p.1.1 ≠ u)) (v, k) = alook wh (v, k) := by
  induction wh with
  | nil => rfl
  | cons p t ih =>
    obtain ⟨⟨a, b⟩, w⟩ := p
    by_cases hp : a ≠ u
    · rw [List.filter_cons_of_pos (by simpa using hp)]
      simp only [alook]
      rw [ih]
    · rw [List.filter_cons_of_neg (by simpa using hp)]
      simp only [alook]
      have : ¬ (a, b) = (v, k) := fun he => by
        injection he with h1 _
        apply hv; rw [← h1]; exact (not_not.mp hp)
      rw [if_neg this]; exact ih

theorem alook_claim_other (wh : List ((Addr × Nat) × Nat)) {u v : Addr} (e x k : Nat) (hv : v ≠ u) :
    alook (aset (wh.filter (fun p => p.1.1 ≠ u)) (u, e) x) (v, k) = alook wh (v, k) := by
  rw [alook_aset_other _ _ (fun he => by injection he with h1 _; exact hv h1)]
  exact alook_filter_ne_other wh k hv

theorem alook_claim_self (wh : List ((Addr × Nat) × Nat)) (u : Addr) (e x : Nat) {k : Nat} (hk : k ≠ e) :
    alook (aset (wh.filter (fun p => p.1.1 ≠ u)) (u, e) x) (u, k) = none := by
  rw [alook_aset_other _ _ (fun he => by injection he with _ h2; exact hk h2)]
  exact alook_filter_ne_same wh u k

/-- an address claims: its history is replaced by one entry for the next epoch carrying its live weight -/
theorem SI.claim {sn wh aw g cur} (h : SI sn wh aw g cur) (hs : alook sn cur ≠ none) (u : Addr) :
    SI sn (aset (wh.filter (fun p => p.1.1 ≠ u)) (u, cur + 1) (aget aw u)) aw g cur := by
  refine h.rewrite hs u (fun v k hv => alook_claim_other wh _ _ k hv)
    (fun k hk => alook_claim_self wh u _ _ (Nat.ne_of_gt hk)) (alook_aset_same _ _ _)
    (fun E hE => ?_) (fun _ _ => rfl) h.G
  rw [effW_none E fun k hk =>
    alook_claim_self wh u _ _ (Nat.ne_of_lt (Nat.lt_succ_of_le (Nat.le_trans hk hE)))]
  exact Nat.zero_le _

end WW.Inc
