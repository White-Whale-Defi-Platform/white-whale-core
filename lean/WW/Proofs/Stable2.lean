/- Helper lemmas for C03: what the `Res` do-blocks of `WW/Model/Stable2.lean` did when they returned,
   the y-solver residual, the LP-mint bound, solver termination facts, the pool invariant. -/
import WW.Model.Stable2
import WW.Proofs.CpSwap  -- `Fees.sum_lt_one`: both pool types split the same three fees
namespace WW

theorem guardPanic_inv {c : Bool} {u : Unit} (h : guardPanic c = .ok u) : c = true :=
  guardPanic_eq_ok.mp h

/-- `if a ≤ b { b.checked_sub(a)? } else { a.checked_sub(b)? }`: the absolute difference that the
    Newton loops test, whichever arm computed it -/
theorem absDiff_bind_ok {β : Type} {a b : Nat} {K : Nat → Res β} {r : β}
    (h : (if a ≤ b then csub b a >>= K else csub a b >>= K) = .ok r) :
    ∃ diff, b ≤ a + diff ∧ a ≤ b + diff ∧ K diff = .ok r := by
  split at h <;> obtain ⟨_, hd, h⟩ := Res.bind_eq_ok.mp h <;> obtain ⟨_, rfl⟩ := csub_eq_ok.mp hd
  · exact ⟨_, by omega, by omega, h⟩
  · exact ⟨_, by omega, by omega, h⟩

/-- normalising to 18 decimals and coming back to the asset's own precision is the identity:
    the "ask reserve in ask units" of `compute_swap` is the ask reserve -/
theorem toUint_withPrecision {v p d u : Nat}
    (h1 : dec256WithPrecision v p = .ok d) (h2 : dec256ToUintPrecision d p = .ok u) : u = v := by
  obtain ⟨hp, rfl⟩ := dec256ToUintPrecision_eq_ok.mp h2
  unfold dec256WithPrecision at h1
  split at h1
  · obtain ⟨-, rfl⟩ := cmul_eq_ok.mp h1
    exact Nat.mul_div_cancel _ (Nat.pow_pos (by decide))
  · cases h1
    obtain rfl : p = 18 := by omega
    simp

/-- what is left after taking three parts off, plus the parts, is the whole -/
theorem sub_three_add {g a b c : Nat} (l1 : a ≤ g) (l2 : b ≤ g - a) (l3 : c ≤ g - a - b) :
    g - a - b - c + a + b + c = g := by
  omega

/-- everything `ssSwap` did when it returned `ok c`, with `y` the value the y-solver returned for the
    decimal-normalised inputs: proceeds + the three fees = ask reserve − y, each fee `⌊share · gross⌋`.
    (A return implies `pa ≤ 18`: beyond that `to_uint256_with_precision` panics.) -/
theorem ssSwap_inv {opool apool off : Nat} {f : Fees} {amp po pa : Nat} {c : SwapComp}
    (h : ssSwap opool apool off f amp po pa = .ok c) :
    ∃ opD apD offD y,
      dec256WithPrecision opool po = .ok opD ∧ dec256WithPrecision apool pa = .ok apD ∧
      dec256WithPrecision off po = .ok offD ∧ ssY opD apD offD amp pa 0 = .ok y ∧
      y ≤ apool ∧
      c.ret + c.swapFee + c.protFee + c.burnFee = apool - y ∧
      c.swapFee = feeOf f.swap (apool - y) ∧ c.protFee = feeOf f.prot (apool - y) ∧
      c.burnFee = feeOf f.burn (apool - y) := by
  simp only [ssSwap, Res.bind_eq_ok, csub_eq_ok, u256MulDec_eq_ok, to128_eq_ok, Res.pure_eq,
    Res.ok.injEq] at h
  obtain ⟨opD, h1, apD, h2, offD, h3, y, h4, apU, h5, _, ⟨hy, rfl⟩, _, -, _, ⟨-, rfl⟩, _, ⟨-, rfl⟩,
    _, ⟨-, rfl⟩, _, ⟨l1, rfl⟩, _, ⟨l2, rfl⟩, _, ⟨l3, rfl⟩, _, ⟨-, rfl⟩, _, -, _, ⟨-, rfl⟩,
    _, ⟨-, rfl⟩, _, ⟨-, rfl⟩, rfl⟩ := h
  obtain rfl := toUint_withPrecision h2 h5
  exact ⟨opD, apD, offD, y, h1, h2, h3, h4, hy, sub_three_add l1 l2 l3, rfl, rfl, rfl⟩

/-- One Newton step `y' = ⌊(y² + c) / g⌋`, `g = 2y + b − d > 0`, stop when `|y' − y| ≤ 1`:
    the returned `y'` is the integer root of `F(t) = t² + (b−d)t − c` up to one unit, because
    `F(y') = (y'·g − (y² + c)) + (y' − y)²`. -/
theorem y_residual_int (y y' b c d g : ℤ) (hgdef : g = 2 * y + b - d)
    (hlo : y' * g ≤ y * y + c) (hhi : y * y + c < (y' + 1) * g)
    (h1 : -1 ≤ y' - y) (h2 : y' - y ≤ 1) :
    y' * y' + (b - d) * y' - c ≤ 1 ∧ -g < y' * y' + (b - d) * y' - c := by
  have key : y' * y' + (b - d) * y' - c = (y' * g - (y * y + c)) + (y' - y) * (y' - y) := by
    rw [hgdef]; ring
  have hk2 : (y' - y) * (y' - y) ≤ 1 := by
    rw [← abs_mul_abs_self]
    exact mul_le_one₀ (abs_le.mpr ⟨h1, h2⟩) (abs_nonneg _) (abs_le.mpr ⟨h1, h2⟩)
  rw [add_mul, one_mul, add_comm (y' * g)] at hhi
  rw [key]
  exact ⟨(add_le_add (sub_nonpos.mpr hlo) hk2).trans (zero_add 1).le,
    lt_add_of_lt_of_nonneg (neg_lt_sub_iff_lt_add.mpr hhi) (mul_self_nonneg _)⟩

theorem ssYStep_inv {b c d y y' : Nat} (h : ssYStep b c d y = .ok y') :
    d < 2 * y + b ∧ y' = (y * y + c) / (2 * y + b - d) := by
  simp only [ssYStep, Res.bind_eq_ok, cmul_eq_ok, cadd_eq_ok, csub_eq_ok, cdiv_eq_ok] at h
  obtain ⟨_, ⟨-, rfl⟩, _, ⟨-, rfl⟩, _, ⟨-, rfl⟩, _, ⟨-, rfl⟩, _, ⟨hle, rfl⟩, h0, rfl⟩ := h
  rw [← Nat.two_mul] at hle h0 ⊢
  exact ⟨by omega, rfl⟩

theorem ssYStep_residual {b c d yp y : Nat} (h : ssYStep b c d yp = .ok y)
    (hc1 : y ≤ yp + 1) (hc2 : yp ≤ y + 1) :
    d < 2 * yp + b ∧
    -(2 * (yp : ℤ) + b - d) < (y : ℤ) * y + ((b : ℤ) - d) * y - c ∧
    (y : ℤ) * y + ((b : ℤ) - d) * y - c ≤ 1 := by
  obtain ⟨hd, hy⟩ := ssYStep_inv h
  refine ⟨hd, ?_⟩
  obtain ⟨g, hg⟩ : ∃ g, 2 * yp + b = d + g := Nat.exists_eq_add_of_le (le_of_lt hd)
  rw [hg, Nat.add_sub_cancel_left] at hy
  have hlo : y * g ≤ yp * yp + c := hy ▸ Nat.div_mul_le_self _ _
  have hhi : yp * yp + c < (y + 1) * g := hy ▸ lt_succ_div_mul _ (by omega)
  have hgz : (g : ℤ) = 2 * (yp : ℤ) + b - d := by omega
  obtain ⟨r1, r2⟩ := y_residual_int yp y b c d g hgz (by exact_mod_cast hlo) (by exact_mod_cast hhi)
    (by omega) (by omega)
  exact ⟨hgz ▸ r2, r1⟩

/-- whatever the y-solver returns was produced by one Newton step from some `y_prev` within one unit of it, and
    fits in 128 bits; with `ssYStep_residual` this gives `−(2·y_prev + b − D) < y² + (b−D)·y − c ≤ 1` (over ℤ),
    which is how `C03.y_residual` reads it -/
theorem ssYLoop_residual : ∀ (k b c d y0 y : Nat), ssYLoop k b c d y0 = .ok y →
    ∃ yp : Nat, ssYStep b c d yp = .ok y ∧ y ≤ yp + 1 ∧ yp ≤ y + 1 ∧ y ≤ U128MAX := by
  intro k
  induction k with
  | zero => intro b c d y0 y h; cases h
  | succ k ih =>
    intro b c d y0 y h
    unfold ssYLoop at h
    obtain ⟨y', hs, h⟩ := Res.bind_eq_ok.mp h
    obtain ⟨diff, l1, l2, h⟩ := absDiff_bind_ok h
    split at h
    · obtain ⟨l, rfl⟩ := to128_eq_ok.mp h
      exact ⟨y0, hs, by omega, by omega, l⟩
    · exact ih b c d y' y h

/-- the y-solver never returns after the iteration cap: zero iterations left is `ConvergeError` -/
theorem ssYLoop_zero (b c d y : Nat) : ssYLoop 0 b c d y = .err := rfl

theorem lpMintQuot_inv {S d0 d1 q : Nat} (h : lpMintQuot S d0 d1 = .ok q) :
    d0 ≤ d1 ∧ d0 ≠ 0 ∧ q = S * (d1 - d0) / d0 ∧ q ≤ U128MAX := by
  simp only [lpMintQuot, Res.bind_eq_ok, psub_eq_ok, pmul_eq_ok, pdiv_eq_ok, Res.pure_eq] at h
  obtain ⟨_, ⟨l1, rfl⟩, _, ⟨-, rfl⟩, _, ⟨l3, rfl⟩, h⟩ := h
  obtain ⟨l4, rfl⟩ := Res.ite_panic_eq_ok.mp h
  exact ⟨l1, l3, rfl, l4⟩

theorem ssLpMint_inv {amp da db sa sb S m : Nat} (h : ssLpMint amp da db sa sb S = .ok (some m)) :
    ∃ d0 d1, computeD amp sa sb = .ok d0 ∧ computeD amp (sa + da) (sb + db) = .ok d1 ∧
      d0 < d1 ∧ d0 ≠ 0 ∧ m = S * (d1 - d0) / d0 ∧ m ≤ U128MAX := by
  simp only [ssLpMint, Res.bind_eq_ok, padd_eq_ok] at h
  obtain ⟨d0, h0, _, ⟨-, rfl⟩, _, ⟨-, rfl⟩, d1, h1, h⟩ := h
  split at h
  · cases h
  · simp only [Res.bind_eq_ok, Res.pure_eq, Res.ok.injEq, Option.some.injEq] at h
    obtain ⟨_, hq, rfl⟩ := h
    obtain ⟨-, l2, e, l4⟩ := lpMintQuot_inv hq
    exact ⟨d0, d1, h0, h1, by omega, l2, e, l4⟩

theorem mint_le_core {S d0 d1 m : Nat} (hlt : d0 < d1) (hm : m = S * (d1 - d0) / d0) :
    m * d0 ≤ S * (d1 - d0) ∧ d0 * (S + m) ≤ d1 * S := by
  have h1 : m * d0 ≤ S * (d1 - d0) := hm ▸ Nat.div_mul_le_self _ _
  refine ⟨h1, ?_⟩
  obtain ⟨e, rfl⟩ := Nat.exists_eq_add_of_le (le_of_lt hlt)
  rw [Nat.add_sub_cancel_left] at h1
  calc d0 * (S + m) = d0 * S + m * d0 := by rw [Nat.mul_add, Nat.mul_comm d0 m]
    _ ≤ d0 * S + S * e := Nat.add_le_add_left h1 _
    _ = (d0 + e) * S := by rw [Nat.add_mul, Nat.mul_comm S e]

theorem computeNextD_ne_err (amp dI dP s : Nat) : computeNextD amp dI dP s ≠ .err := by
  simp [computeNextD, pmul64, Res.bind_eq_err, pmul_ne_err, padd_ne_err, psub_ne_err, pdiv_ne_err]

theorem computeDStep_ne_err (amp a2 b2 s d : Nat) : computeDStep amp a2 b2 s d ≠ .err := by
  simp [computeDStep, Res.bind_eq_err, pmul_ne_err, pdiv_ne_err, computeNextD_ne_err]

theorem computeDLoop_ne_err : ∀ (k amp a2 b2 s d : Nat), computeDLoop k amp a2 b2 s d ≠ .err := by
  intro k
  induction k with
  | zero => intro amp a2 b2 s d; simp [computeDLoop]
  | succ k ih =>
    intro amp a2 b2 s d
    unfold computeDLoop
    simp only [ne_eq, Res.bind_eq_err, computeDStep_ne_err, false_or, not_exists, not_and]
    intro d' _
    split <;> split <;> simp [ih]

/-- `compute_d` has no error exit: it returns a value or panics (its `Option` is always `Some`) -/
theorem computeD_ne_err (amp a b : Nat) : computeD amp a b ≠ .err := by
  unfold computeD
  simp only [ne_eq, Res.bind_eq_err, padd_ne_err, false_or, not_exists, not_and]
  intro s _
  split <;> simp [Res.bind_eq_err, pmul_ne_err, computeDLoop_ne_err]

/-- what `compute_d`'s loop returns is either the start value with the cap exhausted at once
    (`k = 0`) or the result of a Newton step from some `prev` — but, unlike the Decimal256 solver,
    not necessarily one that met the `|Δ| ≤ 1` test (the loop falls through after 256 rounds) -/
theorem computeDLoop_result : ∀ (k amp a2 b2 s d r : Nat), computeDLoop k amp a2 b2 s d = .ok r →
    (k = 0 ∧ r = d) ∨ ∃ prev, computeDStep amp a2 b2 s prev = .ok r := by
  intro k
  induction k with
  | zero => intro amp a2 b2 s d r h; cases h; exact Or.inl ⟨rfl, rfl⟩
  | succ k ih =>
    intro amp a2 b2 s d r h
    unfold computeDLoop at h
    obtain ⟨d', hs, h⟩ := Res.bind_eq_ok.mp h
    have arm : ∀ (c : Prop) [Decidable c],
        (if c then pure d' else computeDLoop k amp a2 b2 s d') = .ok r →
        ∃ prev, computeDStep amp a2 b2 s prev = .ok r := by
      intro c _ h
      split at h
      · cases h; exact ⟨d, hs⟩
      · rcases ih amp a2 b2 s d' r h with ⟨_, rfl⟩ | hp
        · exact ⟨d, hs⟩
        · exact hp
    right
    split at h <;> exact arm _ h

/-- the Decimal256 d-solver returns only values that met its termination test: the result of a
    Newton step from some `prev` with `|d − prev| ≤ 10^(18−precision)`; exhausting the 32 rounds is
    `ConvergeError` -/
theorem ssDLoop_ok_close : ∀ (k op ap ann sum prec cur d : Nat),
    ssDLoop k op ap ann sum prec cur = .ok d →
    ∃ prev thr, ssDStep op ap ann sum prev = .ok d ∧ dec256WithPrecision 1 prec = .ok thr ∧
      d ≤ prev + thr ∧ prev ≤ d + thr := by
  intro k
  induction k with
  | zero => intro op ap ann sum prec cur d h; cases h
  | succ k ih =>
    intro op ap ann sum prec cur d h
    unfold ssDLoop at h
    obtain ⟨d', hs, h⟩ := Res.bind_eq_ok.mp h
    obtain ⟨diff, l1, l2, h⟩ := absDiff_bind_ok h
    obtain ⟨thr, h2, h⟩ := Res.bind_eq_ok.mp h
    split at h
    · cases h; exact ⟨cur, thr, hs, h2, by omega, by omega⟩
    · exact ih _ _ _ _ _ _ _ h

theorem ssDLoop_zero (op ap ann sum prec cur : Nat) : ssDLoop 0 op ap ann sum prec cur = .err := rfl

theorem floor_add_three_le (x y z : Nat) {E : Nat} (hE : 0 < E) :
    (x + y + z) / E ≤ x / E + y / E + z / E + 2 :=
  (floor_le_iff hE).mpr <|
    calc x + y + z < (x / E + 1) * E + (y / E + 1) * E + (z / E + 1) * E :=
        Nat.add_lt_add (Nat.add_lt_add (lt_succ_div_mul x hE) (lt_succ_div_mul y hE))
          (lt_succ_div_mul z hE)
      _ = (x / E + y / E + z / E + 2 + 1) * E := by ring

/-- proceeds = gross − Σ⌊share·gross⌋ with three separately floored fees can step DOWN when the
    gross output grows, but by at most 2 base units: the three floors at `g + δ` are together at most
    `⌊(g+δ)·Σshare⌋ ≤ ⌊g·Σshare⌋ + δ`, and that single floor is at most 2 above the three at `g` -/
theorem proceeds_mono_upto_two {g g' r r' s p b : Nat} (hle : g ≤ g') (hsum : s + p + b ≤ E18)
    (hr : r + feeOf s g + feeOf p g + feeOf b g = g)
    (hr' : r' + feeOf s g' + feeOf p g' + feeOf b g' = g') : r ≤ r' + 2 := by
  unfold feeOf at hr hr'
  obtain ⟨δ, rfl⟩ := Nat.exists_eq_add_of_le hle
  have h1 := three_floors_le (g + δ) s p b E18
  have h2 : (g + δ) * (s + p + b) / E18 ≤ g * (s + p + b) / E18 + δ := by
    rw [Nat.add_mul, ← Nat.add_mul_div_right _ _ E18_pos]
    exact Nat.div_le_div_right (Nat.add_le_add_left (Nat.mul_le_mul_left δ hsum) _)
  have h3 : g * (s + p + b) / E18 ≤ g * s / E18 + g * p / E18 + g * b / E18 + 2 := by
    rw [Nat.mul_add, Nat.mul_add]
    exact floor_add_three_le _ _ _ E18_pos
  omega

/-- the quadratic the code's y-solver iterates on, in terms of the code's own `D` (at ask precision)
    and the new offer-side pool sum -/
theorem ssY_inv {op ap off amp pa dir y : Nat} (h : ssY op ap off amp pa dir = .ok y) :
    ∃ dDec d psDec ps c b,
      ssD op ap amp pa = .ok dDec ∧ dec256ToUintPrecision dDec pa = .ok d ∧
      (if dir = 0 then cadd U256MAX op off else csub ap off) = .ok psDec ∧
      dec256ToUintPrecision psDec pa = .ok ps ∧
      c = d * d / (ps * SS_N) * d / (amp * SS_N * SS_N) ∧ b = ps + d / (amp * SS_N) ∧
      ssYLoop Gen.PAIR_NEWTON_ITERATIONS b c d d = .ok y := by
  simp only [ssY, Res.bind_eq_ok, cmul_eq_ok, mulRatioC_eq_ok, cdiv_eq_ok, cadd_eq_ok] at h
  obtain ⟨_, ⟨-, rfl⟩, dDec, h2, d, h3, psDec, h4, ps, h5, _, ⟨-, rfl⟩, _, ⟨-, -, rfl⟩, _, ⟨-, rfl⟩,
    _, ⟨-, -, rfl⟩, _, ⟨-, rfl⟩, _, ⟨-, rfl⟩, h⟩ := h
  exact ⟨dDec, d, psDec, ps, _, _, h2, h3, h4, h5, rfl, rfl, h⟩

def lpSum (l : List SsUser) : Nat := (l.map (·.lp)).sum

theorem lpSum_set (l : List SsUser) (u : Nat) (x d : SsUser) (h : u < l.length) :
    lpSum (l.set u x) + (l.getD u d).lp = lpSum l + x.lp :=
  sum_map_set (·.lp) l u x d h

theorem lp_le_lpSum (l : List SsUser) (u : Nat) (d : SsUser) (h : u < l.length) :
    (l.getD u d).lp ≤ lpSum l :=
  le_trans (Nat.le_add_left _ _) (le_of_eq (lpSum_set l u ⟨0, 0, 0⟩ d h))

theorem lpSum_set_add (l : List SsUser) (u : Nat) (x : SsUser) (k : Nat) {d : SsUser} (h : u < l.length)
    (hx : x.lp = (l.getD u d).lp + k) : lpSum (l.set u x) = lpSum l + k := by
  have := lpSum_set l u x d h
  omega

theorem lpSum_set_sub {l : List SsUser} {u : Nat} {x : SsUser} {k : Nat} {d : SsUser} (h : u < l.length)
    (hk : k ≤ (l.getD u d).lp)
    (hx : x.lp = (l.getD u d).lp - k) : lpSum (l.set u x) + k = lpSum l := by
  have := lpSum_set l u x d h
  omega

/-- pending protocol fees are covered by the balances and the LP supply is exactly the pair's own
    holding plus the users' holdings -/
structure SsInv (s : SsSt) : Prop where
  p0 : s.pend0 ≤ s.bal0
  p1 : s.pend1 ≤ s.bal1
  lp : s.sup = s.lpPair + lpSum s.users

theorem ssSwap_sum_le {opool apool off : Nat} {f : Fees} {amp po pa : Nat} {c : SwapComp}
    (h : ssSwap opool apool off f amp po pa = .ok c) :
    c.ret + c.swapFee + c.protFee + c.burnFee ≤ apool := by
  obtain ⟨_, _, _, y, -, -, -, -, -, hs, -⟩ := ssSwap_inv h
  exact hs ▸ Nat.sub_le _ _

/-- … so what leaves the ask side (proceeds, protocol fee, burn) is within it -/
theorem ssSwap_pay_le {opool apool off : Nat} {f : Fees} {amp po pa : Nat} {c : SwapComp}
    (h : ssSwap opool apool off f amp po pa = .ok c) : c.ret + c.protFee + c.burnFee ≤ apool :=
  le_trans (by omega) (ssSwap_sum_le h)

/-- paying out `x` of the reported reserve `bal − pend` leaves the pending fees covered -/
theorem pend_le_sub {bal pend x : Nat} (h : pend ≤ bal) (hx : x ≤ bal - pend) :
    pend ≤ bal - x := by
  omega

theorem SsInv.init (a b : Nat) : SsInv (ssInit a b) := by
  constructor <;> simp [ssInit, lpSum]

/-- what a successful `provide` did: `lock` is the minimum liquidity the pair keeps on the first
    deposit, `share` what the depositor is minted (on a live pool, the stableswap LP mint) -/
theorem ssProvide_ok {cfg : SsCfg} {s s' : SsSt} {u d0 d1 : Nat}
    (h : ssProvide cfg s u d0 d1 = .ok s') :
    u < s.users.length ∧ s.pend0 ≤ s.bal0 ∧ s.pend1 ≤ s.bal1 ∧
    ∃ lock share,
      (s.sup ≠ 0 → lock = 0 ∧ ssLpMint cfg.amp d0 d1 s.r0 s.r1 s.sup = .ok (some share)) ∧
      s'.bal0 = s.bal0 + d0 ∧ s'.bal1 = s.bal1 + d1 ∧ s'.pend0 = s.pend0 ∧ s'.pend1 = s.pend1 ∧
      s'.sup = s.sup + lock + share ∧ s'.lpPair = s.lpPair + lock ∧
      lpSum s'.users = lpSum s.users + share := by
  simp only [ssProvide, Res.bind_eq_ok, guardErr_eq_ok, decide_eq_true_eq, csub_eq_ok] at h
  obtain ⟨-, hu, -, -, -, -, _, ⟨l0, rfl⟩, _, ⟨l1, rfl⟩, h⟩ := h
  refine ⟨hu, l0, l1, ?_⟩
  split at h
  · rename_i hs
    simp only [Res.bind_eq_ok, to128_eq_ok, guardErr_eq_ok, guardPanic_eq_ok, Res.pure_eq,
      Res.ok.injEq] at h
    obtain ⟨_, -, d, -, -, -, -, -, rfl⟩ := h
    refine ⟨Gen.MINIMUM_LIQUIDITY_AMOUNT * 2, d - Gen.MINIMUM_LIQUIDITY_AMOUNT * 2,
      fun hne => absurd hs hne, rfl, rfl, rfl, rfl, ?_, rfl, lpSum_set_add _ _ _ _ hu rfl⟩
    show _ = s.sup + _ + _
    rw [hs, Nat.zero_add]
    rfl
  · obtain ⟨m, hm, h⟩ := Res.bind_eq_ok.mp h
    cases m with
    | none => cases h
    | some share =>
      simp only [Res.bind_eq_ok, guardPanic_eq_ok, Res.pure_eq, Res.ok.injEq] at h
      obtain ⟨-, -, rfl⟩ := h
      exact ⟨0, share, fun _ => ⟨rfl, hm⟩, rfl, rfl, rfl, rfl, rfl, rfl,
        lpSum_set_add _ _ _ _ hu rfl⟩

theorem SsInv.provide {cfg : SsCfg} {s s' : SsSt} {u d0 d1 : Nat} (hI : SsInv s)
    (h : ssProvide cfg s u d0 d1 = .ok s') : SsInv s' := by
  obtain ⟨-, -, -, lock, share, -, e0, e1, q0, q1, es, ep, el⟩ := ssProvide_ok h
  obtain ⟨p0, p1, lp⟩ := hI
  refine ⟨?_, ?_, ?_⟩
  · rw [q0, e0]; exact le_trans p0 (Nat.le_add_right _ _)
  · rw [q1, e1]; exact le_trans p1 (Nat.le_add_right _ _)
  · rw [es, ep, el, lp]; omega

/-- what a successful swap did: `c` is the `compute_swap` result on the reported reserves -/
theorem ssSwapOp_ok {cfg : SsCfg} {s s' : SsSt} {u dir off : Nat}
    (h : ssSwapOp cfg s u dir off = .ok s') :
    s.pend0 ≤ s.bal0 ∧ s.pend1 ≤ s.bal1 ∧ s'.sup = s.sup ∧ s'.lpPair = s.lpPair ∧
    lpSum s'.users = lpSum s.users ∧
    ∃ c, if dir = 0 then
        ssSwap s.r0 s.r1 off cfg.fees cfg.amp cfg.dec0 cfg.dec1 = .ok c ∧
        s'.bal0 = s.bal0 + off ∧ s'.pend0 = s.pend0 ∧
        s'.bal1 = s.bal1 - c.ret - c.burnFee ∧ s'.pend1 = s.pend1 + c.protFee
      else
        ssSwap s.r1 s.r0 off cfg.fees cfg.amp cfg.dec1 cfg.dec0 = .ok c ∧
        s'.bal1 = s.bal1 + off ∧ s'.pend1 = s.pend1 ∧
        s'.bal0 = s.bal0 - c.ret - c.burnFee ∧ s'.pend0 = s.pend0 + c.protFee := by
  simp only [ssSwapOp, Res.bind_eq_ok, guardErr_eq_ok, decide_eq_true_eq, csub_eq_ok] at h
  obtain ⟨-, hu, -, -, -, -, -, -, _, ⟨l0, rfl⟩, _, ⟨l1, rfl⟩, c, hc, _, -, _, -, _, -, -, -, h⟩ := h
  refine ⟨l0, l1, ?_⟩
  by_cases hdir : dir = 0
  · simp only [if_pos hdir] at hc h ⊢
    cases h
    exact ⟨rfl, rfl, lpSum_set_add _ _ _ 0 hu rfl, c, hc, rfl, rfl, rfl, rfl⟩
  · simp only [if_neg hdir] at hc h ⊢
    cases h
    exact ⟨rfl, rfl, lpSum_set_add _ _ _ 0 hu rfl, c, hc, rfl, rfl, rfl, rfl⟩

theorem SsInv.swapOp {cfg : SsCfg} {s s' : SsSt} {u dir off : Nat} (hI : SsInv s)
    (h : ssSwapOp cfg s u dir off = .ok s') : SsInv s' := by
  obtain ⟨-, -, es, ep, el, c, h⟩ := ssSwapOp_ok h
  obtain ⟨p0, p1, lp⟩ := hI
  have hlp : s'.sup = s'.lpPair + lpSum s'.users := by rw [es, ep, el]; exact lp
  split at h <;> obtain ⟨hc, e0, q0, e1, q1⟩ := h
  · exact ⟨by rw [q0, e0]; exact le_trans p0 (Nat.le_add_right _ _),
      by rw [q1, e1]; exact (res_after_pay rfl p1 (ssSwap_pay_le hc)).2.1, hlp⟩
  · exact ⟨by rw [q1, e1]; exact (res_after_pay rfl p0 (ssSwap_pay_le hc)).2.1,
      by rw [q0, e0]; exact le_trans p1 (Nat.le_add_right _ _), hlp⟩

/-- what a successful withdrawal did: both reported reserves are paid out in the ratio
    `amt / supply` (18-decimal, floored) -/
theorem ssWithdraw_ok {cfg : SsCfg} {s s' : SsSt} {u amt : Nat}
    (h : ssWithdraw cfg s u amt = .ok s') :
    u < s.users.length ∧ amt ≤ (s.user u).lp ∧ s.pend0 ≤ s.bal0 ∧ s.pend1 ≤ s.bal1 ∧
    ∃ ratio x0 x1, ratio = amt * E18 / s.sup ∧ x0 = s.r0 * ratio / E18 ∧ x1 = s.r1 * ratio / E18 ∧
      s'.bal0 = s.bal0 - x0 ∧ s'.bal1 = s.bal1 - x1 ∧ s'.pend0 = s.pend0 ∧ s'.pend1 = s.pend1 ∧
      s'.sup = s.sup - amt ∧ s'.lpPair = s.lpPair ∧ lpSum s'.users + amt = lpSum s.users := by
  simp only [ssWithdraw, Res.bind_eq_ok, guardErr_eq_ok, decide_eq_true_eq, csub_eq_ok,
    dec128FromRatio_eq_ok, u128MulDec_eq_ok, Res.pure_eq, Res.ok.injEq] at h
  obtain ⟨-, hu, -, hamt, _, ⟨l0, rfl⟩, _, ⟨l1, rfl⟩, ratio, ⟨-, -, er⟩, x0, ⟨-, ex0⟩, x1, ⟨-, ex1⟩,
    -, -, rfl⟩ := h
  exact ⟨hu, hamt, l0, l1, ratio, x0, x1, er, ex0, ex1, rfl, rfl, rfl, rfl, rfl, rfl,
    lpSum_set_sub hu hamt rfl⟩

theorem SsInv.withdraw {cfg : SsCfg} {s s' : SsSt} {u amt : Nat} (hI : SsInv s)
    (h : ssWithdraw cfg s u amt = .ok s') : SsInv s' := by
  obtain ⟨hu, hamt, l0, l1, ratio, x0, x1, er, ex0, ex1, e0, e1, q0, q1, es, ep, el⟩ :=
    ssWithdraw_ok h
  -- the user's LP is part of the supply, so the share ratio is at most one
  have hsup : amt ≤ s.sup :=
    le_trans hamt (le_trans (lp_le_lpSum s.users u _ hu) (hI.lp ▸ Nat.le_add_left _ _))
  have hx0 : x0 ≤ s.bal0 - s.pend0 := by rw [ex0, er]; exact pro_rata_le hsup
  have hx1 : x1 ≤ s.bal1 - s.pend1 := by rw [ex1, er]; exact pro_rata_le hsup
  refine ⟨?_, ?_, ?_⟩
  · rw [q0, e0]; exact pend_le_sub hI.p0 hx0
  · rw [q1, e1]; exact pend_le_sub hI.p1 hx1
  -- `lpPair + (Σ' + amt) − amt`; with the five subtractions in scope `omega` is many times dearer
  · rw [es, ep, hI.lp, ← el, ← Nat.add_assoc, Nat.add_sub_cancel]

theorem ssCollectSide_le {bal pend b' p' : Nat} (hle : pend ≤ bal)
    (h : ssCollectSide bal pend = .ok (b', p')) : p' ≤ b' := by
  unfold ssCollectSide at h
  split at h
  · obtain ⟨b, hb, h⟩ := Res.bind_eq_ok.mp h
    cases h
    exact Nat.zero_le _
  · cases h; exact hle

theorem SsInv.collect {s s' : SsSt} (hI : SsInv s) (h : ssCollect s = .ok s') : SsInv s' := by
  unfold ssCollect at h
  obtain ⟨x0, h0, h⟩ := Res.bind_eq_ok.mp h
  obtain ⟨x1, h1, h⟩ := Res.bind_eq_ok.mp h
  cases h
  exact ⟨ssCollectSide_le hI.p0 (by simpa using h0), ssCollectSide_le hI.p1 (by simpa using h1), hI.lp⟩

theorem SsInv.step {cfg : SsCfg} {s s' : SsSt} {op : SsOp} (hI : SsInv s)
    (h : ssStep cfg s op = .ok s') : SsInv s' := by
  cases op with
  | provide u a b => exact SsInv.provide hI h
  | swap u dir off => exact SsInv.swapOp hI h
  | withdraw u amt => exact SsInv.withdraw hI h
  | collect => exact SsInv.collect hI h

theorem SsInv.reach (cfg : SsCfg) :
    ∀ (ops : List SsOp) (s : SsSt), SsInv s → SsInv (ssReach cfg s ops) := by
  intro ops
  induction ops with
  | nil => intro s h; exact h
  | cons op ops ih =>
    intro s h
    unfold ssReach
    split
    · rename_i s' hs; exact ih s' (SsInv.step h hs)
    · exact ih s h

end WW
