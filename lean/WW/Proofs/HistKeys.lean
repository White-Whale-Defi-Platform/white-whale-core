/- `maxKey` / `maxKeyLE` on association lists with distinct keys (C11, C12, C13). -/
import WW.Proofs.Incentive
import WW.Proofs.BTreeKeys
namespace WW.Inc
open WW WW.Gen

section Keys
variable {α : Type}

theorem maxKey_none_iff (l : List (Nat × α)) : maxKey l = none ↔ l = [] :=
  btreeLastKeyValue_eq_maxKey l ▸ btreeLastKeyValue_none_iff l

theorem maxKey_some_iff {l : List (Nat × α)} (hn : (keysOf l).Nodup) (p : Nat × α) :
    maxKey l = some p ↔ p ∈ l ∧ ∀ q ∈ l, q.1 ≤ p.1 := by
  have hsome : ∀ {r}, maxKey l = some r → r ∈ l ∧ ∀ q ∈ l, q.1 ≤ r.1 := fun h =>
    btreeLastKeyValue_some ((btreeLastKeyValue_eq_maxKey l).trans h)
  refine ⟨hsome, fun ⟨hp, hmax⟩ => ?_⟩
  cases hm : maxKey l with
  | none => rw [(maxKey_none_iff l).mp hm] at hp; cases hp
  | some p' =>
    obtain ⟨h1, h2⟩ := hsome hm
    rw [List.inj_on_of_nodup_map hn h1 hp (Nat.le_antisymm (hmax p' h1) (h2 p hp))]

theorem maxKeyLE_of_all_le {l : List (Nat × α)} {e : Nat} (h : ∀ q ∈ l, q.1 ≤ e) : maxKeyLE l e = maxKey l := by
  rw [maxKeyLE_eq_filter, List.filter_eq_self.mpr fun x hx => decide_eq_true (h x hx)]

/-- the recursion of `maxKeyLE` in its bound: an entry at the bound is the answer; a bound that is no key can be
    lowered by one (`maxKeyLE_succ`), and at `0` leaves nothing (`maxKeyLE_zero`) -/
theorem maxKeyLE_top {l : List (Nat × α)} {e : Nat} (hn : (keysOf l).Nodup) {v : α} (h : (e, v) ∈ l) : maxKeyLE l e = some (e, v) := by
  rw [maxKeyLE_eq_filter, maxKey_some_iff (nodup_keys_filter _ hn)]
  exact ⟨List.mem_filter.mpr ⟨h, decide_eq_true (Nat.le_refl e)⟩,
    fun q hq => of_decide_eq_true (List.mem_filter.mp hq).2⟩

theorem maxKeyLE_succ {l : List (Nat × α)} {e : Nat} (h : ∀ p ∈ l, p.1 ≠ e + 1) : maxKeyLE l (e + 1) = maxKeyLE l e := by
  rw [maxKeyLE_eq_filter, maxKeyLE_eq_filter]
  congr 1
  exact List.filter_congr fun p hp =>
    decide_eq_decide.mpr ⟨fun hle => Nat.le_of_lt_succ (Nat.lt_of_le_of_ne hle (h p hp)), Nat.le_succ_of_le⟩

theorem maxKeyLE_zero {l : List (Nat × α)} (h : ∀ p ∈ l, p.1 ≠ 0) : maxKeyLE l 0 = none := by
  rw [maxKeyLE_eq_filter, maxKey_none_iff, List.filter_eq_nil_iff]
  exact fun p hp hle => h p hp (Nat.le_zero.mp (of_decide_eq_true hle))

theorem aset_keys_le {l : List (Nat × α)} {k m : Nat} {v : α} (hk : k ≤ m) (h : ∀ q ∈ l, q.1 ≤ m) :
    ∀ q ∈ aset l k v, q.1 ≤ m := fun q hq => by
  rcases (mem_aset l k v).2.1 q hq with rfl | hq
  · exact hk
  · exact h q hq

/-- writing at a key that no key exceeds makes that entry the last one -/
theorem maxKey_aset_top {l : List (Nat × α)} {k : Nat} (v : α) (hn : (keysOf l).Nodup)
    (hall : ∀ q ∈ l, q.1 ≤ k) : maxKey (aset l k v) = some (k, v) :=
  (maxKey_some_iff (nodup_keys_aset k v hn) _).mpr ⟨(mem_aset l k v).1, aset_keys_le (Nat.le_refl k) hall⟩

/-- writing below some key leaves the last entry -/
theorem maxKey_aset_of_lt {l : List (Nat × α)} {k : Nat} (v : α) {q : Nat × α} (hn : (keysOf l).Nodup)
    (hq : q ∈ l) (hk : k < q.1) : maxKey (aset l k v) = maxKey l := by
  cases hm : maxKey l with
  | none => rw [(maxKey_none_iff l).mp hm] at hq; cases hq
  | some p =>
    obtain ⟨hp, hmax⟩ := (maxKey_some_iff hn p).mp hm
    have hkp := Nat.lt_of_lt_of_le hk (hmax q hq)
    exact (maxKey_some_iff (nodup_keys_aset k v hn) _).mpr
      ⟨(mem_aset l k v).2.2 p hp (Nat.ne_of_gt hkp), aset_keys_le (Nat.le_of_lt hkp) hmax⟩

end Keys

end WW.Inc
