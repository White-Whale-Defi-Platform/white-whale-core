/-
  Lemmas for C16 (authorisation model): what `stepP`, `admitsP` and `effect` of `WW.Model.Auth` do, the
  completeness of the enumerations, and the facts read off the table `requires`.
-/
import WW.Model.Auth
namespace WW.Auth
open WW

theorem stepP_ok_iff {s : St} {m : Msg} {pl : Payload} {p : Principal} {s' : St} :
    stepP s m pl p = .ok s' ↔
      (admitsP s m pl.flow p = true ∧ subcallsAdmitted s m = true ∧ s' = effect s m pl) := by
  unfold stepP
  cases admitsP s m pl.flow p <;> cases subcallsAdmitted s m <;> simp [eq_comm]

theorem stepP_err_of_not_admits {s : St} {m : Msg} {pl : Payload} {p : Principal}
    (h : admitsP s m pl.flow p = false) : stepP s m pl p = .err := by
  unfold stepP
  rw [h]
  rfl

theorem stepP_err_of_subcall_refused {s : St} {m : Msg} (h : subcallsAdmitted s m = false) (pl : Payload)
    (p : Principal) : stepP s m pl p = .err := by
  unfold stepP
  rw [h]
  cases admitsP s m pl.flow p <;> rfl

theorem stepP_never_panics (s : St) (m : Msg) (pl : Payload) (p : Principal) :
    stepP s m pl p ≠ .panic := by
  unfold stepP
  cases admitsP s m pl.flow p <;> cases subcallsAdmitted s m <;> simp

theorem allContracts_complete (c : Contract) : c ∈ allContracts := by cases c <;> decide

theorem allRoles_complete (r : Role) : r ∈ allRoles := by
  cases r with
  | hub c => exact List.mem_append_right _ (List.mem_map_of_mem (allContracts_complete c))
  | _ => exact List.mem_append_left _ (by decide)

/-- `allMsgs` is fifteen blocks, one per contract, appended from the left: a message of the `k`-th contract
    is found in the `k`-th block, and each block lists every variant of its contract. -/
theorem allMsgs_complete (m : Msg) : m ∈ allMsgs := by
  unfold allMsgs
  cases m with
  | terraswap_factory v =>
    iterate 14 apply List.mem_append_left
    exact List.mem_map_of_mem (by cases v <;> decide)
  | terraswap_pair v =>
    iterate 13 apply List.mem_append_left
    exact List.mem_append_right _ (List.mem_map_of_mem (by cases v <;> decide))
  | stableswap_3pool v =>
    iterate 12 apply List.mem_append_left
    exact List.mem_append_right _ (List.mem_map_of_mem (by cases v <;> decide))
  | terraswap_router v =>
    iterate 11 apply List.mem_append_left
    exact List.mem_append_right _ (List.mem_map_of_mem (by cases v <;> decide))
  | terraswap_token v =>
    iterate 10 apply List.mem_append_left
    exact List.mem_append_right _ (List.mem_map_of_mem (by cases v <;> decide))
  | incentive_factory v =>
    iterate 9 apply List.mem_append_left
    exact List.mem_append_right _ (List.mem_map_of_mem (by cases v <;> decide))
  | incentive v =>
    iterate 8 apply List.mem_append_left
    exact List.mem_append_right _ (List.mem_map_of_mem (by cases v <;> decide))
  | frontend_helper v =>
    iterate 7 apply List.mem_append_left
    exact List.mem_append_right _ (List.mem_map_of_mem (by cases v <;> decide))
  | vault_factory v =>
    iterate 6 apply List.mem_append_left
    exact List.mem_append_right _ (List.mem_map_of_mem (by cases v <;> decide))
  | vault v =>
    iterate 5 apply List.mem_append_left
    exact List.mem_append_right _ (List.mem_map_of_mem (by cases v <;> decide))
  | vault_router v =>
    iterate 4 apply List.mem_append_left
    exact List.mem_append_right _ (List.mem_map_of_mem (by cases v <;> decide))
  | fee_collector v =>
    iterate 3 apply List.mem_append_left
    exact List.mem_append_right _ (List.mem_map_of_mem (by cases v <;> decide))
  | fee_distributor v =>
    iterate 2 apply List.mem_append_left
    exact List.mem_append_right _ (List.mem_map_of_mem (by cases v <;> decide))
  | whale_lair v =>
    apply List.mem_append_left
    exact List.mem_append_right _ (List.mem_map_of_mem (by cases v <;> decide))
  | epoch_manager v =>
    exact List.mem_append_right _ (List.mem_map_of_mem (by cases v <;> decide))

theorem forall_msg_of_all {P : Msg → Prop} [DecidablePred P] (h : ∀ m ∈ allMsgs, P m) : ∀ m, P m :=
  fun m => h m (allMsgs_complete m)

theorem forall_role_of_all {P : Role → Prop} [DecidablePred P] (h : ∀ r ∈ allRoles, P r) : ∀ r, P r :=
  fun r => h r (allRoles_complete r)

@[simp] theorem setOwner_same (s : St) (c : Contract) (p : Principal) : (s.setOwner c p).owner c = p := by
  simp [St.setOwner]

theorem setOwner_other (s : St) {c c' : Contract} (p : Principal) (h : c' ≠ c) :
    (s.setOwner c p).owner c' = s.owner c' := by
  simp [St.setOwner, h]

theorem holds_self_iff (s : St) (c : Contract) (sel : FlowSel) (p : Principal) :
    holds s c sel .self p = true ↔ p = .contract c := beq_iff_eq

/-- no rule looks at the loan flag -/
theorem holds_withLoan (s : St) (b : Bool) (c : Contract) (sel : FlowSel) (rule : AuthRule) (p : Principal) :
    holds (s.withLoan b) c sel rule p = holds s c sel rule p := by
  cases rule <;> rfl

theorem loanGuarded_iff (m : Msg) : loanGuarded m = true ↔ m = .vault .FlashLoan := by
  unfold loanGuarded
  split <;> simp_all

/-- every guarded-by-loan entry point is permissionless: no variant with a sender rule is loan-guarded -/
theorem rule_not_loanGuarded (m : Msg) (h : (requires m).isSome = true) : loanGuarded m = false :=
  Bool.eq_false_iff.mpr fun hl => by
    rw [(loanGuarded_iff m).mp hl] at h
    cases h

/-- for a variant with a sender rule the verdict IS the rule, in every state (loan in flight or not) -/
theorem admitsP_of_rule {s : St} {m : Msg} {rule : AuthRule} (sel : FlowSel) (p : Principal)
    (hr : requires m = some rule) : admitsP s m sel p = holds s m.contract sel rule p := by
  have hg : loanGuarded m = false := rule_not_loanGuarded m (by rw [hr]; rfl)
  unfold admitsP
  rw [hr, hg]
  simp

/-- the loan flag enters the verdict through the loan guard and nowhere else -/
theorem admitsP_withLoan (s : St) (b : Bool) (m : Msg) (sel : FlowSel) (p : Principal) :
    admitsP (s.withLoan b) m sel p = (!(b && loanGuarded m) && admitsP (s.withLoan false) m sel p) := by
  unfold admitsP
  cases requires m with
  | none => rfl
  | some rule =>
    simp only [holds_withLoan]
    rfl

@[simp] theorem flowEffect_owner (s : St) (m : Msg) (sel : FlowSel) : (flowEffect s m sel).owner = s.owner := by
  unfold flowEffect
  split
  · split <;> rfl
  · rfl

@[simp] theorem flowEffect_loan (s : St) (m : Msg) (sel : FlowSel) : (flowEffect s m sel).loan = s.loan := by
  unfold flowEffect
  split
  · split <;> rfl
  · rfl

theorem flowEffect_of_ne {m : Msg} (hm : m ≠ .incentive .CloseFlow) (s : St) (sel : FlowSel) :
    flowEffect s m sel = s := by
  unfold flowEffect
  split
  · exact absurd rfl hm
  · rfl

@[simp] theorem ownerEffect_flows (s : St) (m : Msg) (no : Option Principal) : (ownerEffect s m no).flows = s.flows := by
  unfold ownerEffect
  split <;> rfl

@[simp] theorem ownerEffect_loan (s : St) (m : Msg) (no : Option Principal) : (ownerEffect s m no).loan = s.loan := by
  unfold ownerEffect
  split <;> rfl

theorem ownerEffect_owner {m : Msg} {c : Contract} (h : ownerTarget m ≠ some c) (s : St) (no : Option Principal) :
    (ownerEffect s m no).owner c = s.owner c := by
  unfold ownerEffect
  split
  · next _ _ c' n hc' => exact setOwner_other s n fun hcc => h (hcc ▸ hc')
  · rfl

theorem effect_of_ownerTarget {m : Msg} {c : Contract} (ht : ownerTarget m = some c) (s : St) (n : Principal)
    (sel : FlowSel) : effect s m ⟨some n, sel⟩ = s.setOwner c n := by
  have hne : m ≠ .incentive .CloseFlow := by rintro rfl; cases ht
  unfold effect ownerEffect
  rw [flowEffect_of_ne hne, ht]

theorem ownerTarget_requires : ∀ m : Msg, (ownerTarget m).isSome = true → requires m = some .owner :=
  forall_msg_of_all (by decide +kernel)

theorem resolve_some {s : St} {sel : FlowSel} {f : Flow} (h : s.resolve sel = some f) :
    f ∈ s.flows ∧ f.matches sel = true := by
  unfold St.resolve at h
  exact ⟨List.mem_of_find?_eq_some h, List.find?_some (p := fun f : Flow => f.matches sel) h⟩

/-- What `St.afterTransfer` evaluates to, owner by owner (`C16.transfer_script_result`): a closed form of
    the post-transfer state for `C16.transfer_matrix` to evaluate the table in. -/
def afterOwner : Contract → Principal
  | .terraswap_router | .terraswap_token | .incentive => .acct .initOwner
  | _ => .acct .newOwner

def afterSt : St := { St.init with owner := afterOwner }

end WW.Auth
