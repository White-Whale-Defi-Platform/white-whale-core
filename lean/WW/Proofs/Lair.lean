/- Lemmas behind C08 (whale_lair model): what each storage-map update does to the ledger sums, what a
   successful handler did, and what every step keeps (`step_ok`, `step_preserves`): the conservation invariant
   `Inv`, well-formedness `Wf`, one entry per key `Uniq`, each user's total `userTotal`; a matured withdrawal
   goes through (`withdraw_succeeds`). -/
import WW.Model.Lair
import WW.Proofs.Res
namespace WW.Lair
open WW

theorem ite_eq_add_ite {c : Prop} [Decidable c] {u v x : Nat} (h : c → u = v + x) :
    (if c then u else v) = v + if c then x else 0 := by
  split <;> simp [*]

theorem ite_add_ite_eq {c : Prop} [Decidable c] {u v x : Nat} (h : c → u + x = v) :
    (if c then u else v) + (if c then x else 0) = v := by
  split <;> simp [*]

theorem ite_add_distrib {c : Prop} [Decidable c] (a b : Nat) :
    (if c then a + b else 0) = (if c then a else 0) + if c then b else 0 := by
  split <;> rfl

theorem getBond_some {a d : Nat} {l : List BondRec} {b : BondRec} (h : getBond a d l = some b) :
    b.addr = a ∧ b.denom = d ∧ b ∈ l := by
  induction l with
  | nil => cases h
  | cons r t ih =>
    unfold getBond at h
    split at h
    next hk => cases h; exact ⟨hk.1, hk.2, List.mem_cons_self⟩
    next => exact ⟨(ih h).1, (ih h).2.1, List.mem_cons_of_mem _ (ih h).2.2⟩

theorem bondedOf_of_get {a d : Nat} {l : List BondRec} {b : BondRec} (h : getBond a d l = some b) :
    bondedOf a d l = b.amount := by
  simp [bondedOf, h]

/-- Σ of the amounts of the entries whose key `(addr, denom)` satisfies `p`: `sumBond`, `sumBondAll` and
    `sumBondOf` at once -/
def sumKey (p : Nat → Nat → Bool) : List BondRec → Nat
  | [] => 0
  | r :: t => (if p r.addr r.denom then r.amount else 0) + sumKey p t

theorem sumBond_eq (d : Nat) (l : List BondRec) : sumBond d l = sumKey (fun _ k => d = k) l := by
  induction l with
  | nil => rfl
  | cons r t ih => simp [sumBond, sumKey, ih, eq_comm (a := d)]

theorem sumBondAll_eq (l : List BondRec) : sumBondAll l = sumKey (fun _ _ => true) l := by
  induction l with
  | nil => rfl
  | cons r t ih => simp [sumBondAll, sumKey, ih]

theorem sumBondOf_eq (a d : Nat) (l : List BondRec) :
    sumBondOf a d l = sumKey (fun j k => a = j ∧ d = k) l := by
  induction l with
  | nil => rfl
  | cons r t ih => simp [sumBondOf, sumKey, ih, eq_comm (a := a), eq_comm (a := d)]

theorem sumKey_upd (p : Nat → Nat → Bool) (n : BondRec) (l : List BondRec) :
    sumKey p (updBond n l) + (if p n.addr n.denom then bondedOf n.addr n.denom l else 0)
      = sumKey p l + (if p n.addr n.denom then n.amount else 0) := by
  induction l with
  | nil => simp [updBond, sumKey, bondedOf, getBond]
  | cons r t ih =>
    by_cases hk : r.addr = n.addr ∧ r.denom = n.denom
    · simp only [updBond, hk, and_self, if_true, sumKey, bondedOf, getBond]
      split <;> omega
    · simp only [updBond, bondedOf, getBond, hk, if_false, sumKey] at ih ⊢
      omega

theorem sumKey_del (p : Nat → Nat → Bool) (a d : Nat) (l : List BondRec) :
    sumKey p (delBond a d l) + (if p a d then bondedOf a d l else 0) = sumKey p l := by
  induction l with
  | nil => simp [delBond, sumKey, bondedOf, getBond]
  | cons r t ih =>
    by_cases hk : r.addr = a ∧ r.denom = d
    · simp only [delBond, hk, and_self, if_true, sumKey, bondedOf, getBond]
      split <;> omega
    · simp only [delBond, bondedOf, getBond, hk, if_false, sumKey] at ih ⊢
      omega

theorem sumKey_bond {nb : BondRec} {a d x : Nat} {l : List BondRec}
    (hn : nb.addr = a ∧ nb.denom = d ∧ nb.amount = bondedOf a d l + x) (p : Nat → Nat → Bool) :
    sumKey p l + (if p a d then x else 0) = sumKey p (updBond nb l) := by
  have := sumKey_upd p nb l
  rw [hn.1, hn.2.1, hn.2.2, ite_add_distrib] at this
  omega

/-- the entry at `(a, d)` loses `x`, and goes when nothing is left -/
theorem sumKey_unbond {b nb : BondRec} {a d x : Nat} {l : List BondRec}
    (hb : getBond a d l = some b) (hn : nb.addr = a ∧ nb.denom = d ∧ nb.amount + x = b.amount)
    (p : Nat → Nat → Bool) :
    sumKey p (if nb.amount = 0 then delBond a d l else updBond nb l) + (if p a d then x else 0) = sumKey p l := by
  split
  next hz =>
    -- nothing is left, so `x` is the whole entry
    have h1 := sumKey_del p a d l
    rw [bondedOf_of_get hb, ← hn.2.2, hz, Nat.zero_add] at h1
    exact h1
  next =>
    have h2 := sumKey_upd p nb l
    rw [hn.1, hn.2.1, bondedOf_of_get hb, ← hn.2.2, ite_add_distrib] at h2
    omega

theorem bondSums {l l' : List BondRec} {a d x : Nat}
    (key : ∀ p : Nat → Nat → Bool, sumKey p l' + (if p a d then x else 0) = sumKey p l) :
    (∀ d', sumBond d' l' + (if d' = d then x else 0) = sumBond d' l) ∧
    sumBondAll l' + x = sumBondAll l ∧
    (∀ a' d', sumBondOf a' d' l' + (if a' = a ∧ d' = d then x else 0) = sumBondOf a' d' l) :=
  ⟨fun d' => by simpa [sumBond_eq] using key fun _ k => d' = k,
    by simpa [sumBondAll_eq] using key fun _ _ => true,
    fun a' d' => by simpa [sumBondOf_eq] using key fun j k => a' = j ∧ d' = k⟩

theorem mem_updBond {n r : BondRec} {l : List BondRec} (h : r ∈ updBond n l) : r = n ∨ r ∈ l := by
  induction l with
  | nil => simpa [updBond] using h
  | cons y t ih =>
    unfold updBond at h
    split at h
    · exact (List.mem_cons.mp h).imp_right (List.mem_cons_of_mem _)
    · rcases List.mem_cons.mp h with h | h
      · exact Or.inr (h ▸ List.mem_cons_self)
      · exact (ih h).imp_right (List.mem_cons_of_mem _)

theorem delBond_sublist (a d : Nat) (l : List BondRec) : (delBond a d l).Sublist l := by
  induction l with
  | nil => exact .slnil
  | cons r t ih =>
    rw [delBond]
    split
    · exact List.sublist_cons_self r t
    · exact ih.cons_cons r

theorem sumKey_zero {p : Nat → Nat → Bool} {l : List BondRec} (h : ∀ r ∈ l, p r.addr r.denom = false) :
    sumKey p l = 0 := by
  induction l with
  | nil => rfl
  | cons r t ih =>
    rw [sumKey, h r List.mem_cons_self, ih fun r hr => h r (List.mem_cons_of_mem _ hr)]
    rfl

theorem sumBond_zero_of_no_denom {d : Nat} {l : List BondRec} (h : ∀ r ∈ l, r.denom ≠ d) : sumBond d l = 0 := by
  rw [sumBond_eq]
  exact sumKey_zero fun r hr => decide_eq_false fun hd => h r hr hd.symm

theorem aggAsset_cons {d x e y : Nat} {t l' : List (Nat × Nat)} :
    aggAsset d x ((e, y) :: t) = .ok l' ↔
      if e = d then y + x ≤ U128MAX ∧ l' = (e, y + x) :: t
      else ∃ t', aggAsset d x t = .ok t' ∧ l' = (e, y) :: t' := by
  rw [aggAsset]
  split
  · by_cases hle : y + x ≤ U128MAX <;> simp [cadd, hle, eq_comm]
  · cases aggAsset d x t <;> simp [eq_comm]

theorem dedAsset_cons {d x e y : Nat} {t l' : List (Nat × Nat)} :
    dedAsset d x ((e, y) :: t) = .ok l' ↔
      if e = d then x ≤ y ∧ l' = (e, y - x) :: t
      else ∃ t', dedAsset d x t = .ok t' ∧ l' = (e, y) :: t' := by
  rw [dedAsset]
  split
  · by_cases hle : x ≤ y <;> simp [csub, hle, eq_comm]
  · cases dedAsset d x t <;> simp [eq_comm]

theorem aggAsset_amt {d x : Nat} {l l' : List (Nat × Nat)} (h : aggAsset d x l = .ok l') (d' : Nat) :
    assetAmt d' l' = assetAmt d' l + (if d' = d then x else 0) := by
  induction l generalizing l' with
  | nil => cases h; simp [assetAmt, eq_comm]
  | cons p t ih =>
    obtain ⟨e, y⟩ := p
    rw [aggAsset_cons] at h
    split at h
    next he =>
      obtain ⟨-, rfl⟩ := h
      subst he
      simp only [assetAmt, eq_comm (a := d')]
      split <;> simp [*]
    next he =>
      obtain ⟨t', ht, rfl⟩ := h
      simp only [assetAmt, ih ht]
      split
      next hd => rw [if_neg (hd ▸ he), Nat.add_zero]
      next => rfl

theorem dedAsset_amt {d x : Nat} {l l' : List (Nat × Nat)} (h : dedAsset d x l = .ok l') (d' : Nat) :
    assetAmt d' l' + (if d' = d then x else 0) = assetAmt d' l := by
  induction l generalizing l' with
  | nil => cases h
  | cons p t ih =>
    obtain ⟨e, y⟩ := p
    rw [dedAsset_cons] at h
    split at h
    next he =>
      obtain ⟨hle, rfl⟩ := h
      subst he
      simp only [assetAmt, eq_comm (a := d')]
      split <;> simp [*]
    next he =>
      obtain ⟨t', ht, rfl⟩ := h
      simp only [assetAmt, ← ih ht]
      split
      next hd => rw [if_neg (hd ▸ he), Nat.add_zero]
      next => rfl

theorem aggAsset_all {P : Nat → Prop} {d x : Nat} {l l' : List (Nat × Nat)} (hd : P d)
    (hl : ∀ p ∈ l, P p.1) (h : aggAsset d x l = .ok l') : ∀ p ∈ l', P p.1 := by
  induction l generalizing l' with
  | nil => cases h; simpa using hd
  | cons y t ih =>
    obtain ⟨e, v⟩ := y
    rw [List.forall_mem_cons] at hl
    rw [aggAsset_cons] at h
    split at h
    · obtain ⟨-, rfl⟩ := h
      exact List.forall_mem_cons.mpr hl
    · obtain ⟨t', ht, rfl⟩ := h
      exact List.forall_mem_cons.mpr ⟨hl.1, ih hl.2 ht⟩

theorem dedAsset_all {P : Nat → Prop} {d x : Nat} {l l' : List (Nat × Nat)}
    (hl : ∀ p ∈ l, P p.1) (h : dedAsset d x l = .ok l') : ∀ p ∈ l', P p.1 := by
  induction l generalizing l' with
  | nil => cases h
  | cons y t ih =>
    obtain ⟨e, v⟩ := y
    rw [List.forall_mem_cons] at hl
    rw [dedAsset_cons] at h
    split at h
    · obtain ⟨-, rfl⟩ := h
      exact List.forall_mem_cons.mpr hl
    · obtain ⟨t', ht, rfl⟩ := h
      exact List.forall_mem_cons.mpr ⟨hl.1, ih hl.2 ht⟩

theorem assetAmt_zero_of_no_denom {d : Nat} {l : List (Nat × Nat)} (h : ∀ p ∈ l, p.1 ≠ d) : assetAmt d l = 0 := by
  induction l with
  | nil => rfl
  | cons p t ih =>
    obtain ⟨e, y⟩ := p
    have h1 : e ≠ d := h (e, y) List.mem_cons_self
    simp only [assetAmt, h1, if_false, ih (fun r hr => h r (List.mem_cons_of_mem _ hr))]

/-- Σ of the amounts of the records selected by `p` -/
def sumIf (p : UnbRec → Bool) : List UnbRec → Nat
  | [] => 0
  | r :: t => (if p r then r.amount else 0) + sumIf p t

/-- `p` looks at the key of a record only -/
def KeyOnly (p : UnbRec → Bool) : Prop :=
  ∀ r r' : UnbRec, r.addr = r'.addr → r.denom = r'.denom → r.ts = r'.ts → p r = p r'

theorem sumUnb_eq (d : Nat) (l : List UnbRec) : sumUnb d l = sumIf (fun r => decide (d = r.denom)) l := by
  induction l with
  | nil => rfl
  | cons r t ih => simp [sumUnb, sumIf, ih, eq_comm (a := d)]

theorem sumUnbOf_eq (a d : Nat) (l : List UnbRec) :
    sumUnbOf a d l = sumIf (fun r => decide (a = r.addr ∧ d = r.denom)) l := by
  induction l with
  | nil => rfl
  | cons r t ih => simp [sumUnbOf, sumIf, ih, eq_comm (a := a), eq_comm (a := d)]

theorem recAmt_eq (a d ts : Nat) (l : List UnbRec) :
    recAmt a d ts l = sumIf (fun r => decide (a = r.addr ∧ d = r.denom ∧ ts = r.ts)) l := by
  induction l with
  | nil => rfl
  | cons r t ih => simp [recAmt, sumIf, ih, eq_comm (a := a), eq_comm (a := d), eq_comm (a := ts)]

theorem sumAmt_eq (l : List UnbRec) : sumAmt l = sumIf (fun _ => true) l := by
  induction l with
  | nil => rfl
  | cons r t ih => simp [sumAmt, sumIf, ih]

theorem keyOnly_key (q : Nat → Nat → Nat → Bool) : KeyOnly fun r => q r.addr r.denom r.ts :=
  fun _ _ h1 h2 h3 => by simp only [h1, h2, h3]

theorem addUnb_cons {a d ts x : Nat} {r : UnbRec} {t l' : List UnbRec} :
    addUnb a d ts x (r :: t) = .ok l' ↔
      if r.addr = a ∧ r.denom = d ∧ r.ts = ts then
        x + r.amount ≤ U128MAX ∧ l' = { r with amount := x + r.amount } :: t
      else ∃ t', addUnb a d ts x t = .ok t' ∧ l' = r :: t' := by
  rw [addUnb]
  split
  · by_cases hle : x + r.amount ≤ U128MAX <;> simp [cadd, hle, eq_comm]
  · cases addUnb a d ts x t <;> simp [eq_comm]

theorem addUnb_sumIf {a d ts x : Nat} {l l' : List UnbRec} (p : UnbRec → Bool) (hp : KeyOnly p)
    (h : addUnb a d ts x l = .ok l') :
    sumIf p l' = sumIf p l + (if p ⟨a, d, ts, x⟩ then x else 0) := by
  induction l generalizing l' with
  | nil => cases h; simp [sumIf]
  | cons r t ih =>
    rw [addUnb_cons] at h
    split at h
    next hk =>
      obtain ⟨-, rfl⟩ := h
      have e1 : p { r with amount := x + r.amount } = p r := hp _ _ rfl rfl rfl
      have e2 : p ⟨a, d, ts, x⟩ = p r := hp _ _ hk.1.symm hk.2.1.symm hk.2.2.symm
      simp only [sumIf, e1, e2]
      split <;> omega
    next =>
      obtain ⟨t', ht, rfl⟩ := h
      simp only [sumIf, ih ht]
      omega

theorem unbSums_add {a d ts x : Nat} {l l' : List UnbRec} (h : addUnb a d ts x l = .ok l') :
    (∀ d', sumUnb d' l' = sumUnb d' l + if d' = d then x else 0) ∧
    (∀ a' d', sumUnbOf a' d' l' = sumUnbOf a' d' l + if a' = a ∧ d' = d then x else 0) ∧
    (∀ a' d' t', recAmt a' d' t' l' = recAmt a' d' t' l + if a' = a ∧ d' = d ∧ t' = ts then x else 0) :=
  ⟨fun d' => by simpa [sumUnb_eq] using addUnb_sumIf _ (keyOnly_key fun _ k _ => d' = k) h,
    fun a' d' => by simpa [sumUnbOf_eq] using addUnb_sumIf _ (keyOnly_key fun j k _ => a' = j ∧ d' = k) h,
    fun a' d' t' => by
      simpa [recAmt_eq] using addUnb_sumIf _ (keyOnly_key fun j k t => a' = j ∧ d' = k ∧ t' = t) h⟩

theorem mem_addUnb {a d ts x : Nat} {l l' : List UnbRec} (h : addUnb a d ts x l = .ok l')
    {r : UnbRec} (hr : r ∈ l') : (r.addr = a ∧ r.denom = d ∧ r.ts = ts ∧ x ≤ r.amount) ∨ r ∈ l := by
  induction l generalizing l' with
  | nil => cases h; cases List.mem_singleton.mp hr; exact .inl ⟨rfl, rfl, rfl, Nat.le_refl _⟩
  | cons y t ih =>
    rw [addUnb_cons] at h
    split at h
    next hk =>
      obtain ⟨-, rfl⟩ := h
      rcases List.mem_cons.mp hr with rfl | h
      · exact .inl ⟨hk.1, hk.2.1, hk.2.2, Nat.le_add_right _ _⟩
      · exact .inr (List.mem_cons_of_mem _ h)
    next =>
      obtain ⟨t', ht, rfl⟩ := h
      rcases List.mem_cons.mp hr with rfl | h
      · exact .inr List.mem_cons_self
      · exact (ih ht h).imp_right (List.mem_cons_of_mem _)

theorem sumIf_filter (p q : UnbRec → Bool) (l : List UnbRec) :
    sumIf p (l.filter q) + sumIf p (l.filter fun r => !q r) = sumIf p l := by
  induction l with
  | nil => rfl
  | cons r t ih =>
    by_cases hq : q r = true
    · simp only [List.filter_cons, hq, if_true, Bool.not_true, sumIf]
      simp only [Bool.false_eq_true, if_false]
      omega
    · simp only [Bool.not_eq_true] at hq
      simp only [List.filter_cons, hq, Bool.false_eq_true, if_false, Bool.not_false, if_true, sumIf]
      omega

theorem sumIf_const (p : UnbRec → Bool) (c : Prop) [Decidable c] (l : List UnbRec)
    (h : ∀ r ∈ l, p r = decide c) : sumIf p l = if c then sumAmt l else 0 := by
  induction l with
  | nil => simp [sumIf, sumAmt]
  | cons r t ih =>
    rw [sumIf, sumAmt, h r List.mem_cons_self, ih fun r hr => h r (List.mem_cons_of_mem _ hr)]
    by_cases hc : c <;> simp [hc]

theorem sumUnb_zero_of_no_denom {d : Nat} {l : List UnbRec} (h : ∀ r ∈ l, r.denom ≠ d) : sumUnb d l = 0 := by
  rw [sumUnb_eq]
  exact (sumIf_const _ False l fun r hr => decide_eq_false fun hd => h r hr hd.symm).trans (if_neg id)

theorem sumAmt_ge_of_mem {r : UnbRec} {l : List UnbRec} (h : r ∈ l) : r.amount ≤ sumAmt l := by
  induction l with
  | nil => cases h
  | cons y t ih =>
    rcases List.mem_cons.mp h with h | h
    · subst h; simp only [sumAmt]; omega
    · have := ih h; simp only [sumAmt]; omega

theorem matured_mine {a d now period : Nat} {l : List UnbRec} {r : UnbRec}
    (h : matured a d now period l r = true) : r.addr = a ∧ r.denom = d ∧ r.ts ≤ now - period := by
  simp only [matured, mine, Bool.and_eq_true, decide_eq_true_eq] at h
  exact ⟨h.1.1.1, h.1.1.2, h.2⟩

theorem keyOnly_matured (a d now period : Nat) (l : List UnbRec) : KeyOnly (matured a d now period l) := by
  intro r r' h1 h2 h3
  have hr : rank a d l r = rank a d l r' := by unfold rank; rw [h3]
  have hm : mine a d r = mine a d r' := by unfold mine; rw [h1, h2]
  unfold matured
  rw [hr, hm, h3]

/-- a sum over keys splits into what a withdrawal of `(a, d)` keeps and what it pays: all of the refund
    or none of it, as the matured records lie in `p` or not (`c`) -/
theorem sumIf_withdraw (p : UnbRec → Bool) (c : Prop) [Decidable c] (a d now period : Nat) (l : List UnbRec)
    (hp : ∀ r, matured a d now period l r = true → p r = decide c) :
    sumIf p (l.filter fun r => !matured a d now period l r)
      + (if c then sumAmt (l.filter (matured a d now period l)) else 0) = sumIf p l := by
  rw [← sumIf_const p c _ fun r hr => hp r (List.mem_filter.mp hr).2, Nat.add_comm]
  exact sumIf_filter p _ l

theorem sumUnb_withdraw (a d now period d' : Nat) (l : List UnbRec) :
    sumUnb d' (l.filter fun r => !matured a d now period l r)
      + (if d' = d then sumAmt (l.filter (matured a d now period l)) else 0) = sumUnb d' l := by
  rw [sumUnb_eq, sumUnb_eq]
  exact sumIf_withdraw _ _ a d now period l fun r hr => by simp only [(matured_mine hr).2.1]

theorem sumUnbOf_withdraw (a d now period a' d' : Nat) (l : List UnbRec) :
    sumUnbOf a' d' (l.filter fun r => !matured a d now period l r)
      + (if a' = a ∧ d' = d then sumAmt (l.filter (matured a d now period l)) else 0) = sumUnbOf a' d' l := by
  rw [sumUnbOf_eq, sumUnbOf_eq]
  exact sumIf_withdraw _ _ a d now period l fun r hr => by
    simp only [(matured_mine hr).1, (matured_mine hr).2.1]

theorem recAmt_withdraw (a d now period a' d' t' : Nat) (l : List UnbRec) (hk : ¬ (a' = a ∧ d' = d)) :
    recAmt a' d' t' (l.filter fun r => !matured a d now period l r) = recAmt a' d' t' l := by
  rw [recAmt_eq, recAmt_eq]
  exact sumIf_withdraw _ False a d now period l fun r hr => decide_eq_false fun h =>
    hk ⟨h.1.trans (matured_mine hr).1, h.2.1.trans (matured_mine hr).2.1⟩

theorem bondLocal_ok {s : St} {e : Env} {d x : Nat} {nb : BondRec} (h : bondLocal s e d x = .ok nb) :
    nb.addr = e.sender ∧ nb.denom = d ∧ nb.amount = bondedOf e.sender d s.bonds + x := by
  simp only [bondLocal, Res.bind_eq_ok, cadd_eq_ok, Res.pure_eq, Res.ok.injEq] at h
  obtain ⟨amt, ⟨-, rfl⟩, w, -, w', -, rfl⟩ := h
  refine ⟨rfl, rfl, ?_⟩
  simp only [bondedOf]
  split <;> rfl

theorem bondGlobal_ok {s : St} {e : Env} {d x : Nat} {ng : Global} (h : bondGlobal s e d x = .ok ng) :
    ng.bonded = s.global.bonded + x ∧ aggAsset d x s.global.assets = .ok ng.assets := by
  simp only [bondGlobal, Res.bind_eq_ok, cadd_eq_ok, Res.pure_eq, Res.ok.injEq] at h
  obtain ⟨w, -, b, ⟨-, rfl⟩, as, has, w', -, rfl⟩ := h
  exact ⟨rfl, has⟩

theorem unbondLocal_ok {s : St} {e : Env} {b nb : BondRec} {x slash : Nat}
    (h : unbondLocal s e b x = .ok (nb, slash)) :
    nb.addr = b.addr ∧ nb.denom = b.denom ∧ nb.amount + x = b.amount := by
  simp only [unbondLocal, Res.bind_eq_ok, csub_eq_ok, Res.pure_eq, Res.ok.injEq, Prod.mk.injEq] at h
  obtain ⟨w, -, ratio, -, sl, -, w', -, amt, ⟨hle, rfl⟩, rfl, -⟩ := h
  exact ⟨rfl, rfl, Nat.sub_add_cancel hle⟩

theorem unbondGlobal_ok {s : St} {e : Env} {d x slash : Nat} {ng : Global}
    (h : unbondGlobal s e d x slash = .ok ng) :
    ng.bonded + x = s.global.bonded ∧ dedAsset d x s.global.assets = .ok ng.assets := by
  simp only [unbondGlobal, Res.bind_eq_ok, csub_eq_ok, Res.pure_eq, Res.ok.injEq] at h
  obtain ⟨w, -, b, ⟨hle, rfl⟩, as, has, w', -, rfl⟩ := h
  exact ⟨Nat.sub_add_cancel hle, has⟩

theorem bond_ok {cfg : Cfg} {s : St} {e : Env} {asset : AssetRef} {x : Nat} {funds : List (Nat × Nat)} {s' : St}
    (h : bond cfg s e asset x funds = .ok s') :
    ∃ d nb ng,
      (asset = .native d ∧ funds = [(d, x)] ∧ x ≠ 0 ∧ x ≤ s.ubal e.sender d ∧
        cfg.whitelist.contains d = true ∧ e.guardsOk = true) ∧
      (nb.addr = e.sender ∧ nb.denom = d ∧ nb.amount = bondedOf e.sender d s.bonds + x) ∧
      (ng.bonded = s.global.bonded + x ∧ aggAsset d x s.global.assets = .ok ng.assets) ∧
      s.bal d + x ≤ U128MAX ∧
      s' = { s with
        bonds := updBond nb s.bonds
        global := ng
        gset := true
        bal := fun d' => if d' = d then s.bal d + x else s.bal d'
        ubal := fun a' d' => if a' = e.sender ∧ d' = d then s.ubal e.sender d - x else s.ubal a' d' } := by
  unfold bond at h
  split at h
  next d fa =>
    -- all the `if`s in one pass: `split at h` on an `if` is slow on a term of this size
    simp only [Res.err_else_eq_ok] at h
    obtain ⟨h0, hle, h⟩ := h
    split at h
    · cases h
    next =>
      simp only [Res.err_else_eq_ok, not_or, Decidable.not_not, Bool.not_eq_true, Bool.not_eq_false] at h
      obtain ⟨⟨rfl, rfl, hw⟩, -, hg, h⟩ := h
      split at h
      · cases h
      · cases h
      next nb hl =>
        split at h
        · cases h
        · cases h
        next ng hg' =>
          split at h
          · cases h
          · cases h
          next nbal hb =>
            obtain ⟨hmax, rfl⟩ := padd_eq_ok.mp hb
            cases h
            exact ⟨d, nb, ng, ⟨rfl, rfl, h0, Nat.le_of_not_lt hle, hw, hg⟩, bondLocal_ok hl,
              bondGlobal_ok hg', hmax, rfl⟩
  · cases h

theorem unbond_ok {s : St} {e : Env} {asset : AssetRef} {x : Nat} {s' : St}
    (h : unbond s e asset x = .ok s') :
    ∃ d b nb nu ng, (asset = .native d ∧ x ≠ 0 ∧ e.guardsOk = true) ∧
      getBond e.sender d s.bonds = some b ∧
      (nb.addr = e.sender ∧ nb.denom = d ∧ nb.amount + x = b.amount) ∧
      addUnb e.sender d e.now x s.unbonds = .ok nu ∧
      (ng.bonded + x = s.global.bonded ∧ dedAsset d x s.global.assets = .ok ng.assets) ∧
      s' = { s with
        bonds := if nb.amount = 0 then delBond e.sender d s.bonds else updBond nb s.bonds
        unbonds := nu
        global := ng
        gset := true } := by
  cases asset with
  | token => simp only [unbond, Res.err_else_eq_ok] at h; cases h.2
  | native d =>
    simp only [unbond, Res.err_else_eq_ok, Bool.not_eq_true, Bool.not_eq_false] at h
    obtain ⟨hx, -, hg, h⟩ := h
    split at h
    · cases h
    next b hb =>
      simp only [Res.err_else_eq_ok] at h
      obtain ⟨-, h⟩ := h
      split at h
      · cases h
      · cases h
      next nb slash hl =>
        split at h
        · cases h
        · cases h
        next nu hu =>
          split at h
          · cases h
          · cases h
          next ng hg' =>
            cases h
            obtain ⟨ba, bd, -⟩ := getBond_some hb
            obtain ⟨na, nd, nam⟩ := unbondLocal_ok hl
            exact ⟨d, b, nb, nu, ng, ⟨rfl, hx, hg⟩, hb, ⟨na.trans ba, nd.trans bd, nam⟩, hu,
              unbondGlobal_ok hg', rfl⟩

/-- the amount paid by a successful withdrawal -/
def refundOf (s : St) (e : Env) (d : Nat) : Nat :=
  sumAmt (s.unbonds.filter (matured e.sender d e.now s.period s.unbonds))

/-- the state a withdrawal of `d` by `e.sender` leaves: the matured records gone, their sum moved from the
    contract's balance to the sender's -/
def withdrawn (s : St) (e : Env) (d : Nat) : St :=
  { s with
    unbonds := s.unbonds.filter fun r => !matured e.sender d e.now s.period s.unbonds r
    bal := fun d' => if d' = d then s.bal d - refundOf s e d else s.bal d'
    ubal := fun a' d' => if a' = e.sender ∧ d' = d then s.ubal e.sender d + refundOf s e d else s.ubal a' d' }

theorem withdraw_eq_ok {s : St} {e : Env} {d : Nat} {s' : St} :
    withdraw s e d = .ok s' ↔
      (s.unbonds.filter (mine e.sender d)).isEmpty = false ∧ s.period ≤ e.now ∧
      0 < refundOf s e d ∧ refundOf s e d ≤ s.bal d ∧ s.ubal e.sender d + refundOf s e d ≤ U128MAX ∧
      s' = withdrawn s e d := by
  simp only [withdraw, refundOf, Res.err_else_eq_ok, Res.panic_else_eq_ok, Bool.not_eq_true, Nat.not_lt]
  constructor
  · rintro ⟨h1, h2, -, h4, h5, h⟩
    split at h
    · cases h
    · cases h
    next nub hn =>
      obtain ⟨hmax, rfl⟩ := padd_eq_ok.mp hn
      cases h
      exact ⟨h1, h2, Nat.pos_of_ne_zero h4, h5, hmax, rfl⟩
  · rintro ⟨h1, h2, h3, h4, h5, rfl⟩
    refine ⟨h1, h2, Nat.le_trans (Nat.le_add_left _ _) h5, Nat.ne_of_gt h3, h4, ?_⟩
    rw [padd_ok h5]
    rfl

theorem config_ok {cfg : Cfg} {s : St} {e : Env} {p r : Option Nat} {s' : St}
    (h : config cfg s e p r = .ok s') :
    e.sender = cfg.owner ∧ ∃ p' r', s' = { s with period := p', rate := r' } := by
  simp only [config, Res.err_else_eq_ok, Decidable.not_not] at h
  obtain ⟨h1, h⟩ := h
  split at h
  · obtain ⟨-, h⟩ := Res.err_else_eq_ok.mp h
    cases h; exact ⟨h1, _, _, rfl⟩
  · cases h; exact ⟨h1, _, _, rfl⟩

theorem setFd_ok {cfg : Cfg} {s : St} {e : Env} {s' : St} (h : setFd cfg s e = .ok s') :
    e.sender = cfg.owner ∧ s' = { s with fdSet := true } := by
  simp only [setFd, Res.err_else_eq_ok, Decidable.not_not, Res.ok.injEq] at h
  exact ⟨h.1, h.2.symm⟩

theorem migrate_ok {cfg : Cfg} {s : St} {e : Env} {stored crate : Ver} {l : Bool} {s' : St}
    (h : migrate cfg s e stored crate l = .ok s') :
    e.sender = cfg.admin ∧ stored.lt crate = true ∧
    ((stored.lt V090 = true ∧ l = true ∧ s' = { s with fdSet := false }) ∨ (stored.lt V090 = false ∧ s' = s)) := by
  simp only [migrate, Res.err_else_eq_ok, Decidable.not_not] at h
  obtain ⟨h1, h2, h⟩ := h
  refine ⟨h1, h2, ?_⟩
  split at h
  next h3 =>
    split at h
    next h4 => cases h; exact Or.inl ⟨h3, h4, rfl⟩
    next => cases h
  next h3 => cases h; exact Or.inr ⟨Bool.not_eq_true _ |>.mp h3, rfl⟩

theorem sumStray_append (d : Nat) (l l' : List StrayRec) :
    sumStray d (l ++ l') = sumStray d l + sumStray d l' := by
  induction l with
  | nil => simp [sumStray]
  | cons r t ih => simp only [List.cons_append, sumStray, ih]; omega

theorem sumStrayOf_append (a d : Nat) (l l' : List StrayRec) :
    sumStrayOf a d (l ++ l') = sumStrayOf a d l + sumStrayOf a d l' := by
  induction l with
  | nil => simp [sumStrayOf]
  | cons r t ih => simp only [List.cons_append, sumStrayOf, ih]; omega

theorem coinsAmt_filter_nz (d : Nat) (l : List (Nat × Nat)) :
    coinsAmt d (l.filter fun c => c.2 != 0) = coinsAmt d l := by
  induction l with
  | nil => rfl
  | cons c t ih =>
    obtain ⟨e, x⟩ := c
    by_cases hx : x = 0
    · subst hx; simp [coinsAmt, ih]
    · have hnz : ((e, x).2 != 0) = true := by simp [hx]
      simp only [List.filter_cons, hnz, if_true, coinsAmt, ih]

/-- `s1` is `s` after the bank has moved `amt d` of every denom `d` from `a` to the contract and entered
    it into the stray ledger; nothing else differs -/
structure Recv (s : St) (a : Nat) (amt : Nat → Nat) (s1 : St) : Prop where
  period : s1.period = s.period
  rate : s1.rate = s.rate
  bonds : s1.bonds = s.bonds
  unbonds : s1.unbonds = s.unbonds
  global : s1.global = s.global
  gset : s1.gset = s.gset
  fdSet : s1.fdSet = s.fdSet
  bal : ∀ d, s1.bal d = s.bal d + amt d
  ubal : ∀ a' d, s1.ubal a' d + (if a' = a then amt d else 0) = s.ubal a' d
  strays : ∃ l, s1.strays = l ++ s.strays ∧ (∀ d, sumStray d l = amt d) ∧
    (∀ a' d, sumStrayOf a' d l = if a' = a then amt d else 0)

theorem recv_refl (s : St) (a : Nat) : Recv s a (fun _ => 0) s :=
  ⟨rfl, rfl, rfl, rfl, rfl, rfl, rfl, fun _ => rfl, fun a' d => by simp,
    ⟨[], rfl, fun _ => rfl, fun a' d => by simp [sumStrayOf]⟩⟩

theorem recv_trans {s s1 s2 : St} {a : Nat} {f g : Nat → Nat} (r1 : Recv s a f s1) (r2 : Recv s1 a g s2) :
    Recv s a (fun d => f d + g d) s2 := by
  obtain ⟨l1, hl1, hs1, ho1⟩ := r1.strays
  obtain ⟨l2, hl2, hs2, ho2⟩ := r2.strays
  refine ⟨r2.period.trans r1.period, r2.rate.trans r1.rate, r2.bonds.trans r1.bonds,
    r2.unbonds.trans r1.unbonds, r2.global.trans r1.global, r2.gset.trans r1.gset, r2.fdSet.trans r1.fdSet,
    fun d => by rw [r2.bal, r1.bal, Nat.add_assoc], fun a' d => ?_,
    ⟨l2 ++ l1, by rw [hl2, hl1, List.append_assoc], fun d => by rw [sumStray_append, hs1, hs2, Nat.add_comm],
      fun a' d => ?_⟩⟩
  · have h1 := r1.ubal a' d
    have h2 := r2.ubal a' d
    by_cases ha : a' = a
    · simp only [if_pos ha] at h1 h2 ⊢; omega
    · simp only [if_neg ha] at h1 h2 ⊢; omega
  · rw [sumStrayOf_append, ho1, ho2]
    split <;> omega

theorem receive1_recv {s s1 : St} {a d x : Nat} (h : receive1 s a d x = .ok s1) :
    Recv s a (fun d' => if d' = d then x else 0) s1 := by
  simp only [receive1, Res.err_else_eq_ok, Nat.not_lt] at h
  obtain ⟨hx, h⟩ := h
  split at h
  · cases h
  · cases h
  next nbal hb =>
    obtain ⟨-, rfl⟩ := padd_eq_ok.mp hb
    cases h
    refine ⟨rfl, rfl, rfl, rfl, rfl, rfl, rfl, fun d' => ?_, fun a' d' => ?_,
      ⟨[⟨a, d, x⟩], rfl, fun d' => by simp [sumStray, eq_comm (a := d)], fun a' d' => ?_⟩⟩
    · split <;> simp [*]
    · by_cases ha : a' = a
      · subst ha
        simp only [eq_self, true_and, if_true]
        exact ite_add_ite_eq fun hd => by rw [hd]; exact Nat.sub_add_cancel hx
      · simp only [ha, false_and, if_false, Nat.add_zero]
    · by_cases ha : a' = a <;> by_cases hd : d' = d <;> simp [sumStrayOf, ha, hd, eq_comm (a := a), eq_comm (a := d)]

theorem receiveAll_recv {a : Nat} : ∀ (coins : List (Nat × Nat)) {s s1 : St},
    receiveAll s a coins = .ok s1 → Recv s a (fun d => coinsAmt d coins) s1
  | [], s, s1, h => by
    simp only [receiveAll] at h; cases h
    exact recv_refl s a
  | (d, x) :: t, s, s1, h => by
    simp only [receiveAll] at h
    split at h
    · rename_i s0 h0
      simpa only [coinsAmt, eq_comm (a := d)] using recv_trans (receive1_recv h0) (receiveAll_recv t h)
    · cases h
    · cases h

theorem receive_recv {s s1 : St} {a : Nat} {coins : List (Nat × Nat)} (h : receive s a coins = .ok s1) :
    Recv s a (fun d => coinsAmt d coins) s1 := by
  unfold receive at h
  split at h
  · rename_i he
    cases h
    rw [List.isEmpty_iff.mp he]
    exact recv_refl s a
  · obtain ⟨-, h⟩ := Res.err_else_eq_ok.mp h
    have r := receiveAll_recv _ h
    simp only [coinsAmt_filter_nz] at r
    exact r

theorem withCoins_ok {s s' : St} {a : Nat} {coins : List (Nat × Nat)} {k : St → Res St}
    (h : withCoins s a coins k = .ok s') : ∃ s1, Recv s a (fun d => coinsAmt d coins) s1 ∧ k s1 = .ok s' := by
  unfold withCoins at h
  split at h
  · rename_i s1 h1; exact ⟨s1, receive_recv h1, h⟩
  · cases h
  · cases h

/-- the coins an operation carries to the contract without bonding them -/
def attached : Op → List (Nat × Nat)
  | .bond _ _ _ => []
  | .unbond _ _ c => c
  | .withdraw _ c => c
  | .config _ _ c => c
  | .setFd => []
  | .send c => c
  | .migrate _ _ _ => []

/-- every successful step is the bank's transfer of the attached coins followed by one of the three ledger
    handlers or by a change of the configuration fields alone. Only the withdraw case names the operation:
    `C08.wallet_grows_only_by_own_withdraw` needs it, nothing needs it of the others. -/
theorem step_ok {cfg : Cfg} {s s' : St} {e : Env} {op : Op} (h : step cfg s e op = .ok s') :
    ∃ s1, Recv s e.sender (fun d => coinsAmt d (attached op)) s1 ∧
      ((∃ asset x funds, bond cfg s1 e asset x funds = .ok s') ∨
       (∃ asset x, unbond s1 e asset x = .ok s') ∨
       (∃ d c, op = .withdraw d c ∧ withdraw s1 e d = .ok s') ∨
       (∃ p r f, s' = { s1 with period := p, rate := r, fdSet := f })) := by
  cases op with
  | bond asset x funds => exact ⟨s, recv_refl s _, .inl ⟨_, _, _, h⟩⟩
  | unbond asset x c =>
    obtain ⟨s1, r, hk⟩ := withCoins_ok h
    exact ⟨s1, r, .inr (.inl ⟨_, _, hk⟩)⟩
  | withdraw d c =>
    obtain ⟨s1, r, hk⟩ := withCoins_ok h
    exact ⟨s1, r, .inr (.inr (.inl ⟨_, _, rfl, hk⟩))⟩
  | config p r c =>
    obtain ⟨s1, rr, hk⟩ := withCoins_ok h
    obtain ⟨-, p', r', rfl⟩ := config_ok hk
    exact ⟨s1, rr, .inr (.inr (.inr ⟨_, _, _, rfl⟩))⟩
  | setFd =>
    obtain ⟨-, rfl⟩ := setFd_ok h
    exact ⟨s, recv_refl s _, .inr (.inr (.inr ⟨_, _, _, rfl⟩))⟩
  | send c =>
    have h : (if c.isEmpty then Res.err else receive s e.sender c) = .ok s' := h
    exact ⟨s', receive_recv (Res.err_else_eq_ok.mp h).2, .inr (.inr (.inr ⟨_, _, _, rfl⟩))⟩
  | migrate st cr l =>
    obtain ⟨-, -, ⟨-, -, rfl⟩ | ⟨-, rfl⟩⟩ := migrate_ok h <;>
      exact ⟨_, recv_refl _ _, .inr (.inr (.inr ⟨_, _, _, rfl⟩))⟩

theorem step_preserves {cfg : Cfg} {P : St → Prop}
    (recv : ∀ {s s1 a amt}, P s → Recv s a amt s1 → P s1)
    (bond : ∀ {s s' e asset x funds}, P s → bond cfg s e asset x funds = .ok s' → P s')
    (unbond : ∀ {s s' e asset x}, P s → unbond s e asset x = .ok s' → P s')
    (withdraw : ∀ {s s' e d}, P s → withdraw s e d = .ok s' → P s')
    (admin : ∀ {s p r f}, P s → P { s with period := p, rate := r, fdSet := f })
    {s s' : St} {e : Env} {op : Op} (hP : P s) (h : step cfg s e op = .ok s') : P s' := by
  obtain ⟨s1, r, ⟨_, _, _, hb⟩ | ⟨_, _, hu⟩ | ⟨_, _, -, hw⟩ | ⟨_, _, _, rfl⟩⟩ := step_ok h
  · exact bond (recv hP r) hb
  · exact unbond (recv hP r) hu
  · exact withdraw (recv hP r) hw
  · exact admin (recv hP r)

theorem reach_preserves {cfg : Cfg} {P : St → Prop}
    (step : ∀ {s s' e op}, P s → step cfg s e op = .ok s' → P s')
    (ops : List (Env × Op)) {s : St} (hP : P s) : P (reach cfg s ops) := by
  induction ops generalizing s with
  | nil => exact hP
  | cons eo t ih =>
    apply ih
    unfold stepOrStay
    split
    · rename_i s' h; exact step hP h
    · exact hP

/-- contract balance = reported bonded + pending unbondings + stray coins (per denom); reported bonded
    per denom = Σ users' bonds; global bonded amount = Σ all bonds -/
structure Inv (s : St) : Prop where
  bal_eq : ∀ d, s.bal d = assetAmt d s.global.assets + sumUnb d s.unbonds + sumStray d s.strays
  asset_eq : ∀ d, assetAmt d s.global.assets = sumBond d s.bonds
  bonded_eq : s.global.bonded = sumBondAll s.bonds

theorem inv_recv {s s1 : St} {a : Nat} {amt : Nat → Nat} (hI : Inv s) (r : Recv s a amt s1) : Inv s1 := by
  obtain ⟨l, hl, hl1, -⟩ := r.strays
  refine ⟨fun d => ?_, fun d => ?_, ?_⟩
  · rw [r.bal d, r.global, r.unbonds, hl, sumStray_append, hl1, hI.bal_eq d]; omega
  · rw [r.global, r.bonds]; exact hI.asset_eq d
  · rw [r.global, r.bonds]; exact hI.bonded_eq

theorem inv_bond {cfg : Cfg} {s s' : St} {e : Env} {asset : AssetRef} {x : Nat} {funds : List (Nat × Nat)}
    (hI : Inv s) (h : bond cfg s e asset x funds = .ok s') : Inv s' := by
  obtain ⟨d, nb, ng, -, hn, ⟨gb, ga⟩, -, rfl⟩ := bond_ok h
  obtain ⟨hs, hall, -⟩ := bondSums (sumKey_bond hn)
  refine ⟨fun d' => ?_, fun d' => ?_, ?_⟩
  -- the deltas are rewritten in before `omega` is called: given them as hypotheses it compares sums such as
  -- `sumUnb d' l` and `sumUnb d' l'` by unfolding them, which is slow
  · simp only
    rw [ite_eq_add_ite (fun hd => by rw [hd]), hI.bal_eq d', aggAsset_amt ga d']
    omega
  · simp only
    rw [aggAsset_amt ga d', ← hs d', hI.asset_eq d']
  · simp only
    rw [gb, ← hall, hI.bonded_eq]

theorem inv_unbond {s s' : St} {e : Env} {asset : AssetRef} {x : Nat}
    (hI : Inv s) (h : unbond s e asset x = .ok s') : Inv s' := by
  obtain ⟨d, b, nb, nu, ng, -, hb, hn, hu, ⟨gb, ga⟩, rfl⟩ := unbond_ok h
  obtain ⟨hs, hall, -⟩ := bondSums (sumKey_unbond hb hn)
  refine ⟨fun d' => ?_, fun d' => ?_, ?_⟩
  · simp only
    rw [hI.bal_eq d', ← dedAsset_amt ga d', (unbSums_add hu).1 d']
    omega
  · exact Nat.add_right_cancel (((dedAsset_amt ga d').trans (hI.asset_eq d')).trans (hs d').symm)
  · exact Nat.add_right_cancel ((gb.trans hI.bonded_eq).trans hall.symm)

theorem inv_withdraw {s s' : St} {e : Env} {d : Nat}
    (hI : Inv s) (h : withdraw s e d = .ok s') : Inv s' := by
  obtain ⟨-, -, -, hle, -, rfl⟩ := withdraw_eq_ok.mp h
  refine ⟨fun d' => ?_, hI.asset_eq, hI.bonded_eq⟩
  have hb := (ite_add_ite_eq (c := d' = d) (fun hd => by rw [hd]; exact Nat.sub_add_cancel hle)).trans (hI.bal_eq d')
  have h1 : _ + (if d' = d then refundOf s e d else 0) = _ := sumUnb_withdraw e.sender d e.now s.period d' s.unbonds
  simp only [withdrawn]
  omega

theorem inv_step {cfg : Cfg} {s s' : St} {e : Env} {op : Op}
    (hI : Inv s) (h : step cfg s e op = .ok s') : Inv s' :=
  step_preserves inv_recv inv_bond inv_unbond inv_withdraw (fun hI => ⟨hI.bal_eq, hI.asset_eq, hI.bonded_eq⟩) hI h

theorem inv_reach {cfg : Cfg} (ops : List (Env × Op)) {s : St} (hI : Inv s) : Inv (reach cfg s ops) :=
  reach_preserves inv_step ops hI

theorem inv_init (period rate : Nat) (ubal : Nat → Nat → Nat) : Inv (init period rate ubal) :=
  ⟨fun _ => rfl, fun _ => rfl, rfl⟩

/-- what belongs to user `a` in denom `d`, or did before `a` sent it to the contract unasked:
    wallet + bonded + unbonding + stray coins sent by `a` -/
def userTotal (a d : Nat) (s : St) : Nat :=
  s.ubal a d + sumBondOf a d s.bonds + sumUnbOf a d s.unbonds + sumStrayOf a d s.strays

theorem userTotal_recv {s s1 : St} {a : Nat} {amt : Nat → Nat} (r : Recv s a amt s1) (a' d' : Nat) :
    userTotal a' d' s1 = userTotal a' d' s := by
  obtain ⟨l, hl, -, hl2⟩ := r.strays
  have h1 := r.ubal a' d'
  simp only [userTotal, r.bonds, r.unbonds, hl, sumStrayOf_append, hl2]
  omega

theorem userTotal_bond {cfg : Cfg} {s s' : St} {e : Env} {asset : AssetRef} {x : Nat} {funds : List (Nat × Nat)}
    (h : bond cfg s e asset x funds = .ok s') (a' d' : Nat) : userTotal a' d' s' = userTotal a' d' s := by
  obtain ⟨d, nb, ng, ⟨-, -, -, hx, -⟩, hn, -, -, rfl⟩ := bond_ok h
  have h3 := (bondSums (sumKey_bond hn)).2.2 a' d'
  have hw := ite_add_ite_eq (c := a' = e.sender ∧ d' = d) (v := s.ubal a' d')
    (fun hk => by rw [hk.1, hk.2]; exact Nat.sub_add_cancel hx)
  simp only [userTotal]
  omega

theorem userTotal_unbond {s s' : St} {e : Env} {asset : AssetRef} {x : Nat}
    (h : unbond s e asset x = .ok s') (a' d' : Nat) : userTotal a' d' s' = userTotal a' d' s := by
  obtain ⟨d, b, nb, nu, ng, -, hb, hn, hu, -, rfl⟩ := unbond_ok h
  have h3 := (bondSums (sumKey_unbond hb hn)).2.2 a' d'
  have h4 := (unbSums_add hu).2.1 a' d'
  simp only [userTotal]
  omega

theorem userTotal_withdraw {s s' : St} {e : Env} {d : Nat}
    (h : withdraw s e d = .ok s') (a' d' : Nat) : userTotal a' d' s' = userTotal a' d' s := by
  obtain ⟨-, -, -, -, -, rfl⟩ := withdraw_eq_ok.mp h
  have h1 : _ + (if a' = e.sender ∧ d' = d then refundOf s e d else 0) = _ :=
    sumUnbOf_withdraw e.sender d e.now s.period a' d' s.unbonds
  have hw := ite_eq_add_ite (c := a' = e.sender ∧ d' = d) (v := s.ubal a' d') (x := refundOf s e d)
    (fun hk => by rw [hk.1, hk.2])
  simp only [userTotal, withdrawn]
  omega

/-! ### well-formedness: whitelisted denoms only, no empty unbonding record -/

structure Wf (cfg : Cfg) (s : St) : Prop where
  bonds_wl : ∀ r ∈ s.bonds, cfg.whitelist.contains r.denom = true
  unbonds_wl : ∀ r ∈ s.unbonds, cfg.whitelist.contains r.denom = true
  assets_wl : ∀ p ∈ s.global.assets, cfg.whitelist.contains p.1 = true
  unbonds_pos : ∀ r ∈ s.unbonds, 0 < r.amount

theorem wf_recv {cfg : Cfg} {s s1 : St} {a : Nat} {amt : Nat → Nat} (hW : Wf cfg s) (r : Recv s a amt s1) :
    Wf cfg s1 := by
  refine ⟨?_, ?_, ?_, ?_⟩
  · rw [r.bonds]; exact hW.bonds_wl
  · rw [r.unbonds]; exact hW.unbonds_wl
  · rw [r.global]; exact hW.assets_wl
  · rw [r.unbonds]; exact hW.unbonds_pos

theorem wf_bond {cfg : Cfg} {s s' : St} {e : Env} {asset : AssetRef} {x : Nat} {funds : List (Nat × Nat)}
    (hW : Wf cfg s) (h : bond cfg s e asset x funds = .ok s') : Wf cfg s' := by
  obtain ⟨d, nb, ng, ⟨-, -, -, -, hwl, -⟩, ⟨-, nd, -⟩, ⟨-, ga⟩, -, rfl⟩ := bond_ok h
  refine ⟨fun r hr => ?_, hW.unbonds_wl, aggAsset_all (P := fun k => cfg.whitelist.contains k = true) hwl hW.assets_wl ga, hW.unbonds_pos⟩
  rcases mem_updBond hr with h | h
  · rw [h, nd]; exact hwl
  · exact hW.bonds_wl r h

theorem wf_unbond {cfg : Cfg} {s s' : St} {e : Env} {asset : AssetRef} {x : Nat}
    (hW : Wf cfg s) (h : unbond s e asset x = .ok s') : Wf cfg s' := by
  obtain ⟨d, b, nb, nu, ng, ⟨-, hx0, -⟩, hb, ⟨-, nd, -⟩, hu, ⟨-, ga⟩, rfl⟩ := unbond_ok h
  obtain ⟨-, bd, hmem⟩ := getBond_some hb
  have hwl : cfg.whitelist.contains d = true := bd ▸ hW.bonds_wl b hmem
  refine ⟨fun r hr => ?_, fun r hr => ?_, dedAsset_all (P := fun k => cfg.whitelist.contains k = true) hW.assets_wl ga, fun r hr => ?_⟩
  · simp only at hr
    split at hr
    · exact hW.bonds_wl r ((delBond_sublist _ _ _).subset hr)
    · rcases mem_updBond hr with h | h
      · rw [h, nd]; exact hwl
      · exact hW.bonds_wl r h
  · rcases mem_addUnb hu hr with h | h
    · rw [h.2.1]; exact hwl
    · exact hW.unbonds_wl r h
  · rcases mem_addUnb hu hr with h | h
    · exact Nat.lt_of_lt_of_le (Nat.pos_of_ne_zero hx0) h.2.2.2
    · exact hW.unbonds_pos r h

theorem wf_withdraw {cfg : Cfg} {s s' : St} {e : Env} {d : Nat}
    (hW : Wf cfg s) (h : withdraw s e d = .ok s') : Wf cfg s' := by
  obtain ⟨-, -, -, -, -, rfl⟩ := withdraw_eq_ok.mp h
  exact ⟨hW.bonds_wl, fun r hr => hW.unbonds_wl r (List.mem_filter.mp hr).1, hW.assets_wl,
    fun r hr => hW.unbonds_pos r (List.mem_filter.mp hr).1⟩

theorem wf_reach {cfg : Cfg} (ops : List (Env × Op)) {s : St} (hW : Wf cfg s) : Wf cfg (reach cfg s ops) :=
  reach_preserves
    (step_preserves wf_recv wf_bond wf_unbond wf_withdraw
      (fun hW => ⟨hW.bonds_wl, hW.unbonds_wl, hW.assets_wl, hW.unbonds_pos⟩))
    ops hW

theorem wf_init (cfg : Cfg) (period rate : Nat) (ubal : Nat → Nat → Nat) : Wf cfg (init period rate ubal) :=
  ⟨fun _ h => absurd h List.not_mem_nil, fun _ h => absurd h List.not_mem_nil,
    fun _ h => absurd h List.not_mem_nil, fun _ h => absurd h List.not_mem_nil⟩

/-- the refund is computed from the records and the period alone: coins that arrived with the message do
    not change it -/
theorem refundOf_recv {s s1 : St} {a : Nat} {amt : Nat → Nat} (r : Recv s a amt s1) (e : Env) (d : Nat) :
    refundOf s1 e d = refundOf s e d := by
  unfold refundOf; rw [r.unbonds, r.period]

theorem withdraw_step_unbonds {cfg : Cfg} {s s' : St} {e : Env} {d : Nat} {c : List (Nat × Nat)}
    (h : step cfg s e (.withdraw d c) = .ok s') :
    s'.unbonds = s.unbonds.filter fun r => !matured e.sender d e.now s.period s.unbonds r := by
  obtain ⟨s1, r, hk⟩ := withCoins_ok h
  obtain ⟨-, -, -, -, -, rfl⟩ := withdraw_eq_ok.mp hk
  simp only [withdrawn, r.unbonds, r.period]

theorem withdraw_key_cleared (a d now period : Nat) (l : List UnbRec) {r : UnbRec}
    (hm : matured a d now period l r = true) :
    recAmt r.addr r.denom r.ts (l.filter fun r => !matured a d now period l r) = 0 := by
  rw [recAmt_eq]
  refine (sumIf_const _ False _ fun r' hr' => decide_eq_false fun hk => ?_).trans (if_neg id)
  have := keyOnly_matured a d now period l r r' hk.1 hk.2.1 hk.2.2
  rw [hm] at this
  simp [← this] at hr'

/-- a matured record among those a withdrawal visits makes it go through, and is paid: the ledger invariant
    puts the refund inside the pending sum, which the balance covers -/
theorem withdraw_succeeds {s : St} {e : Env} {d : Nat} {r : UnbRec} (hI : Inv s) (hr : r ∈ s.unbonds)
    (hm : matured e.sender d e.now s.period s.unbonds r = true) (hpos : 0 < r.amount) (hp : s.period ≤ e.now)
    (hsupply : s.ubal e.sender d + s.bal d ≤ U128MAX) :
    withdraw s e d = .ok (withdrawn s e d) ∧ r.amount ≤ refundOf s e d := by
  have hge : r.amount ≤ refundOf s e d := sumAmt_ge_of_mem (List.mem_filter.mpr ⟨hr, hm⟩)
  have hsplit := sumUnb_withdraw e.sender d e.now s.period d s.unbonds
  rw [if_pos rfl] at hsplit
  have hbal := hI.bal_eq d
  have hle : refundOf s e d ≤ s.bal d := by unfold refundOf; omega
  have hmine : mine e.sender d r = true := by simp [mine, (matured_mine hm).1, (matured_mine hm).2.1]
  exact ⟨withdraw_eq_ok.mpr ⟨List.isEmpty_eq_false_iff_exists_mem.mpr ⟨r, List.mem_filter.mpr ⟨hr, hmine⟩⟩, hp,
    Nat.lt_of_lt_of_le hpos hge, hle, by omega, rfl⟩, hge⟩

def DiffKeyB (r r' : BondRec) : Prop := ¬ (r.addr = r'.addr ∧ r.denom = r'.denom)

def DiffKey (r r' : UnbRec) : Prop := ¬ (r.addr = r'.addr ∧ r.denom = r'.denom ∧ r.ts = r'.ts)

theorem updBond_pairwise {n : BondRec} {l : List BondRec} (h : l.Pairwise DiffKeyB) :
    (updBond n l).Pairwise DiffKeyB := by
  induction l with
  | nil => exact List.pairwise_singleton _ _
  | cons r t ih =>
    rw [List.pairwise_cons] at h
    rw [updBond]
    split
    next hk => exact List.pairwise_cons.mpr ⟨fun r' hr' hc => h.1 r' hr' ⟨hk.1.trans hc.1, hk.2.trans hc.2⟩, h.2⟩
    next hk =>
      refine List.pairwise_cons.mpr ⟨fun r' hr' hc => ?_, ih h.2⟩
      rcases mem_updBond hr' with rfl | hr'
      · exact hk hc
      · exact h.1 r' hr' hc

theorem sumBondOf_eq_bondedOf {a d : Nat} {l : List BondRec} (h : l.Pairwise DiffKeyB) :
    sumBondOf a d l = bondedOf a d l := by
  induction l with
  | nil => rfl
  | cons r t ih =>
    rw [List.pairwise_cons] at h
    by_cases hk : r.addr = a ∧ r.denom = d
    · have : sumBondOf a d t = 0 := by
        rw [sumBondOf_eq]
        exact sumKey_zero fun r' hr' => decide_eq_false fun hc => h.1 r' hr' ⟨hk.1.trans hc.1, hk.2.trans hc.2⟩
      simp [sumBondOf, bondedOf, getBond, hk, this]
    · have := ih h.2
      simp only [sumBondOf, bondedOf, getBond, hk, if_false] at this ⊢
      omega

theorem addUnb_pairwise {a d ts x : Nat} {l l' : List UnbRec} (hp : l.Pairwise DiffKey)
    (h : addUnb a d ts x l = .ok l') : l'.Pairwise DiffKey := by
  induction l generalizing l' with
  | nil => cases h; exact List.pairwise_singleton _ _
  | cons y t ih =>
    rw [List.pairwise_cons] at hp
    rw [addUnb_cons] at h
    split at h
    next =>
      obtain ⟨-, rfl⟩ := h
      exact List.pairwise_cons.mpr hp
    next hk =>
      obtain ⟨t', ht, rfl⟩ := h
      refine List.pairwise_cons.mpr ⟨fun r' hr' hc => ?_, ih hp.2 ht⟩
      rcases mem_addUnb ht hr' with h | h
      · exact hk ⟨hc.1.trans h.1, hc.2.1.trans h.2.1, hc.2.2.trans h.2.2.1⟩
      · exact hp.1 r' h hc

/-- one entry per storage key: no two bonds share `(addr, denom)`, no two pending records
    `(addr, denom, ts)` -/
structure Uniq (s : St) : Prop where
  bonds : s.bonds.Pairwise DiffKeyB
  unbonds : s.unbonds.Pairwise DiffKey

theorem uniq_step {cfg : Cfg} {s s' : St} {e : Env} {op : Op}
    (hU : Uniq s) (h : step cfg s e op = .ok s') : Uniq s' := by
  refine step_preserves (fun hU r => ⟨r.bonds ▸ hU.bonds, r.unbonds ▸ hU.unbonds⟩) (fun hU h => ?_)
    (fun hU h => ?_) (fun hU h => ?_) (fun hU => ⟨hU.bonds, hU.unbonds⟩) hU h
  · obtain ⟨_, _, _, -, -, -, -, rfl⟩ := bond_ok h
    exact ⟨updBond_pairwise hU.bonds, hU.unbonds⟩
  · obtain ⟨_, _, _, _, _, -, -, -, hu, -, rfl⟩ := unbond_ok h
    refine ⟨?_, addUnb_pairwise hU.unbonds hu⟩
    simp only
    split
    · exact hU.bonds.sublist (delBond_sublist _ _ _)
    · exact updBond_pairwise hU.bonds
  · obtain ⟨-, -, -, -, -, rfl⟩ := withdraw_eq_ok.mp h
    exact ⟨hU.bonds, hU.unbonds.filter _⟩

theorem uniq_reach {cfg : Cfg} (ops : List (Env × Op)) {s : St} (hU : Uniq s) : Uniq (reach cfg s ops) :=
  reach_preserves uniq_step ops hU

theorem uniq_init (period rate : Nat) (ubal : Nat → Nat → Nat) : Uniq (init period rate ubal) :=
  ⟨List.Pairwise.nil, List.Pairwise.nil⟩

end WW.Lair
