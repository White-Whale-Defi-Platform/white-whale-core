/- Global-weight snapshot lemmas (the F11 repair): the snapshot of an epoch is taken before the first
   weight change of that epoch, equals the live global weight at that moment, and never changes. -/
import WW.Proofs.Incentive
namespace WW.Inc
open WW WW.Gen

/-- how one operation may touch `GLOBAL_WEIGHT_SNAPSHOT`: not at all, or by recording the live global
    weight for the operation's epoch when that epoch had no snapshot yet -/
def SnapStep (s s' : St) (ep : Nat) : Prop :=
  s'.snap = s.snap ∨ (alook s.snap ep = none ∧ s'.snap = aset s.snap ep s.global)

theorem snapOf_ne_none (sn : List (Nat × Nat)) (g ep : Nat) : alook (snapOf sn g ep) ep ≠ none := by
  unfold snapOf
  split
  · rename_i x hx; rw [hx]; simp
  · rw [alook_aset_same]; simp

/-- every handler: snapshot untouched or taken for the current epoch from the live global weight;
    and if the weights changed, the current epoch has a snapshot afterwards -/
theorem handler_snap {c : Cfg} {s s' : St} {e : Env} {op : Op} {m : List Msg}
    (h : handler c s e op = .ok (s', m)) :
    SnapStep s s' e.epoch ∧ (wcore s' ≠ wcore s → alook s'.snap e.epoch ≠ none) := by
  have same : ∀ {t : St}, t.snap = s.snap → wcore t = wcore s →
      SnapStep s t e.epoch ∧ (wcore t ≠ wcore s → alook t.snap e.epoch ≠ none) :=
    fun h1 h2 => ⟨Or.inl h1, fun hne => absurd h2 hne⟩
  have lazy : ∀ {t : St}, t.snap = snapOf s.snap s.global e.epoch →
      SnapStep s t e.epoch ∧ (wcore t ≠ wcore s → alook t.snap e.epoch ≠ none) := by
    intro t h1
    refine ⟨?_, fun _ => h1 ▸ snapOf_ne_none _ _ _⟩
    unfold SnapStep
    rw [h1]
    unfold snapOf
    split
    · exact Or.inl rfl
    · rename_i hn; exact Or.inr ⟨hn, rfl⟩
  cases op with
  | openPos amt dur recv => obtain ⟨_, rfl, -⟩ := openPosition_ok rfl h; exact lazy rfl
  | expandPos amt dur recv => obtain ⟨_, _, _, _, rfl, -⟩ := expandPosition_ok rfl h; exact lazy rfl
  | closePos dur => obtain ⟨_, _, _, rfl, -⟩ := closePosition_ok h; exact lazy rfl
  | snapshot =>
    obtain ⟨rfl, -, hn⟩ := takeSnapshot_ok h
    exact ⟨Or.inr ⟨hn, rfl⟩, fun _ => by simp [alook_aset_same]⟩
  | withdraw => obtain ⟨rfl, -⟩ := withdrawOp_ok h; exact same rfl rfl
  | claim => obtain ⟨_, rfl, -⟩ := claimCore_ok (claimExec_ok h).2; exact same rfl rfl
  | openFlow a amt st en => obtain ⟨_, _, _, _, _, rfl, -⟩ := openFlow_ok h; exact same rfl rfl
  | expandFlow id a amt en => obtain ⟨_, _, _, rfl, -⟩ := expandFlow_ok h; exact same rfl rfl
  | closeFlow id => obtain ⟨_, rfl, -⟩ := closeFlow_ok h; exact same rfl rfl
  | helperDeposit a0 a1 dur => cases h
  | helperDepositAs x0 x1 a0 a1 dur => cases h

/-- **one transaction and the snapshots**: (a) a snapshot that exists is never changed; (b) a snapshot
    that appears in this transaction is for the transaction's epoch and equals the global weight *before*
    the transaction; (c) if the transaction changed any weight, its epoch has a snapshot afterwards. -/
theorem step_snap {c : Cfg} {s s' : St} {e : Env} {op : Op} (h : step c s e op = .ok s') :
    SnapStep s s' e.epoch ∧ (wcore s' ≠ wcore s → alook s'.snap e.epoch ≠ none) := by
  obtain ⟨e', _, b, s1, msgs, b1, hc, h1, -, rfl⟩ := step_ok h
  -- the state the handler starts from differs from `s` in the ledger only
  have := handler_snap h1
  rw [hc.epoch] at this
  exact this

theorem SnapStep.keeps {s s' : St} {ep E g : Nat} (h : SnapStep s s' ep) (hg : alook s.snap E = some g) :
    alook s'.snap E = some g := by
  rcases h with h | ⟨hn, h⟩
  · rw [h]; exact hg
  · rw [h]
    by_cases he : E = ep
    · subst he; rw [hn] at hg; cases hg
    · rw [alook_aset_other _ _ he]; exact hg

theorem SnapStep.new_value {s s' : St} {ep E g : Nat} (h : SnapStep s s' ep) (hn : alook s.snap E = none)
    (hg : alook s'.snap E = some g) : E = ep ∧ g = s.global := by
  rcases h with h | ⟨_, h⟩
  · rw [h, hn] at hg; cases hg
  · rw [h] at hg
    by_cases he : E = ep
    · subst he; rw [alook_aset_same] at hg; injection hg with hg; exact ⟨rfl, hg.symm⟩
    · rw [alook_aset_other _ _ he, hn] at hg; cases hg

end WW.Inc
