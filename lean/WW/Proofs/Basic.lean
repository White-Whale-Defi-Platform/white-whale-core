/- Floor-division facts and width bounds shared by the proof files that use Mathlib (`ring`, and order lemmas such as `le_trans`, `tsub_le_tsub`). -/
import WW.Proofs.Res
import Mathlib.Tactic.Ring
import Mathlib.Tactic.Linarith
import Mathlib.Tactic.Positivity
namespace WW

/-- sum of three floors is at most the floor of the sum -/
theorem three_floors_le (g s p b E : Nat) :
    g * s / E + g * p / E + g * b / E ≤ g * (s + p + b) / E := by
  rcases Nat.eq_zero_or_pos E with h | h
  · subst h; simp
  · rw [Nat.le_div_iff_mul_le h, Nat.add_mul, Nat.add_mul, Nat.mul_add, Nat.mul_add]
    exact Nat.add_le_add (Nat.add_le_add (Nat.div_mul_le_self ..) (Nat.div_mul_le_self ..))
      (Nat.div_mul_le_self ..)

/-- with a total share of at most one the three fees do not exceed the gross amount -/
theorem three_fees_le (g s p b E : Nat) (h : s + p + b ≤ E) :
    g * s / E + g * p / E + g * b / E ≤ g :=
  le_trans (three_floors_le g s p b E) (mul_div_le_of_le h)

/-- `⌊n/d⌋ ≤ m ↔ n < (m+1)·d` -/
theorem floor_le_iff {n d m : Nat} (hd : 0 < d) : n / d ≤ m ↔ n < (m + 1) * d := by
  rw [← Nat.lt_succ_iff, Nat.div_lt_iff_lt_mul hd]

theorem floor_le_of_le_mul {n d m : Nat} (h : n ≤ m * d) : n / d ≤ m :=
  Nat.div_le_of_le_mul (Nat.mul_comm m d ▸ h)

theorem lt_succ_div_mul (n : Nat) {d : Nat} (hd : 0 < d) : n < (n / d + 1) * d :=
  (Nat.div_lt_iff_lt_mul hd).mp (Nat.lt_succ_self _)

theorem ratio_le_one {n d : Nat} (h : n ≤ d) : n * E18 / d ≤ E18 :=
  Nat.div_le_of_le_mul (Nat.mul_le_mul_right E18 h)

/-- The code computes `a·D/b` in 18-decimal fixed point as `y = ⌊⌊a·E/b⌋·D/E⌋` (a `from_ratio`
    followed by a `Decimal` multiplication). The doubly floored `y` is never above the exact value … -/
theorem floor2_mul_le (a b D : Nat) {E : Nat} (hE : 0 < E) : a * E / b * D / E * b ≤ a * D :=
  Nat.le_of_mul_le_mul_right (c := E) (by
    calc a * E / b * D / E * b * E
        = a * E / b * D / E * E * b := Nat.mul_right_comm _ _ _
      _ ≤ a * E / b * D * b := Nat.mul_le_mul_right b (Nat.div_mul_le_self _ _)
      _ = a * E / b * b * D := Nat.mul_right_comm _ _ _
      _ ≤ a * E * D := Nat.mul_le_mul_right D (Nat.div_mul_le_self _ _)
      _ = a * D * E := Nat.mul_right_comm _ _ _) hE

/-- … and short of it by less than `1 + D/E`: `a·E·D < (y+1)·E·b + b·D` -/
theorem lt_floor2_succ_mul (a D : Nat) {b E : Nat} (hb : 0 < b) (hE : 0 < E) :
    a * E * D < (a * E / b * D / E + 1) * E * b + b * D :=
  calc a * E * D ≤ (a * E / b + 1) * b * D := Nat.mul_le_mul_right D (le_of_lt (lt_succ_div_mul _ hb))
    _ = a * E / b * D * b + b * D := by rw [Nat.add_mul, Nat.add_mul, Nat.one_mul, Nat.mul_right_comm]
    _ < (a * E / b * D / E + 1) * E * b + b * D :=
      Nat.add_lt_add_right (Nat.mul_lt_mul_of_pos_right (lt_succ_div_mul _ hE) hb) _

/-- a pro-rata payout `R·⌊amt·10¹⁸/S⌋/10¹⁸` of a share `amt ≤ S` is at most `R` -/
theorem pro_rata_le {R amt S : Nat} (hS : amt ≤ S) : R * (amt * E18 / S) / E18 ≤ R :=
  mul_div_le_of_le (ratio_le_one hS)

/-- paying `r + b` out of a balance `B` whose pending part `p` grows by `q`, all within the reserve
    `R = B − p`: the reserve falls by exactly `r + q + b` and the pending part stays covered -/
theorem res_after_pay {B p r q b R : Nat} (hR : R = B - p) (hp : p ≤ B) (ht : r + q + b ≤ R) :
    B - r - b - (p + q) = R - (r + q + b) ∧ p + q ≤ B - r - b ∧ B - r - b - (p + q) + r + q + b = R := by
  omega

/-- replacing entry `u` of a list exchanges that entry's summand -/
theorem sum_map_set {α : Type} (f : α → Nat) (l : List α) (u : Nat) (x d : α) (hu : u < l.length) :
    ((l.set u x).map f).sum + f (l.getD u d) = (l.map f).sum + f x := by
  induction l generalizing u with
  | nil => cases hu
  | cons a t ih =>
    cases u with
    | zero =>
      rw [List.set_cons_zero, List.getD_cons_zero, List.map_cons, List.map_cons, List.sum_cons,
        List.sum_cons]
      omega
    | succ n =>
      have := ih n (Nat.lt_of_succ_lt_succ hu)
      rw [List.set_cons_succ, List.getD_cons_succ, List.map_cons, List.map_cons, List.sum_cons,
        List.sum_cons]
      omega

/-! `Uint128` values inside `Uint256` / `Decimal256`. -/

theorem u128_le_u256 {a : Nat} (ha : a ≤ U128MAX) : a ≤ U256MAX := le_trans ha (by decide)

theorem u128_mul_le_u256 {a b : Nat} (ha : a ≤ U128MAX) (hb : b ≤ U128MAX) : a * b ≤ U256MAX :=
  le_trans (Nat.mul_le_mul ha hb) (by decide)

theorem u128_add_le_u256 {a b : Nat} (ha : a ≤ U128MAX) (hb : b ≤ U128MAX) : a + b ≤ U256MAX :=
  le_trans (Nat.add_le_add ha hb) (by decide)

theorem u128_mul_E18_le_u256 {n : Nat} (hn : n ≤ U128MAX) : n * E18 ≤ U256MAX :=
  le_trans (Nat.mul_le_mul_right E18 hn) (by decide)

/-- `Decimal256::from_ratio(n, d)` does not overflow while `n` is a sum of up to three `Uint128`s -/
theorem ratio_le_u256 {n : Nat} (d : Nat) (hn : n ≤ U128MAX + U128MAX + U128MAX) :
    n * E18 / d ≤ U256MAX :=
  le_trans (Nat.div_le_self _ _) (le_trans (Nat.mul_le_mul_right E18 hn) (by decide))

theorem u128_ratio_le_u256 {n : Nat} (d : Nat) (hn : n ≤ U128MAX) : n * E18 / d ≤ U256MAX :=
  ratio_le_u256 d (le_trans hn (by decide))

theorem U128MAX_lt : U128MAX < 2 ^ 128 := by decide
theorem two128_sq : (2:Nat) ^ 128 * 2 ^ 128 = 2 ^ 256 := by decide
theorem U256MAX_eq : U256MAX = 2 ^ 256 - 1 := rfl

end WW
