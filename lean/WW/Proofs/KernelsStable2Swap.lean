/-
  For `WW/Props/Kernels/Stable2Swap.lean` (the pair's Decimal256 stableswap swap path): constants of the generated
  definitions in the model's spelling and the termination test of the y loop.  Core Lean only.
-/
import WW.Proofs.Kernels
namespace WW

/-- `Decimal256::from_ratio(N_COINS, 1)` never panics: it is the model's constant `SS_N_DEC` -/
theorem dec256FromRatio_2_1 : dec256FromRatio 2 1 = Res.ok SS_N_DEC := by
  unfold dec256FromRatio mulRatioP
  rw [if_neg (by decide : ¬ (1 = 0)), if_pos (by decide : 2 * E18 / 1 ≤ U256MAX)]
  rfl

/-- the body of `to_uint256_with_precision`: `18 - precision` (u32, overflow checks), `10u128.pow(..)`,
    `checked_div` — against the model's closed form -/
theorem toUintPrecision_steps (v p : Nat) :
    (psub 18 p >>= fun t1 => ppow U128MAX 10 t1 >>= fun t2 => cdiv v t2 >>= fun t3 => Res.ok t3)
      = dec256ToUintPrecision v p := by
  have hle : 10 ^ (18 - p) ≤ U128MAX :=
    Nat.le_trans (Nat.pow_le_pow_right (by decide) (Nat.sub_le 18 p)) (by decide : 10 ^ 18 ≤ U128MAX)
  have hne : ¬ 10 ^ (18 - p) = 0 := Nat.ne_of_gt (Nat.pow_pos (by decide))
  unfold dec256ToUintPrecision ppow cdiv
  rw [psub_bind, if_pos hle, Res.bind_ok_s, if_neg hne, Res.bind_ok_s]

/-- the termination test of the y loop of `calculate_stableswap_y`
    (`if y >= prev { if y - prev <= 1 { return } } else if y < prev && prev - y <= 1 { return }`)
    against the spelling of `WW.ssYLoop` -/
theorem ssY_tail {α : Type} (y p : Nat) (done next : Res α) :
    (if y ≥ p then (csub y p >>= fun t => if t ≤ 1 then done else next)
     else ((if y < p then (csub p y >>= fun t => pure (decide (t ≤ 1))) else pure false)
            >>= fun b => if b = true then done else next))
      = (if p ≤ y then (csub y p >>= fun t => if t ≤ 1 then done else next)
         else (csub p y >>= fun t => if t ≤ 1 then done else next)) := by
  by_cases h : y ≥ p
  · rw [if_pos h, if_pos h]
  · rw [if_neg h, if_neg h, and_shortcircuit, if_pos (Nat.lt_of_not_le h)]
    simp only [decide_eq_true_eq]

end WW
